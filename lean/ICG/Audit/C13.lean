import ICG.Props.C13
import ICG.Lemmas.ExpectedGreedy
-- generated by harness/leanside.py; do not edit
#print axioms ICG.C13.GapDefined.of_total
#print axioms ICG.C13.stepReward_of_ok
#print axioms ICG.C13.inv_envEq
#print axioms ICG.C13.Hyps.definedOn
#print axioms ICG.C13.stepReward_congr
#print axioms ICG.C13.nextActionValue_spec
#print axioms ICG.C13.actionValues_spec
#print axioms ICG.C13.firstWith_cons
#print axioms ICG.C13.validActions_sorted
#print axioms ICG.C13.firstWith_lowest
#print axioms ICG.C13.value_mem
#print axioms ICG.C13.extremum_spec
#print axioms ICG.C13.greedy_spec
#print axioms ICG.C13.greedy_no_valid
#print axioms ICG.C13.largest_spec
#print axioms ICG.C13.largest_valid
#print axioms ICG.C13.largest_no_valid
#print axioms ICG.C13.random_spec
#print axioms ICG.C13.random_no_valid
#print axioms ICG.C13.toyGap_rowsOnly
#print axioms ICG.C13.toy_hyps
#print axioms ICG.C13.real_hyps_defined
#print axioms ICG.C13.real_hyps
#print axioms ICG.ExpectedGreedy.argminGo_spec
#print axioms ICG.ExpectedGreedy.argmin_spec
#print axioms ICG.ExpectedGreedy.greedyIter_ok
#print axioms ICG.ExpectedGreedy.map_append_singleton_ne
#print axioms ICG.ExpectedGreedy.GInv.first_pass
#print axioms ICG.ExpectedGreedy.GInv.regular_pass
#print axioms ICG.ExpectedGreedy.greedyIter_inv
#print axioms ICG.ExpectedGreedy.greedyLoop_inv
#print axioms ICG.ExpectedGreedy.GInv.init
#print axioms ICG.ExpectedGreedy.greedy_spec
#print axioms ICG.ExpectedGreedy.greedy_mono
#print axioms ICG.ExpectedGreedy.greedy_ge_best

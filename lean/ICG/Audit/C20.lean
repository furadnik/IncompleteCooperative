import ICG.Props.C20
-- generated by harness/leanside.py; do not edit
#print axioms ICG.C20.run_nil
#print axioms ICG.C20.run_cons
#print axioms ICG.C20.run_append
#print axioms ICG.C20.not_touches_of_not_mentions
#print axioms ICG.C20.Fs.set_ne
#print axioms ICG.C20.apply_untouched
#print axioms ICG.C20.run_untouched
#print axioms ICG.C20.crashAfter_zero
#print axioms ICG.C20.crashAfter_all
#print axioms ICG.C20.run_rename_tail
#print axioms ICG.C20.run_rename_tail_missing
#print axioms ICG.C20.take_split
#print axioms ICG.C20.crashAfter_pre
#print axioms ICG.C20.atomic_switch
#print axioms ICG.C20.rename_atomic
#print axioms ICG.C20.atomic
#print axioms ICG.C20.apply_unmentioned
#print axioms ICG.C20.run_unmentioned
#print axioms ICG.C20.writtenTo_eq
#print axioms ICG.C20.writtenAcc_cons
#print axioms ICG.C20.writtenAcc_append
#print axioms ICG.C20.writtenAcc_singleton_unmentioned
#print axioms ICG.C20.writtenAcc_unmentioned
#print axioms ICG.C20.apply_writing
#print axioms ICG.C20.run_writing
#print axioms ICG.C20.ready_content
#print axioms ICG.C20.atomic_new_complete
#print axioms ICG.C20.of_ite_false_eq_true
#print axioms ICG.C20.writtenClosedB_sound
#print axioms ICG.C20.readyB_sound
#print axioms ICG.C20.mem_takeWhile_imp
#print axioms ICG.C20.atomicB_sound
#print axioms ICG.C20.atomicB_atomic
#print axioms ICG.C20.truncate_not_atomic
#print axioms ICG.C20.truncate_then_write_new_nonempty

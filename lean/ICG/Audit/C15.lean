import ICG.Props.C15
import ICG.Props.FloatErrorNormalize
-- generated by harness/leanside.py; do not edit
#print axioms ICG.C15.fullOn_fullTable
#print axioms ICG.C15.FullOn.getValue
#print axioms ICG.C15.FullOn.setValue
#print axioms ICG.C15.FullOn.putValue
#print axioms ICG.C15.FullOn.getValues
#print axioms ICG.C15.foldlM_rows
#print axioms ICG.C15.closedW_eq
#print axioms ICG.C15.bsum_eq_sub_closedW
#print axioms ICG.C15.mem_containing
#print axioms ICG.C15.subSingleton_spec
#print axioms ICG.C15.subAll_spec
#print axioms ICG.C15.subtraction_phase
#print axioms ICG.C15.normInfo_closed
#print axioms ICG.C15.closedW_singleton
#print axioms ICG.C15.closedW_empty
#print axioms ICG.C15.setValues_zeros
#print axioms ICG.C15.divColumns_spec
#print axioms ICG.C15.not_additive_of_lt
#print axioms ICG.C15.closedAdditive_iff_Additive
#print axioms ICG.C15.normVal_of_additive
#print axioms ICG.C15.normVal_of_scale
#print axioms ICG.C15.normVal_of_zero
#print axioms ICG.C15.normVal_above
#print axioms ICG.C15.normVal_eq_zero
#print axioms ICG.C15.normalizeIcg_closed
#print axioms ICG.C15.normalizeIcg_cases
#print axioms ICG.C15.closedW_SA
#print axioms ICG.C15.nonneg_of_SA
#print axioms ICG.C15.mono_of_SA
#print axioms ICG.C15.closedW_nonneg
#print axioms ICG.C15.closedW_le_grand
#print axioms ICG.C15.closedW_window
#print axioms ICG.C15.closedW_zero_of_grand_zero
#print axioms ICG.C15.additive_of_grand_zero
#print axioms ICG.C15.additive_iff_le
#print axioms ICG.C15.additive_of_surplus_zero
#print axioms ICG.C15.additive_zero_iff
#print axioms ICG.C15.outside_window_zero
#print axioms ICG.C15.normVal_zero_of
#print axioms ICG.C15.normVal_exact
#print axioms ICG.C15.normVal_singleton
#print axioms ICG.C15.normVal_empty
#print axioms ICG.C15.normVal_cases
#print axioms ICG.C15.normVal_unit
#print axioms ICG.C15.normVal_SA
#print axioms ICG.C15.normVal_roundtrip
#print axioms ICG.C15.normalize_property
#print axioms ICG.C15.normalize_property_tol
#print axioms ICG.C15.normalize_property_exact
#print axioms ICG.C15.window_behaviour
#print axioms ICG.C15.bsum_graph_singletons
#print axioms ICG.C15.closedW_graphValue
#print axioms ICG.C15.graphValue_scale
#print axioms ICG.C15.graphValue_normalizeGraph_eq
#print axioms ICG.C15.graph_singletons
#print axioms ICG.C15.normInfoGraph_eq
#print axioms ICG.C15.normInfo_graph_table
#print axioms ICG.C15.additive_graph_iff
#print axioms ICG.C15.graph_zero_of_grand_zero
#print axioms ICG.C15.normVal_graph
#print axioms ICG.C15.graphValue_normalizeGraph
#print axioms ICG.C15.graphValue_normalizeGraph_of_ne
#print axioms ICG.C15.graph_and_table_agree
#print axioms ICG.C15.graph_denormalize_normalize
#print axioms ICG.C15.inner_fold
#print axioms ICG.C15.denormalize_spec
#print axioms ICG.C15.denormalize_normalize_closed
#print axioms ICG.C15.denormalize_additive
#print axioms ICG.C15.denormalize_normalize
#print axioms ICG.C15.denormalize_normalize_exact
#print axioms ICG.C15.denormalize_window
#print axioms ICG.C15.denormalize_normalize_bound
#print axioms ICG.C15.SA_two
#print axioms ICG.C15.exV_SA
#print axioms ICG.C15.exAdd_SA
#print axioms ICG.C15.exWin_SA
#print axioms ICG.C15.sum_range_two
#print axioms ICG.C15.exV_surplus
#print axioms ICG.C15.exAdd_surplus
#print axioms ICG.C15.exWin_surplus
#print axioms ICG.C15.exV_out
#print axioms ICG.C15.exAdd_out
#print axioms ICG.C15.exWin_in
#print axioms ICG.C15.defaultRtol_nonneg
#print axioms ICG.ApproxNormalize.mag_nonneg
#print axioms ICG.ApproxNormalize.errW_nonneg
#print axioms ICG.ApproxNormalize.abs_closedW_le_mag
#print axioms ICG.ApproxNormalize.magBound_nonneg
#print axioms ICG.ApproxNormalize.errW_zero
#print axioms ICG.ApproxNormalize.sum_players_grand
#print axioms ICG.ApproxNormalize.wApprox_error
#print axioms ICG.ApproxNormalize.relAdd_exact
#print axioms ICG.ApproxNormalize.relSub_exact
#print axioms ICG.ApproxNormalize.relMul_exact
#print axioms ICG.ApproxNormalize.relDiv_exact
#print axioms ICG.ApproxNormalize.wApprox_exact
#print axioms ICG.ApproxNormalize.denormApprox_exact
#print axioms ICG.ApproxNormalize.approx_exact
#print axioms ICG.ApproxNormalize.wApprox_singleton
#print axioms ICG.ApproxNormalize.wApprox_singleton_zero
#print axioms ICG.ApproxNormalize.wApprox_empty
#print axioms ICG.ApproxNormalize.normApprox_singleton
#print axioms ICG.ApproxNormalize.normApprox_singleton_zero
#print axioms ICG.ApproxNormalize.normApprox_empty_zero
#print axioms ICG.ApproxNormalize.normApprox_grand
#print axioms ICG.ApproxNormalize.normApproxB_scale
#print axioms ICG.ApproxNormalize.normApproxB_additive
#print axioms ICG.ApproxNormalize.scaling_side_of_margin
#print axioms ICG.ApproxNormalize.additive_side_of_margin
#print axioms ICG.ApproxNormalize.normApprox_error
#print axioms ICG.ApproxNormalize.slack_ratio
#print axioms ICG.ApproxNormalize.errW_le_uniform
#print axioms ICG.ApproxNormalize.quotient_unit
#print axioms ICG.ApproxNormalize.normErr_le_SA
#print axioms ICG.ApproxNormalize.normApprox_unit
#print axioms ICG.ApproxNormalize.normalize_property_rounded
#print axioms ICG.ApproxNormalize.surplusApprox_error
#print axioms ICG.ApproxNormalize.surplusApprox_exact
#print axioms ICG.ApproxNormalize.roundtrip_error
#print axioms ICG.ApproxNormalize.rtBound_le_SA
#print axioms ICG.ApproxNormalize.roundtrip_error_SA
#print axioms ICG.ApproxNormalize.roundtrip_error_code
#print axioms ICG.ApproxNormalize.roundtrip_error_linear
#print axioms ICG.ApproxNormalize.normErr_zero
#print axioms ICG.ApproxNormalize.slack_zero
#print axioms ICG.ApproxNormalize.rtBound_zero
#print axioms ICG.ApproxNormalize.roundtrip_exact
#print axioms ICG.ApproxNormalize.Ex.u3_nonneg
#print axioms ICG.ApproxNormalize.Ex.subR_rel
#print axioms ICG.ApproxNormalize.Ex.mulR_rel
#print axioms ICG.ApproxNormalize.Ex.divR_rel
#print axioms ICG.ApproxNormalize.Ex.addR_rel
#print axioms ICG.ApproxNormalize.Ex.v3_SA
#print axioms ICG.ApproxNormalize.Ex.v3_empty
#print axioms ICG.ApproxNormalize.Ex.v3_closedW
#print axioms ICG.ApproxNormalize.Ex.v3_surplus_pos
#print axioms ICG.ApproxNormalize.Ex.v3_mag
#print axioms ICG.ApproxNormalize.Ex.v3_eta
#print axioms ICG.ApproxNormalize.Ex.v3_out
#print axioms ICG.ApproxNormalize.Ex.v3_margin

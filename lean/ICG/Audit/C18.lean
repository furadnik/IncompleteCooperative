import ICG.Props.C18
import ICG.Props.C18pred
-- generated by harness/leanside.py; do not edit
#print axioms ICG.C18.mem_toFinset
#print axioms ICG.C18.testBit_false_of_ge
#print axioms ICG.C18.mem_toFinset_of_lt
#print axioms ICG.C18.toFinset_injective
#print axioms ICG.C18.inter_toFinset
#print axioms ICG.C18.union_testBit
#print axioms ICG.C18.union_toFinset
#print axioms ICG.C18.diff_toFinset
#print axioms ICG.C18.diff_lt
#print axioms ICG.C18.grand_testBit
#print axioms ICG.C18.grand_toFinset
#print axioms ICG.C18.inverted_testBit
#print axioms ICG.C18.inverted_lt
#print axioms ICG.C18.inverted_toFinset
#print axioms ICG.C18.inverted_inverted
#print axioms ICG.C18.contains_iff
#print axioms ICG.C18.contains_iff_subset
#print axioms ICG.C18.hasPlayer_eq
#print axioms ICG.C18.addPlayer_testBit
#print axioms ICG.C18.removePlayer_testBit
#print axioms ICG.C18.disjoint_iff
#print axioms ICG.C18.disjoint_iff_toFinset
#print axioms ICG.C18.mem_players
#print axioms ICG.C18.players_sorted
#print axioms ICG.C18.players_nodup
#print axioms ICG.C18.players_toFinset
#print axioms ICG.C18.players_eq_filter
#print axioms ICG.C18.size_eq_length_players
#print axioms ICG.C18.size_eq_card
#print axioms ICG.C18.size_le
#print axioms ICG.C18.size_union_of_disjoint
#print axioms ICG.C18.size_lt_of_proper_sub
#print axioms ICG.C18.fromPlayers_testBit
#print axioms ICG.C18.fromPlayers_toFinset
#print axioms ICG.C18.fromPlayers_players
#print axioms ICG.C18.players_fromPlayers
#print axioms ICG.C18.minimalCoalitions_eq
#print axioms ICG.C18.singleton_testBit
#print axioms ICG.C18.excludeCoalition_eq
#print axioms ICG.C18.mem_excludeCoalition
#print axioms ICG.C18.playersId_eq_players
#print axioms ICG.C18.sizeId_eq_size
#print axioms ICG.C18.mem_playersId
#print axioms ICG.C18.mem_subCoalitionsObj
#print axioms ICG.C18.mem_subCoalitionsObj_iff_and
#print axioms ICG.C18.subCoalitionsObj_nodup
#print axioms ICG.C18.length_subCoalitionsObj
#print axioms ICG.C18.mem_saSubs
#print axioms ICG.C18.subCoalitionsId_spec
#print axioms ICG.C18.subCoalitionsId_error
#print axioms ICG.C18.sub_enumerations_agree
#print axioms ICG.C18.mem_superCoalitionsObj
#print axioms ICG.C18.superCoalitionsObj_nodup
#print axioms ICG.C18.superCoalitionsId_spec
#print axioms ICG.C18.superCoalitionsId_error
#print axioms ICG.C18.super_enumerations_agree
#print axioms ICG.C18.coalStructure_eq
#print axioms ICG.C18.allSorted_perm
#print axioms ICG.C18.allSorted_sorted
#print axioms ICG.C18.allSorted_size_mono
#print axioms ICG.C18pred.mem_players_grand
#print axioms ICG.C18pred.allRows_loop
#print axioms ICG.C18pred.isClose_iff
#print axioms ICG.C18pred.saRowOk_iff
#print axioms ICG.C18pred.rows_iff_SAtol
#print axioms ICG.C18pred.isSuperadditive_iff
#print axioms ICG.C18pred.SAtol_zero_iff
#print axioms ICG.C18pred.isSuperadditive_zero_iff
#print axioms ICG.C18pred.SA_imp_SAtol
#print axioms ICG.C18pred.monoRowOk_iff
#print axioms ICG.C18pred.isMonotoneDecreasing_iff
#print axioms ICG.C18pred.isSam_iff
#print axioms ICG.C18pred.supermodInner_none_iff
#print axioms ICG.C18pred.supermodInner_some
#print axioms ICG.C18pred.checkSupermodularity_none_iff
#print axioms ICG.C18pred.checkSupermodularity_some
#print axioms ICG.C18pred.supermod_iff_not_violates
#print axioms ICG.C18pred.checkSupermodularity_isSome_iff
#print axioms ICG.C18pred.verdict_congr
#print axioms ICG.C18pred.SAtol_congr
#print axioms ICG.C18pred.isSuperadditive_congr
#print axioms ICG.C18pred.MonoDec_congr
#print axioms ICG.C18pred.isMonotoneDecreasing_congr
#print axioms ICG.C18pred.Supermod_congr

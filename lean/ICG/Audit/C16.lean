import ICG.Props.C16
-- generated by harness/leanside.py; do not edit
#print axioms ICG.C16.zip_filter_map
#print axioms ICG.C16.bincount_map
#print axioms ICG.C16.foldl_add_ne_zero
#print axioms ICG.C16.listSum_ne_zero
#print axioms ICG.C16.maxSize_exists
#print axioms ICG.C16.linState_spec
#print axioms ICG.C16.linState_eq_bincount
#print axioms ICG.C16.linState_length
#print axioms ICG.C16.linMask_spec
#print axioms ICG.C16.linMask_inv
#print axioms ICG.C16.mem_linCandidates
#print axioms ICG.C16.linCandidates_ne_nil
#print axioms ICG.C16.linStep_eq
#print axioms ICG.C16.linStep_spec
#print axioms ICG.C16.linStep_not_allowed
#print axioms ICG.C16.linStep_out_of_range
#print axioms ICG.C16.linStep_illegal
#print axioms ICG.C16.linReset_spec
#print axioms ICG.C16.linState_length_eq_n
#print axioms ICG.C16.size_of_mem_minimal
#print axioms ICG.C16.minimal_has_pred_size

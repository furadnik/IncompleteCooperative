import ICG.Props.C10
-- generated by harness/leanside.py; do not edit
#print axioms ICG.C10.deterministic
#print axioms ICG.C10.factory_SA
#print axioms ICG.C10.factory_empty
#print axioms ICG.C10.factory_nonneg
#print axioms ICG.C10.fnId_admissible
#print axioms ICG.C10.fnOne_admissible
#print axioms ICG.C10.fnSq_admissible
#print axioms ICG.C10.monotone_admissible
#print axioms ICG.C10.factory_registry
#print axioms ICG.C10.predictibleOwner_lt
#print axioms ICG.C10.one_le_size_of_testBit
#print axioms ICG.C10.cheerleader_SA
#print axioms ICG.C10.cheerleader_empty
#print axioms ICG.C10.cheerleader_nonneg
#print axioms ICG.C10.cheerleader_self_negative
#print axioms ICG.C10.cheerPick_ne
#print axioms ICG.C10.cheerleader_key_raises
#print axioms ICG.C10.cheerleader_call_int
#print axioms ICG.C10.cheerleader_next
#print axioms ICG.C10.kBudget_SAM0
#print axioms ICG.C10.graphGame_eq
#print axioms ICG.C10.graphGame_SA
#print axioms ICG.C10.graphGame_empty
#print axioms ICG.C10.cycle_SA
#print axioms ICG.C10.cycle_empty
#print axioms ICG.C10.SA_mul
#print axioms ICG.C10.MonoDec_mul
#print axioms ICG.C10.SAM0_div
#print axioms ICG.C10.Cost_div
#print axioms ICG.C10.divByGrand_Cost
#print axioms ICG.C10.divByGrand_ok
#print axioms ICG.C10.additive_SA
#print axioms ICG.C10.additive_Cost
#print axioms ICG.C10.pointwiseMax_spec
#print axioms ICG.C10.pointwiseMax_Cost
#print axioms ICG.C10.additive_grand_pos
#print axioms ICG.C10.xsCost
#print axioms ICG.C10.xs_SAM0
#print axioms ICG.C10.xsUnitDemand_SAM0
#print axioms ICG.C10.xos_cost
#print axioms ICG.C10.xos_SAM0
#print axioms ICG.C10.xos_grand
#print axioms ICG.C10.xos_returns
#print axioms ICG.C10.xos_zero_weights
#print axioms ICG.C10.applyOr_spec
#print axioms ICG.C10.applyOr_SA
#print axioms ICG.C10.applyOr_MonoDec
#print axioms ICG.C10.applyOr_empty
#print axioms ICG.C10.applyOr_SAM0
#print axioms ICG.C10.applyOr_le_left
#print axioms ICG.C10.oxsFoldFn_concat
#print axioms ICG.C10.applyOr_foldl
#print axioms ICG.C10.oxsFoldFn_SAM0
#print axioms ICG.C10.oxs_SAM0
#print axioms ICG.C10.oxsOfSingles_SAM0
#print axioms ICG.C10.oxsOfSingles_returns
#print axioms ICG.C10.coverageOf_SAM0
#print axioms ICG.C10.coverage_SAM0
#print axioms ICG.C10.coverage_returns

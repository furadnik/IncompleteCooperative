import ICG.Props.C19
import ICG.Props.C19Codec
import ICG.Lemmas.CodecArr
import ICG.Lemmas.CodecMeta
-- generated by harness/leanside.py; do not edit
#print axioms ICG.C19.lookup_append
#print axioms ICG.C19.has_iff_mem_names
#print axioms ICG.C19.lookup_isSome_iff_mem_names
#print axioms ICG.C19.save_existing
#print axioms ICG.C19.save_existing_of_mem
#print axioms ICG.C19.lookup_save
#print axioms ICG.C19.lookup_save_new
#print axioms ICG.C19.lookup_save_stable
#print axioms ICG.C19.lookup_save_other
#print axioms ICG.C19.save_prefix
#print axioms ICG.C19.names_save
#print axioms ICG.C19.names_nodup_save
#print axioms ICG.C19.saveAll_nil
#print axioms ICG.C19.saveAll_cons
#print axioms ICG.C19.saveAll_append
#print axioms ICG.C19.lookup_saveAll_stable
#print axioms ICG.C19.lookup_saveAll
#print axioms ICG.C19.lookup_saveAll_empty
#print axioms ICG.C19.earlier_entries_unchanged
#print axioms ICG.C19.saveAll_prefix
#print axioms ICG.C19.saveAll_history_prefix
#print axioms ICG.C19.mem_saveAll
#print axioms ICG.C19.names_nodup_saveAll
#print axioms ICG.C19.mem_names_save
#print axioms ICG.C19.mem_names_saveAll
#print axioms ICG.C19.saveAll_existing
#print axioms ICG.C19.lookup_map
#print axioms ICG.C19.has_encodeStore
#print axioms ICG.C19.encodeStore_save
#print axioms ICG.C19.decode_encodeStore_norm
#print axioms ICG.C19.file_roundtrip_norm
#print axioms ICG.C19.file_roundtrip
#print axioms ICG.C19.read_back_first_saved
#print axioms ICG.C19Codec.Nd.cells_hasType
#print axioms ICG.C19Codec.tolist_discover
#print axioms ICG.C19Codec.nd_float_roundtrip_general
#print axioms ICG.C19Codec.nd_infer_roundtrip_general
#print axioms ICG.C19Codec.nd_float_roundtrip
#print axioms ICG.C19Codec.nd_infer_roundtrip
#print axioms ICG.C19Codec.shape_preserved_iff
#print axioms ICG.C19Codec.good_exData
#print axioms ICG.C19Codec.good_exActions
#print axioms ICG.C19Codec.good_matrix
#print axioms ICG.C19Codec.matrix_roundtrip
#print axioms ICG.C19Codec.matrix_roundtrip_actions
#print axioms ICG.C19Codec.zero_rows_shape_lost
#print axioms ICG.C19Codec.zero_cols_int_dtype_lost
#print axioms ICG.C19Codec.stringify_eq_norm
#print axioms ICG.C19Codec.stringify_idem
#print axioms ICG.C19Codec.stringify_json_native
#print axioms ICG.C19Codec.func_not_mem_meta
#print axioms ICG.C19Codec.meta_facts
#print axioms ICG.C19Codec.entryTree_of_parts
#print axioms ICG.C19Codec.entry_roundtrip
#print axioms ICG.C19Codec.metadata_roundtrip
#print axioms ICG.C19Codec.saveLoad_fixed_point
#print axioms ICG.C19Codec.saveLoad_ok
#print axioms ICG.C19Codec.entryTree_ok
#print axioms ICG.C19Codec.entryTree_exOutput
#print axioms ICG.C19Codec.saveLoad_exOutput
#print axioms ICG.C19Codec.exSaveable
#print axioms ICG.C19Codec.saveLoad_exLoaded
#print axioms ICG.C19Codec.okVal_spec
#print axioms ICG.C19Codec.saveLoad_eq_decode
#print axioms ICG.C19Codec.normS_spec
#print axioms ICG.C19Codec.codec_roundtrip
#print axioms ICG.C19Codec.normS_data
#print axioms ICG.C19Codec.normS_actions
#print axioms ICG.C19Codec.normS_idem
#print axioms ICG.C19Codec.lookup_mapStore
#print axioms ICG.C19Codec.names_mapStore
#print axioms ICG.C19Codec.file_roundtrip_concrete
#print axioms ICG.C19Codec.file_roundtrip_fresh
#print axioms ICG.C19Codec.read_back_first_saved_concrete
#print axioms ICG.C19Codec.earlier_entries_unchanged_concrete
#print axioms ICG.C19Codec.save_existing_concrete
#print axioms ICG.C19Codec.save_new_concrete
#print axioms ICG.C19Codec.file_roundtrip_loaded
#print axioms ICG.C19Codec.exLoadedSaveable
#print axioms ICG.C19Codec.fromJson_of_decode
#print axioms ICG.C19Codec.getOutputs_of_decodeStore
#print axioms ICG.Codec.cut_length_le
#print axioms ICG.Codec.cut_eq_self_iff
#print axioms ICG.Codec.loadedList_iff
#print axioms ICG.Codec.allShape_of_forall
#print axioms ICG.Codec.toTree_chunks
#print axioms ICG.Codec.toTree_spec
#print axioms ICG.Codec.mapE_map_ok
#print axioms ICG.Codec.mapE_scalar
#print axioms ICG.Codec.discover_tolist
#print axioms ICG.Codec.castTo_of_hasType
#print axioms ICG.Codec.castTo_self
#print axioms ICG.Codec.kindOf_of_hasType
#print axioms ICG.Codec.inferFrom_same
#print axioms ICG.Codec.inferDType_same
#print axioms ICG.Codec.rank_join
#print axioms ICG.Codec.inferFrom_ge
#print axioms ICG.Codec.inferDType_ge
#print axioms ICG.Codec.castF_modelled
#print axioms ICG.Codec.castTo_inferred_modelled
#print axioms ICG.Codec.keys_setKey_of_mem
#print axioms ICG.Codec.setKey_of_not_mem
#print axioms ICG.Codec.keys_setKey_nodup
#print axioms ICG.Codec.mem_setKey
#print axioms ICG.Codec.lookupKey_setKey
#print axioms ICG.Codec.lookupKey_setKey_same
#print axioms ICG.Codec.lookupKey_setKey_other
#print axioms ICG.Codec.eraseKey_eq_filter
#print axioms ICG.Codec.lookupKey_eraseKey
#print axioms ICG.Codec.lookupKey_eraseKey_same
#print axioms ICG.Codec.lookupKey_eraseKey_other
#print axioms ICG.Codec.lookupKey_isSome_iff
#print axioms ICG.Codec.keys_eraseKey_not_mem
#print axioms ICG.Codec.keys_eraseKey_nodup
#print axioms ICG.Codec.mem_keys_setKey
#print axioms ICG.Codec.not_mem_keys_setKey_eraseKey
#print axioms ICG.Codec.setKey_of_lookupKey
#print axioms ICG.Codec.eraseKey_of_not_mem
#print axioms ICG.Codec.eraseKey_append_singleton
#print axioms ICG.Codec.lookupKey_eq_none
#print axioms ICG.Codec.lookupKey_append
#print axioms ICG.Codec.lookupKey_append_singleton
#print axioms ICG.Codec.lookupKey_append_of_some
#print axioms ICG.Codec.keys_mapVal
#print axioms ICG.Codec.lookupKey_mapVal
#print axioms ICG.Codec.setKey_mapVal
#print axioms ICG.Codec.dedupFrom_mapVal
#print axioms ICG.Codec.keys_dedupFrom_nodup
#print axioms ICG.Codec.keys_dedup_nodup
#print axioms ICG.Codec.dedupFrom_of_nodup
#print axioms ICG.Codec.dedup_of_nodup
#print axioms ICG.Codec.dedup_idem
#print axioms ICG.Codec.mem_dedupFrom
#print axioms ICG.Codec.mem_dedup
#print axioms ICG.Codec.loadedItems_iff
#print axioms ICG.Codec.reloadItems_eq_mapVal
#print axioms ICG.Codec.keys_reloadItems
#print axioms ICG.Codec.lookupKey_reloadItems
#print axioms ICG.Codec.reload_of_loaded
#print axioms ICG.Codec.reloadList_of_loaded
#print axioms ICG.Codec.reloadItems_of_loaded
#print axioms ICG.Codec.loaded_reload
#print axioms ICG.Codec.loadedList_reload
#print axioms ICG.Codec.loadedItems_reload
#print axioms ICG.Codec.reload_idem
#print axioms ICG.Codec.reloadItems_idem
#print axioms ICG.Codec.toJson_toPy
#print axioms ICG.Codec.toJsonList_toPyList
#print axioms ICG.Codec.toJsonItems_toPyItems
#print axioms ICG.Codec.toJsonMeta_toPyMeta
#print axioms ICG.Codec.toPyMeta_eq_mapVal
#print axioms ICG.Codec.keys_toPyMeta
#print axioms ICG.Codec.lookupKey_toPyMeta
#print axioms ICG.Codec.toPyMeta_dedup
#print axioms ICG.Codec.stringifyMeta_eq
#print axioms ICG.Codec.toJsonMeta_cons_ok
#print axioms ICG.Codec.keys_toJsonMeta
#print axioms ICG.Codec.lookupKey_toJsonMeta
#print axioms ICG.Codec.stringifyMeta_ok
#print axioms ICG.Codec.keys_stringifyMeta
#print axioms ICG.Codec.lookupKey_stringifyMeta
#print axioms ICG.Codec.stringifyMeta_idem
#print axioms ICG.Codec.toPyItems_eq
#print axioms ICG.Codec.norm_eq
#print axioms ICG.Codec.normList_eq
#print axioms ICG.Codec.normItems_eq
#print axioms ICG.Codec.hasEval_eval
#print axioms ICG.Codec.hasEval_learn
#print axioms ICG.Codec.runTypeOf_str_runTypeOf

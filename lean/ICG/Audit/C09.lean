import ICG.Props.C09
import ICG.Props.Compose
import ICG.Lemmas.ComposeCore
import ICG.Props.FloatErrorNorms
-- generated by harness/leanside.py; do not edit
#print axioms ICG.C09.mem_explorable
#print axioms ICG.C09.Spec.unstep_step
#print axioms ICG.C09.Holds.exact
#print axioms ICG.C09.Holds.ik
#print axioms ICG.C09.Holds.sameKnowledge
#print axioms ICG.C09.Holds.of_sameKnowledge
#print axioms ICG.C09.Holds.init
#print axioms ICG.C09.Holds.putValue
#print axioms ICG.C09.Holds.clearRow
#print axioms ICG.C09.Holds.computed
#print axioms ICG.C09.Inv.holds
#print axioms ICG.C09.Inv.of_computed
#print axioms ICG.C09.Inv.known_lt
#print axioms ICG.C09.Inv.known_explorable
#print axioms ICG.C09.Inv.action
#print axioms ICG.C09.validStep_iff
#print axioms ICG.C09.validUnstep_iff
#print axioms ICG.C09.reset_spec
#print axioms ICG.C09.Inv.reset
#print axioms ICG.C09.mkEnvWith_spec
#print axioms ICG.C09.mkEnv_spec
#print axioms ICG.C09.step_spec
#print axioms ICG.C09.unstep_spec
#print axioms ICG.C09.reach_inv
#print axioms ICG.C09.mask_spec
#print axioms ICG.C09.mask_known
#print axioms ICG.C09.state_spec
#print axioms ICG.C09.validActions_spec
#print axioms ICG.C09.reward_spec
#print axioms ICG.C09.done_spec
#print axioms ICG.C09.reward_nonpos
#print axioms ICG.C09.DefinedOn.of_total
#print axioms ICG.C09.step_of_defined
#print axioms ICG.C09.unstep_of_defined
#print axioms ICG.C09.roundtrip_of_defined
#print axioms ICG.C09.step_succeeds
#print axioms ICG.C09.unstep_succeeds
#print axioms ICG.C09.reset_succeeds
#print axioms ICG.C09.step_revealed_raises
#print axioms ICG.C09.unstep_unrevealed_raises
#print axioms ICG.C09.Params.Minimal.minInfo
#print axioms ICG.C09.computer_computeTotal
#print axioms ICG.C09.reach_inv_real
#print axioms ICG.C09.toyCompute_ok
#print axioms ICG.C09.toyCompute_knowledgeOnly
#print axioms ICG.Compose.NormGap.facts
#print axioms ICG.Compose.Gap.facts
#print axioms ICG.Compose.Ex.P3_wf
#print axioms ICG.Compose.Ex.P3_min
#print axioms ICG.Compose.Ex.P3_ne
#print axioms ICG.Compose.Ex.P3_expl
#print axioms ICG.Compose.Ex.reach0
#print axioms ICG.Compose.Ex.validActions_ne
#print axioms ICG.Compose.Ex.linCandidate
#print axioms ICG.Compose.Ex.revealed_step_self
#print axioms ICG.Compose.Ex.revealed_step_of
#print axioms ICG.Compose.Ex.reveal_all
#print axioms ICG.Compose.Ex.exV_class
#print axioms ICG.Compose.Ex.sam_class
#print axioms ICG.Compose.Ex.exVq_class
#print axioms ICG.Compose.Ex.exVq_side
#print axioms ICG.Compose.reward_nonpos_norm
#print axioms ICG.Compose.reward_zero_full_norm
#print axioms ICG.Compose.step_succeeds_norm
#print axioms ICG.Compose.unstep_succeeds_norm
#print axioms ICG.Compose.step_reward_mono_norm
#print axioms ICG.Compose.reward_mono_norm
#print axioms ICG.Compose.step_unstep_restores_norm
#print axioms ICG.Compose.roundtrip_succeeds_norm
#print axioms ICG.Compose.mkEnvWith_succeeds_real
#print axioms ICG.Compose.linReset_real
#print axioms ICG.Compose.NormGap.total
#print axioms ICG.Compose.hyps_norm
#print axioms ICG.Compose.greedy_real_norm
#print axioms ICG.Compose.linStep_real_norm
#print axioms ICG.Compose.reward_nonpos
#print axioms ICG.Compose.reward_zero_full
#print axioms ICG.Compose.step_succeeds
#print axioms ICG.Compose.unstep_succeeds
#print axioms ICG.Compose.step_reward_mono
#print axioms ICG.Compose.reward_mono
#print axioms ICG.Compose.step_unstep_restores
#print axioms ICG.Compose.roundtrip_succeeds
#print axioms ICG.Compose.gapTotal_iff
#print axioms ICG.Compose.Gap.defined
#print axioms ICG.Compose.hyps
#print axioms ICG.Compose.greedy_real
#print axioms ICG.Compose.greedy_reward_bounds
#print axioms ICG.Compose.linStep_real
#print axioms ICG.Compose.run_keeps_n
#print axioms ICG.Compose.search_result
#print axioms ICG.Compose.gapOfKnowledge_mono
#print axioms ICG.Compose.Sampled.sample
#print axioms ICG.Compose.best_curve
#print axioms ICG.Compose.best_states_min
#print axioms ICG.Compose.greedy_curve
#print axioms ICG.Compose.greedy_ge_best
#print axioms ICG.Compose.gapL2_facts
#print axioms ICG.Compose.reward_nonpos_l2
#print axioms ICG.Compose.reward_zero_full_l2
#print axioms ICG.Compose.step_reward_mono_l2
#print axioms ICG.Compose.step_unstep_restores_l2
#print axioms ICG.Compose.sample_l2
#print axioms ICG.Compose.best_curve_l2
#print axioms ICG.Compose.greedy_curve_l2
#print axioms ICG.Compose.bind_ok
#print axioms ICG.Compose.sweepM_n
#print axioms ICG.Compose.sweepLo_n
#print axioms ICG.Compose.sweepHi_n
#print axioms ICG.Compose.samRound_n
#print axioms ICG.Compose.samRounds_n
#print axioms ICG.Compose.loHi_n
#print axioms ICG.Compose.sa_n
#print axioms ICG.Compose.sac_n
#print axioms ICG.Compose.sam_n
#print axioms ICG.Compose.run_n
#print axioms ICG.Compose.gapL1_total
#print axioms ICG.Compose.gapL2sq_total
#print axioms ICG.Compose.Computed.minInfo
#print axioms ICG.Compose.Computed.sound
#print axioms ICG.Compose.Computed.lo_le_hi
#print axioms ICG.Compose.degenerate_of_point
#print axioms ICG.Compose.widths_congr
#print axioms ICG.Compose.GapFacts.of_norm
#print axioms ICG.Compose.gapL1_facts
#print axioms ICG.Compose.gapLinf_facts
#print axioms ICG.Compose.gapLinf_total
#print axioms ICG.Compose.weightedGap_congr
#print axioms ICG.Compose.gapL2sq_facts
#print axioms ICG.Compose.gapExpl_rowsOnly
#print axioms ICG.Compose.gapExpl_facts
#print axioms ICG.Compose.Inv.source
#print axioms ICG.Compose.Inv.computed
#print axioms ICG.Compose.Inv.sound
#print axioms ICG.Compose.Inv.nested
#print axioms ICG.Compose.reward_zero_of
#print axioms ICG.Compose.env_undo_of
#print axioms ICG.Compose.mkEnvWith_succeeds
#print axioms ICG.Compose.reset_real
#print axioms ICG.Compose.reward_nonpos_of
#print axioms ICG.Compose.reward_mono_of
#print axioms ICG.Compose.step_rewards_of
#print axioms ICG.Compose.step_reward_mono_of
#print axioms ICG.Compose.definedOn_of_facts
#print axioms ICG.Compose.step_succeeds_of
#print axioms ICG.Compose.unstep_succeeds_of
#print axioms ICG.Compose.reach_step
#print axioms ICG.Compose.roundtrip_succeeds_of
#print axioms ICG.Compose.linStep_of
#print axioms ICG.ApproxNorms.absv_eq_abs
#print axioms ICG.ApproxNorms.absv_nonneg
#print axioms ICG.ApproxNorms.approx_exact
#print axioms ICG.ApproxNorms.absWidths_nonneg
#print axioms ICG.ApproxNorms.l1Approx_nonneg
#print axioms ICG.ApproxNorms.listMax?_nonneg
#print axioms ICG.ApproxNorms.linfApprox_nonneg
#print axioms ICG.ApproxNorms.reward_l1_nonpos
#print axioms ICG.ApproxNorms.reward_linf_nonpos
#print axioms ICG.ApproxNorms.l1Approx_error
#print axioms ICG.ApproxNorms.addDown_nonneg

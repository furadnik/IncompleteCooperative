import ICG.Props.C11
import ICG.Lemmas.ComposeSearch
-- generated by harness/leanside.py; do not edit
#print axioms ICG.C11.enum_mem
#print axioms ICG.C11.enum_nodup
#print axioms ICG.C11.enum_of_nodup
#print axioms ICG.C11.enum
#print axioms ICG.C11.applied_gap
#print axioms ICG.C11.value
#print axioms ICG.C11.value_order_free
#print axioms ICG.C11.seqGap_n
#print axioms ICG.C11.seqGap_stateFree
#print axioms ICG.C11.schedule_free
#print axioms ICG.C11.chunksOf_flatten
#print axioms ICG.C11.search_result
#print axioms ICG.C11.meta_value
#print axioms ICG.C11.meta_game
#print axioms ICG.C11.best_min
#print axioms ICG.C11.best_is_min
#print axioms ICG.C11.best_mono
#print axioms ICG.C11.ext_of_monotone
#print axioms ICG.Compose.Kof_mono
#print axioms ICG.Compose.Kof_congr
#print axioms ICG.Compose.mapE_pair_snd
#print axioms ICG.Compose.zip_map_self
#print axioms ICG.Compose.zipWith_map_map
#print axioms ICG.Compose.columns_map
#print axioms ICG.Compose.cands_eq
#print axioms ICG.Compose.mem_knownOf
#print axioms ICG.Compose.mem_unknownOf
#print axioms ICG.Compose.unknownOf_nodup
#print axioms ICG.Compose.minInfo_Kof
#print axioms ICG.Compose.possibleSeqs_inrange
#print axioms ICG.Compose.exactTable_agree
#print axioms ICG.Compose.exactTable_knownOf_known
#print axioms ICG.Compose.knownOf_exact
#print axioms ICG.Compose.unknownOf_exact
#print axioms ICG.Compose.exact_computed
#print axioms ICG.Compose.gapOfKnowledge_nonneg_of
#print axioms ICG.Compose.gapOfKnowledge_mono_of
#print axioms ICG.Compose.getExploitabilitiesOfSeq_of_stateFree
#print axioms ICG.Compose.evalSeq_inrange
#print axioms ICG.Compose.evalSeq_outrange
#print axioms ICG.Compose.evalSeq_nil
#print axioms ICG.Compose.sampleRows_ok
#print axioms ICG.Compose.getBest_eq
#print axioms ICG.Compose.classGames_range
#print axioms ICG.Compose.schedule_free_real
#print axioms ICG.Compose.evalSeq_set
#print axioms ICG.Compose.gok_val
#print axioms ICG.Compose.colOf_spec
#print axioms ICG.Compose.colOf_nonneg
#print axioms ICG.Compose.colOf_mono
#print axioms ICG.Compose.evalSeq_col
#print axioms ICG.Compose.realCands_length
#print axioms ICG.Compose.realCands_mean
#print axioms ICG.Compose.realCands_ofSize
#print axioms ICG.Compose.getBest_real
#print axioms ICG.Compose.best_curve_of
#print axioms ICG.Compose.best_min_of
#print axioms ICG.Compose.evalSeq_mono
#print axioms ICG.Compose.greedy_curve_of
#print axioms ICG.Compose.greedy_ge_best_of

import ICG.Props.C01
import ICG.Props.FloatError
-- generated by harness/leanside.py; do not edit
#print axioms ICG.C01.sound
#print axioms ICG.C01.sound_sa
#print axioms ICG.C01.sound_sac
#print axioms ICG.C01.specOf_init
#print axioms ICG.C01.specOf_put_some
#print axioms ICG.C01.specOf_put_none
#print axioms ICG.C01.specOf_foldl_put
#print axioms ICG.C01.mem_zip_of_mem_take_zip
#print axioms ICG.C01.specOf_setValues
#print axioms ICG.C01.specOf_step
#print axioms ICG.C01.inv_of_rel
#print axioms ICG.C01.agree_of_rel
#print axioms ICG.C01.refinesH
#print axioms ICG.C01.runH_cons
#print axioms ICG.C01.runH_append
#print axioms ICG.C01.specRunH_cons
#print axioms ICG.C01.refines_runH
#print axioms ICG.C01.histories_agree
#print axioms ICG.C01.histories_any
#print axioms ICG.C01.histories
#print axioms ICG.C01.histories_init
#print axioms ICG.C01.histories_reachable
#print axioms ICG.C01.minInfo_of_spec
#print axioms ICG.C01.demoH_adm
#print axioms ICG.C01.demoH_writes
#print axioms ICG.C01.demoH_min
#print axioms ICG.Approx.approx_exact
#print axioms ICG.Approx.approx_sound_on
#print axioms ICG.Approx.lo_error
#print axioms ICG.Approx.lo_error_known
#print axioms ICG.Approx.lo_error_unknown
#print axioms ICG.Approx.up_error
#print axioms ICG.Approx.up_error'
#print axioms ICG.Approx.approx_sound
#print axioms ICG.Approx.approx_tight
#print axioms ICG.Approx.uniform_tolerance
#print axioms ICG.Approx.relative_to_absolute_on
#print axioms ICG.Approx.AddErrOn.of_relative
#print axioms ICG.Approx.SubErrOn.of_relative
#print axioms ICG.Approx.approx_sound_relative
#print axioms ICG.Approx.Ex.known4_minInfo
#print axioms ICG.Approx.Ex.v4_SA
#print axioms ICG.Approx.Ex.addUp_err
#print axioms ICG.Approx.Ex.subDown_err
#print axioms ICG.Approx.Ex.loA7
#print axioms ICG.Approx.Ex.loS7
#print axioms ICG.Approx.Ex.upA3
#print axioms ICG.Approx.Ex.upS3
#print axioms ICG.Approx.Ex.size7
#print axioms ICG.Approx.Ex.size3
#print axioms ICG.Approx.Ex.v4_completion
#print axioms ICG.Approx.Ex.known3_minInfo
#print axioms ICG.Approx.Ex.v3_SA
#print axioms ICG.Approx.Ex.u64_nonneg
#print axioms ICG.Approx.Ex.addRel_err
#print axioms ICG.Approx.Ex.subRel_err
#print axioms ICG.Approx.Ex.addRel_mag
#print axioms ICG.Approx.Ex.subRel_mag

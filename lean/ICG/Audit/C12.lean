import ICG.Props.C12
-- generated by harness/leanside.py; do not edit
#print axioms ICG.C12.episodes_succ_ok
#print axioms ICG.C12.episodes_spec
#print axioms ICG.C12.evalOne_ok
#print axioms ICG.C12.trajectory
#print axioms ICG.C12.isolated_schedule_free
#print axioms ICG.C12.isolated_par_eq
#print axioms ICG.C12.isolated_seq_eq_par
#print axioms ICG.C12.current_shared_rng
#print axioms ICG.C12.current_shared_solver_rng
#print axioms ICG.C12.current_not_isolated
#print axioms ICG.C12.draw_neg_neg
#print axioms ICG.C12.drawRepaired_inj
#print axioms ICG.C12.mkEnvs_repaired
#print axioms ICG.C12.mkEnvsRepaired_eq
#print axioms ICG.C12.episodes_repaired
#print axioms ICG.C12.evalOne_repaired
#print axioms ICG.C12.evaluateSeq_repaired
#print axioms ICG.C12.evaluateRepaired_par
#print axioms ICG.C12.evaluateRepaired_seq
#print axioms ICG.C12.repaired_draws_pool
#print axioms ICG.C12.repaired_draws
#print axioms ICG.C12.repaired_draws_row0
#print axioms ICG.C12.repaired_total
#print axioms ICG.C12.repaired_distinct
#print axioms ICG.C12.repaired_draws_nodup
#print axioms ICG.C12.episodes_stateless
#print axioms ICG.C12.isolated_of_private
#print axioms ICG.C12.repaired_isolated
#print axioms ICG.C12.repaired_pool_schedule_free
#print axioms ICG.C12.repaired_schedule_free
#print axioms ICG.C12.repaired_procs_irrelevant
#print axioms ICG.C12.current_vs_repaired
#print axioms ICG.C12.repaired_solver_rng_still_shared

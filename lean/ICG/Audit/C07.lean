import ICG.Props.C07
import ICG.Props.C07Gaps
import ICG.Props.C07L2
-- generated by harness/leanside.py; do not edit
#print axioms ICG.C07.interval_mono
#print axioms ICG.C07.interval_mono_sa
#print axioms ICG.C07.interval_mono_sac
#print axioms ICG.C07.interval_mono_sam
#print axioms ICG.C07.Nested.trans
#print axioms ICG.C07.gap_width_mono
#print axioms ICG.C07.gap_width_nonneg
#print axioms ICG.C07.gap_width_zero_full
#print axioms ICG.C07.fresh_of_run
#print axioms ICG.C07.reveal_ok_iff
#print axioms ICG.C07.revealRun_cons
#print axioms ICG.C07.step_nested
#print axioms ICG.C07.step_total
#print axioms ICG.C07.path
#print axioms ICG.C07.path_width
#print axioms ICG.C07.path_total
#print axioms ICG.C07.path_from
#print axioms ICG.C07.Nested.toGapMono
#print axioms ICG.C07.mono_full
#print axioms ICG.C07.mono_l1
#print axioms ICG.C07.mono_linf
#print axioms ICG.C07.nonneg_l1_linf
#print axioms ICG.C07.zero_full_l1_linf
#print axioms ICG.C07.path_l1
#print axioms ICG.C07.path_linf
#print axioms ICG.C07.mono_l2sq
#print axioms ICG.C07.expl_side
#print axioms ICG.C07.mono_expl
#print axioms ICG.C07.nonneg_l2sq_expl
#print axioms ICG.C07.zero_full_l2sq_expl
#print axioms ICG.C07.path_l2sq
#print axioms ICG.C07.path_expl
#print axioms ICG.C07.exTq_agree
#print axioms ICG.C07.exVq_SA
#print axioms ICG.C07.l2_sq
#print axioms ICG.C07.mono_l2
#print axioms ICG.C07.nonneg_l2
#print axioms ICG.C07.zero_full_l2
#print axioms ICG.C07.l2_eq_zero_iff
#print axioms ICG.C07.path_l2
#print axioms ICG.C07.exTr_agree
#print axioms ICG.C07.exVr_SA

import ICG.Props.C17
import ICG.Props.C17Alg
-- generated by harness/leanside.py; do not edit
#print axioms ICG.C17.fresh_known
#print axioms ICG.C17.fresh_value
#print axioms ICG.C17.neg_known
#print axioms ICG.C17.neg_bounds
#print axioms ICG.C17.rel_init
#print axioms ICG.C17.Spec.put_same
#print axioms ICG.C17.Spec.put_other
#print axioms ICG.C17.rowOnly_putValue
#print axioms ICG.C17.rowOnly_clearRow
#print axioms ICG.C17.rowOnly_putLo
#print axioms ICG.C17.rowOnly_putHi
#print axioms ICG.C17.bulk_cases
#print axioms ICG.C17.setValues_eq
#print axioms ICG.C17.setBounds_eq
#print axioms ICG.C17.specSetValues_eq
#print axioms ICG.C17.specSetValues_some
#print axioms ICG.C17.rel_put
#print axioms ICG.C17.rel_putValue
#print axioms ICG.C17.rel_clearRow
#print axioms ICG.C17.rel_foldl_putValue
#print axioms ICG.C17.rel_putBulk
#print axioms ICG.C17.setValues_spec
#print axioms ICG.C17.Outside.refl
#print axioms ICG.C17.BoundsFrame.refl
#print axioms ICG.C17.BoundsFrame.outside
#print axioms ICG.C17.foldl_inv
#print axioms ICG.C17.Outside.row
#print axioms ICG.C17.boundsFrame_write
#print axioms ICG.C17.boundsFrame_step
#print axioms ICG.C17.setBounds_frame
#print axioms ICG.C17.rel_of_boundsFrame
#print axioms ICG.C17.setValues_outside
#print axioms ICG.C17.keep_ite
#print axioms ICG.C17.ite_ind
#print axioms ICG.C17.keep_cases
#print axioms ICG.C17.applyOp_set
#print axioms ICG.C17.applyOp_unset
#print axioms ICG.C17.applyOp_reveal
#print axioms ICG.C17.applyOp_unreveal
#print axioms ICG.C17.applyOp_setLowerBound
#print axioms ICG.C17.applyOp_setUpperBound
#print axioms ICG.C17.applyOp_setKnownValues
#print axioms ICG.C17.applyOp_frame
#print axioms ICG.C17.applyOp_n
#print axioms ICG.C17.unknown_of_admissible
#print axioms ICG.C17.rel_ite
#print axioms ICG.C17.refines
#print axioms ICG.C17.run_nil
#print axioms ICG.C17.run_cons
#print axioms ICG.C17.specRun_cons
#print axioms ICG.C17.refines_run
#print axioms ICG.C17.game_rel
#print axioms ICG.C17.known_iff_history
#print axioms ICG.C17.known_has_value
#print axioms ICG.C17.bounds_setters_keep_known
#print axioms ICG.C17.run_n
#print axioms ICG.C17.blank_init
#print axioms ICG.C17.blank_of_outside
#print axioms ICG.C17.applyOp_blank
#print axioms ICG.C17.run_blank
#print axioms ICG.C17.game_outside
#print axioms ICG.C17.spec_of_known
#print axioms ICG.C17.spec_of_unknown
#print axioms ICG.C17.getValue_spec
#print axioms ICG.C17.getKnownValue_spec
#print axioms ICG.C17.getKnownValues_spec
#print axioms ICG.C17.all_known_iff
#print axioms ICG.C17.getValues_none_eq
#print axioms ICG.C17.getValues_some_eq
#print axioms ICG.C17.readAll_ok_iff
#print axioms ICG.C17.readAll_unknown
#print axioms ICG.C17.getValues_some_spec
#print axioms ICG.C17.getValues_some_unknown
#print axioms ICG.C17.getValues_none_spec
#print axioms ICG.C17.getValues_none_unknown
#print axioms ICG.C17.rel_neg
#print axioms ICG.C17.specStep_set
#print axioms ICG.C17.specStep_unset
#print axioms ICG.C17.specStep_reveal
#print axioms ICG.C17.specStep_unreveal
#print axioms ICG.C17.specStep_set_same
#print axioms ICG.C17.specStep_set_other
#print axioms ICG.C17.specStep_unset_same
#print axioms ICG.C17.specStep_unset_other
#print axioms ICG.C17.specStep_reveal_unknown
#print axioms ICG.C17.specStep_reveal_known
#print axioms ICG.C17.specStep_unreveal_known
#print axioms ICG.C17.specStep_unreveal_unknown
#print axioms ICG.C17.specStep_bounds
#print axioms ICG.C17.specStep_scalar_bounds
#print axioms ICG.C17.specStep_reset
#print axioms ICG.C17.specStep_setAll
#print axioms ICG.C17.specStep_setListed_other
#print axioms ICG.C17.neg_neg
#print axioms ICG.C17.full_iff
#print axioms ICG.C17.add_ok
#print axioms ICG.C17.add_ok_iff
#print axioms ICG.C17.add_err
#print axioms ICG.C17.add_spec
#print axioms ICG.C17.rel_add
#print axioms ICG.C17.add_comm_rows
#print axioms ICG.C17.neg_add_rows
#print axioms ICG.C17.rowEq_iff
#print axioms ICG.C17.two_pow_inj
#print axioms ICG.C17.two_pow_eq_one_iff
#print axioms ICG.C17.eqv_symm
#print axioms ICG.C17.eqv_true_iff
#print axioms ICG.C17.eqv_refl
#print axioms ICG.C17.eqv_error_iff
#print axioms ICG.C17.eqv_of_rel

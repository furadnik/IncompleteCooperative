import ICG.Props.C14
import ICG.Props.Equivariance
-- generated by harness/leanside.py; do not edit
#print axioms ICG.C14.ranking
#print axioms ICG.C14.construction_ok_iff
#print axioms ICG.C14.construction_fails_iff
#print axioms ICG.C14.current_fails_iff
#print axioms ICG.C14.constructible
#print axioms ICG.C14.repaired_covers
#print axioms ICG.C14.constructible_repaired
#print axioms ICG.C14.constructible_pow
#print axioms ICG.C14.current_fails_of
#print axioms ICG.C14.current_index_error
#print axioms ICG.C14.current_index_error_n4
#print axioms ICG.C14.current_nan
#print axioms ICG.C14.strategy_distribution
#print axioms ICG.C14.added_regret_orthogonal
#print axioms ICG.C14.added_regret_eq
#print axioms ICG.C14.used_regret_stays_nonpos
#print axioms ICG.C14.experienced_nonneg
#print axioms ICG.C14.node_strategy_distribution
#print axioms ICG.C14.node_update_invariants
#print axioms ICG.C14.average_strategy_distribution
#print axioms ICG.C14.pid_map_ok_general
#print axioms ICG.C14.pid_map_ok
#print axioms ICG.C14.plus_regret_nonneg
#print axioms ICG.C14.tree_invariant_base
#print axioms ICG.C14.validInput_iff
#print axioms ICG.C14.reachable_inv
#print axioms ICG.C14.treeInvariant_of
#print axioms ICG.C14.tree_invariant
#print axioms ICG.C14.repaired_clips
#print axioms ICG.C14.current_strategy_distribution
#print axioms ICG.C14.reachable_pidMap
#print axioms ICG.C14.average_strategy_distribution_reachable
#print axioms ICG.C14.orthogonality_reachable
#print axioms ICG.C14.plus_nonneg_reachable
#print axioms ICG.C14.used_regret_nonpos_reachable
#print axioms ICG.C14.load_save
#print axioms ICG.C14.load_save_current
#print axioms ICG.C14.load_save_repaired
#print axioms ICG.Equivariance.regret_matching_row_scale
#print axioms ICG.Equivariance.current_strategy_scale
#print axioms ICG.Equivariance.average_strategy_scale
#print axioms ICG.Equivariance.scaleRM_fields
#print axioms ICG.Equivariance.run_equivariant
#print axioms ICG.Equivariance.scaleRM_new
#print axioms ICG.Equivariance.history_scale_from
#print axioms ICG.Equivariance.history_scale
#print axioms ICG.Equivariance.validInput_scale
#print axioms ICG.Equivariance.iterate_scale_reachable
#print axioms ICG.Equivariance.mapVals_fields
#print axioms ICG.Equivariance.run_ordHom
#print axioms ICG.Equivariance.ordHom_mul
#print axioms ICG.Equivariance.bounds_homogeneous
#print axioms ICG.Equivariance.sam_bounds_homogeneous
#print axioms ICG.Equivariance.computers_homogeneous
#print axioms ICG.Equivariance.ordHom_nsmul
#print axioms ICG.Equivariance.bounds_nsmul
#print axioms ICG.Equivariance.addGame_eq_listSum
#print axioms ICG.Equivariance.addGame_singleton
#print axioms ICG.Equivariance.bounds_shift
#print axioms ICG.Equivariance.shiftTable_fields
#print axioms ICG.Equivariance.computers_shift
#print axioms ICG.Equivariance.closedW_scale
#print axioms ICG.Equivariance.additive_scale
#print axioms ICG.Equivariance.normVal_scale
#print axioms ICG.Equivariance.normVal_scale_pos
#print axioms ICG.Equivariance.normalizeIcg_scale
#print axioms ICG.Equivariance.closedW_shift
#print axioms ICG.Equivariance.additive_shift_iff
#print axioms ICG.Equivariance.normVal_shift_of_same_test
#print axioms ICG.Equivariance.normVal_shift_rtol_zero
#print axioms ICG.Equivariance.normVal_shift_outside
#print axioms ICG.Equivariance.widths_scale
#print axioms ICG.Equivariance.absv_scale
#print axioms ICG.Equivariance.l1_homogeneous
#print axioms ICG.Equivariance.linf_homogeneous
#print axioms ICG.Equivariance.l2sq_homogeneous
#print axioms ICG.Equivariance.weightedGap_scale
#print axioms ICG.Equivariance.exploitability_homogeneous
#print axioms ICG.Equivariance.sam_shift_fails

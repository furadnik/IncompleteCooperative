import ICG.Props.C06
-- generated by harness/leanside.py; do not edit
#print axioms ICG.C06.answers_table
#print axioms ICG.C06.computes
#print axioms ICG.C06.entry_points
#print axioms ICG.C06.raises_on_unknown
#print axioms ICG.C06.efficiency
#print axioms ICG.C06.null_player
#print axioms ICG.C06.linear
#print axioms ICG.C06.orderings
#print axioms ICG.C06.orderings_all
#print axioms ICG.C06.orderings_exec
#print axioms ICG.C06.orderings_complete
#print axioms ICG.C06.relabel_spec
#print axioms ICG.C06.symmetry
#print axioms ICG.C06.symmetry_relabel
#print axioms ICG.C06.orderings_atRat
#print axioms ICG.C06.orderings_all_atRat
#print axioms ICG.C06.orderings_table_atRat
#print axioms ICG.C06.efficiency_atRat
#print axioms ICG.C06.null_player_atRat
#print axioms ICG.C06.linear_atRat
#print axioms ICG.C06.symmetry_atRat
#print axioms ICG.C06.entry_points_atRat

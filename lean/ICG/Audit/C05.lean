import ICG.Props.C05
import ICG.Props.FloatErrorShapley
-- generated by harness/leanside.py; do not edit
#print axioms ICG.C05.sum_maxShapley
#print axioms ICG.C05.identity_general
#print axioms ICG.C05.identity
#print axioms ICG.C05.identity_weightedGap
#print axioms ICG.C05.identity_maxSum
#print axioms ICG.C05.undefined
#print axioms ICG.C05.defined_iff
#print axioms ICG.C05.choose_size_pos
#print axioms ICG.C05.gapTerm_nonneg
#print axioms ICG.C05.weightedGap_nonneg
#print axioms ICG.C05.weightedGap_eq_zero_iff
#print axioms ICG.C05.nonneg
#print axioms ICG.C05.zero_iff
#print axioms ICG.C05.maxGain_within
#print axioms ICG.C05.phi_le_maxGain
#print axioms ICG.C05.dominates
#print axioms ICG.C05.exTable_ok
#print axioms ICG.C05.identity_atRat
#print axioms ICG.C05.identity_weightedGap_atRat
#print axioms ICG.C05.defined_iff_atRat
#print axioms ICG.C05.nonneg_atRat
#print axioms ICG.C05.zero_iff_atRat
#print axioms ICG.C05.dominates_atRat
#print axioms ICG.GapMono.weightedGap_mono
#print axioms ICG.GapMono.expl_mono
#print axioms ICG.GapMono.expl_nonneg
#print axioms ICG.GapMono.expl_zero
#print axioms ICG.GapMono.expl_mono_atRat
#print axioms ICG.ApproxShapley.approx_exact
#print axioms ICG.ApproxShapley.approx_exact_exploitability
#print axioms ICG.ApproxShapley.shapleyCore_error_iff
#print axioms ICG.ApproxShapley.shapleyForPlayer_error_iff
#print axioms ICG.ApproxShapley.shapleyForPlayer_ok_iff
#print axioms ICG.ApproxShapley.shapley_error_iff
#print axioms ICG.ApproxShapley.shapley_ok_iff
#print axioms ICG.ApproxShapley.exploitability_error_iff
#print axioms ICG.ApproxShapley.exploitability_ok_iff
#print axioms ICG.ApproxShapley.tableExploitability_error_iff
#print axioms ICG.ApproxShapley.delta_nonneg
#print axioms ICG.ApproxShapley.sumApprox_error_map_on
#print axioms ICG.ApproxShapley.sumApprox_error_map
#print axioms ICG.ApproxShapley.sumApprox_error_on
#print axioms ICG.ApproxShapley.sumApprox_error
#print axioms ICG.ApproxShapley.map_getD_range
#print axioms ICG.ApproxShapley.sumApprox_error_lists
#print axioms ICG.ApproxShapley.shapleyForPlayer_error_on
#print axioms ICG.ApproxShapley.shapleyForPlayer_error
#print axioms ICG.ApproxShapley.shapleyForPlayer_error_answers
#print axioms ICG.ApproxShapley.sum_map_close
#print axioms ICG.ApproxShapley.efficiency_error_on
#print axioms ICG.ApproxShapley.efficiency_error
#print axioms ICG.ApproxShapley.efficiency_error_sum
#print axioms ICG.ApproxShapley.ExplOpsErr.of_forall
#print axioms ICG.ApproxShapley.exploitability_error_on
#print axioms ICG.ApproxShapley.exploitability_error
#print axioms ICG.ApproxShapley.exploitability_nonneg_approx_on
#print axioms ICG.ApproxShapley.exploitability_nonneg_approx
#print axioms ICG.ApproxShapley.tableExploitability_error
#print axioms ICG.ApproxShapley.tableExploitability_nonneg_approx
#print axioms ICG.ApproxShapley.tableExploitability_zero_approx
#print axioms ICG.ApproxShapley.OpsErr.of_relative
#print axioms ICG.ApproxShapley.shapleyForPlayer_error_relative
#print axioms ICG.ApproxShapley.ExplOpsErr.of_relative
#print axioms ICG.ApproxShapley.exploitability_error_relative
#print axioms ICG.ApproxShapley.Ex.addUp_err
#print axioms ICG.ApproxShapley.Ex.subUp_err
#print axioms ICG.ApproxShapley.Ex.mulUp_err
#print axioms ICG.ApproxShapley.Ex.divUp_err
#print axioms ICG.ApproxShapley.Ex.addDn_err
#print axioms ICG.ApproxShapley.Ex.subDn_err
#print axioms ICG.ApproxShapley.Ex.mulDn_err
#print axioms ICG.ApproxShapley.Ex.divDn_err
#print axioms ICG.ApproxShapley.Ex.rnd_err
#print axioms ICG.ApproxShapley.Ex.addR_err
#print axioms ICG.ApproxShapley.Ex.subR_err
#print axioms ICG.ApproxShapley.Ex.mulR_err
#print axioms ICG.ApproxShapley.Ex.divR_err
#print axioms ICG.ApproxShapley.Ex.B3
#print axioms ICG.ApproxShapley.Ex.t3_hyps
#print axioms ICG.ApproxShapley.Ex.v3_shapley0
#print axioms ICG.ApproxShapley.Ex.t3_exploitability
#print axioms ICG.ApproxShapley.Ex.u64_nonneg
#print axioms ICG.ApproxShapley.Ex.addRel_err
#print axioms ICG.ApproxShapley.Ex.mulRel_err
#print axioms ICG.ApproxShapley.Ex.subRel_err
#print axioms ICG.ApproxShapley.Ex.divRel_err
#print axioms ICG.ApproxShapley.Ex.rel_sub_mag
#print axioms ICG.ApproxShapley.Ex.rel_mul_mag
#print axioms ICG.ApproxShapley.Ex.rel_add_mag
#print axioms ICG.ApproxShapley.Ex.rel_div_mag
#print axioms ICG.ApproxShapley.Ex.relE_sub_mag
#print axioms ICG.ApproxShapley.Ex.relE_mul_mag
#print axioms ICG.ApproxShapley.Ex.relE_add_mag
#print axioms ICG.ApproxShapley.Ex.relE_div_mag
#print axioms ICG.ApproxShapley.Ex.relE_sum_mag
#print axioms ICG.ApproxShapley.Ex.relE_last_mag

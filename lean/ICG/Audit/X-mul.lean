import ICG.Props.Mul
import ICG.Lemmas.MulFactor
import ICG.Lemmas.MulXos
import ICG.Lemmas.MulApprox
import ICG.Lemmas.MulCompose
import ICG.Lemmas.MulPin10Game
import ICG.Lemmas.MulPin10
-- generated by harness/leanside.py; do not edit
#print axioms ICG.Mul.lowerUpperBound_ok_iff
#print axioms ICG.Mul.ite_full_eq_ok_iff
#print axioms ICG.Mul.toLowerBound_ok_iff
#print axioms ICG.Mul.upperToApproximation_ok_iff
#print axioms ICG.Mul.toApproximation_ok_iff
#print axioms ICG.Mul.toLowerBound_unknown
#print axioms ICG.Mul.upperToApproximation_unknown
#print axioms ICG.Mul.toApproximation_unknown
#print axioms ICG.Mul.lowerUpper_ge_toLower
#print axioms ICG.Mul.upperApprox_ge_toApprox
#print axioms ICG.Mul.upperApprox_le_chain
#print axioms ICG.Mul.factorN_finite
#print axioms ICG.Mul.factorN_never_nan
#print axioms ICG.Mul.getElem_pair_mem_zip
#print axioms ICG.Mul.factorN_nan_assert
#print axioms ICG.Mul.le_iff_sq_of_nonneg
#print axioms ICG.Mul.le_iff_sq_of_nonpos
#print axioms ICG.Mul.geSqrt_iff
#print axioms ICG.Mul.cast_four_pow
#print axioms ICG.Mul.reached_iff
#print axioms ICG.Mul.kr_values
#print axioms ICG.Mul.kr_loop_test
#print axioms ICG.Mul.approxXos_spec
#print axioms ICG.Mul.approxXos_sum
#print axioms ICG.Mul.approxXos_queried_prefixes
#print axioms ICG.Mul.maxSubroutine_size_int
#print axioms ICG.Mul.maxSubroutine_size_kval
#print axioms ICG.Mul.maxSubroutine_fuel_irrelevant
#print axioms ICG.Mul.maxSubroutine_empty
#print axioms ICG.Mul.maxSubroutine_assertion
#print axioms ICG.Mul.approximation_empty
#print axioms ICG.Mul.approximation_ge_singleton
#print axioms ICG.Mul.approximation_ge_candidate
#print axioms ICG.Mul.approximation_monotone
#print axioms ICG.Mul.approximation_lower_bound_submodular
#print axioms ICG.Mul.maxXos_returns
#print axioms ICG.Mul.maxXos_lower_bound_submodular
#print axioms ICG.Mul.cov2_monoSubmod
#print axioms ICG.Mul.factor_is_least_bound_atRat
#print axioms ICG.Mul.lowerUpper_ge_toLower_atRat
#print axioms ICG.Mul.lt_floor_toNat_succ
#print axioms ICG.Mul.maxSubroutine_terminates_atRat
#print axioms ICG.Mul.pin6_eq
#print axioms ICG.Mul.pin6_le
#print axioms ICG.Mul.lower_bound_fails_subadditive
#print axioms ICG.Mul.lower_bound_fails_default
#print axioms ICG.Mul.broadcast_of_length_eq
#print axioms ICG.Mul.zip_eq_nil_of_length_eq
#print axioms ICG.Mul.factor_outcome
#print axioms ICG.Mul.factor_eq_ok_iff
#print axioms ICG.Mul.factor_succeeds_iff
#print axioms ICG.Mul.factor_error_kinds
#print axioms ICG.Mul.factor_is_least_bound
#print axioms ICG.Mul.rows1_eq
#print axioms ICG.Mul.length_rows1
#print axioms ICG.Mul.length_rows1_eq
#print axioms ICG.Mul.zip_rows1
#print axioms ICG.Mul.map_rows1
#print axioms ICG.Mul.mem_rows1
#print axioms ICG.Mul.forall_mem_rows1
#print axioms ICG.Mul.exists_mem_rows1
#print axioms ICG.Mul.guard_rows1
#print axioms ICG.Mul.rows1_eq_nil
#print axioms ICG.Mul.factorFn_outcomes
#print axioms ICG.Mul.factorFn_result
#print axioms ICG.Mul.factorFn_least
#print axioms ICG.Mul.factorFn_ge_one
#print axioms ICG.Mul.factor_monotone
#print axioms ICG.Mul.factorFn_both_ok_of_le
#print axioms ICG.Mul.getValues_none
#print axioms ICG.Mul.lowerUpperBound_eq
#print axioms ICG.Mul.toLowerBound_eq
#print axioms ICG.Mul.upperToApproximation_eq
#print axioms ICG.Mul.toApproximation_eq
#print axioms ICG.Mul.allSome_map_some
#print axioms ICG.Mul.allSome_isSome_of
#print axioms ICG.Mul.broadcast_map
#print axioms ICG.Mul.mod_two_pow_eq_of_gap
#print axioms ICG.Mul.addPlayer_mod_two_pow
#print axioms ICG.Mul.mod_two_pow_eq_self_of_no_high
#print axioms ICG.Mul.size_addPlayer
#print axioms ICG.Mul.mapE_cons_eq_ok
#print axioms ICG.Mul.mapE_ok_of
#print axioms ICG.Mul.mapE_isOk_of
#print axioms ICG.Mul.mapE_getElem?
#print axioms ICG.Mul.playersFromPos_players
#print axioms ICG.Mul.PlayersFromPos.nil
#print axioms ICG.Mul.PlayersFromPos.cons
#print axioms ICG.Mul.approxXosGo_okGet
#print axioms ICG.Mul.approxXos_okGet
#print axioms ICG.Mul.marginals_sum
#print axioms ICG.Mul.marginals_sum_players
#print axioms ICG.Mul.Grown.refl
#print axioms ICG.Mul.Grown.trans
#print axioms ICG.Mul.Grown.step
#print axioms ICG.Mul.maxPass_returns
#print axioms ICG.Mul.maxPass_post
#print axioms ICG.Mul.passPlayers
#print axioms ICG.Mul.maxLoop_post
#print axioms ICG.Mul.maxLoop_returns
#print axioms ICG.Mul.maxLoop_fuel_le
#print axioms ICG.Mul.schedule_below
#print axioms ICG.Mul.singles_okGet
#print axioms ICG.Mul.all_singles_ge_one
#print axioms ICG.Mul.players_ne_nil
#print axioms ICG.Mul.maxSubroutine_eq_maxLoop
#print axioms ICG.Mul.maxSubroutine_terminates
#print axioms ICG.Mul.maxSubroutine_result
#print axioms ICG.Mul.foldCell_eq
#print axioms ICG.Mul.foldRow_eq
#print axioms ICG.Mul.approxValue_eq
#print axioms ICG.Mul.approxValue_isMax
#print axioms ICG.Mul.mem_allValues
#print axioms ICG.Mul.le_approxValue_self
#print axioms ICG.Mul.newValue_le_approxValue
#print axioms ICG.Mul.approxValue_le
#print axioms ICG.Mul.newValue_mono
#print axioms ICG.Mul.approxValue_mono
#print axioms ICG.Mul.msOf_isMax
#print axioms ICG.Mul.le_msOf
#print axioms ICG.Mul.msOf_mem
#print axioms ICG.Mul.msOf_mono
#print axioms ICG.Mul.approximation_vector
#print axioms ICG.Mul.approximation_entry
#print axioms ICG.Mul.computeApproximation_assert
#print axioms ICG.Mul.maxXos_eq_ok_iff
#print axioms ICG.Mul.WitnessedBy.mono
#print axioms ICG.Mul.mod_sub_mod
#print axioms ICG.Mul.marginal_anti
#print axioms ICG.Mul.sum_marginals_le
#print axioms ICG.Mul.newValue_le_of_witnessed
#print axioms ICG.Mul.approxValue_le_game
#print axioms ICG.Mul.takeWhile_range_eq
#print axioms ICG.Mul.mem_takeWhile_range'
#print axioms ICG.Mul.mem_takeWhile_range
#print axioms ICG.Mul.pow_lt_downward
#print axioms ICG.Mul.mem_kExps
#print axioms ICG.Mul.mem_rVals
#print axioms ICG.Mul.index_le_rVals
#print axioms ICG.Mul.subOf_testBit
#print axioms ICG.Mul.subOf_marginals_eq
#print axioms ICG.Mul.cutOf_testBit
#print axioms ICG.Mul.cutOf_sub
#print axioms ICG.Mul.diff_sub
#print axioms ICG.Mul.candLoop_succ_inv
#print axioms ICG.Mul.candLoop_witness
#print axioms ICG.Mul.fromPlayers_light_lt
#print axioms ICG.Mul.candCell_witness
#print axioms ICG.Mul.candidates_witnessed
#print axioms ICG.Mul.rVals_pos
#print axioms ICG.Mul.KVal.reached_zero
#print axioms ICG.Mul.not_geThreshold_of_le
#print axioms ICG.Mul.le_of_cutOf_eq_zero
#print axioms ICG.Mul.cutOf_ne_zero_of_threshold
#print axioms ICG.Mul.Domain.maxSubroutine_terminates
#print axioms ICG.Mul.eq_zero_of_sub_diff_self
#print axioms ICG.Mul.candLoop_returns
#print axioms ICG.Mul.candCell_returns
#print axioms ICG.Mul.candidates_returns
#print axioms ICG.Mul.monotoneN_spec
#print axioms ICG.Mul.disjoint_pair_cases
#print axioms ICG.Mul.subaddBelow_spec
#print axioms ICG.Mul.subadditive_of_subaddN
#print axioms ICG.Mul.monotone_of_null_players
#print axioms ICG.Mul.subadditive_of_null_players
#print axioms ICG.Mul.pin10N_eq
#print axioms ICG.Mul.pin9_monotone
#print axioms ICG.Mul.pin9_subadditive
#print axioms ICG.Mul.pin10_le
#print axioms ICG.Mul.pin10_monotone
#print axioms ICG.Mul.pin10_subadditive
#print axioms ICG.Mul.pin10_singletons
#print axioms ICG.Mul.pin10_candidates

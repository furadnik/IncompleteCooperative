import ICG.Props.C08
import ICG.Lemmas.EnvUndo
-- generated by harness/leanside.py; do not edit
#print axioms ICG.C08.knowledge_only
#print axioms ICG.C08.knowledge_only_sa
#print axioms ICG.C08.knowledge_only_sac
#print axioms ICG.C08.knowledge_only_sam
#print axioms ICG.C08.exS_agree
#print axioms ICG.C08.idempotent
#print axioms ICG.C08.idempotent'
#print axioms ICG.C08.output_inv
#print axioms ICG.C08.undo
#print axioms ICG.C08.undo_from
#print axioms ICG.C08.applyH_blank
#print axioms ICG.C08.runH_blank
#print axioms ICG.C08.sameGame_of_rel
#print axioms ICG.C08.history_free
#print axioms ICG.C08.hist_same
#print axioms ICG.Env.SameKnowledge.n
#print axioms ICG.Env.SameKnowledge.known
#print axioms ICG.Env.SameKnowledge.vals
#print axioms ICG.Env.SameRows.n
#print axioms ICG.Env.SameRows.known
#print axioms ICG.Env.SameRows.rows
#print axioms ICG.Env.EnvEq.table
#print axioms ICG.Env.SameKnowledge.refl
#print axioms ICG.Env.SameKnowledge.symm
#print axioms ICG.Env.SameKnowledge.trans
#print axioms ICG.Env.SameRows.refl
#print axioms ICG.Env.SameRows.symm
#print axioms ICG.Env.SameRows.trans
#print axioms ICG.Env.EnvEq.refl
#print axioms ICG.Env.EnvEq.symm
#print axioms ICG.Env.EnvEq.trans
#print axioms ICG.Env.exact_of_compute
#print axioms ICG.Env.sameKnowledge_of_compute
#print axioms ICG.Env.Exact.of_sameKnowledge
#print axioms ICG.Env.KnowledgeOnly.sameRows
#print axioms ICG.Env.Fresh.exact
#print axioms ICG.Env.actionMasks_congr
#print axioms ICG.Env.state_congr
#print axioms ICG.Env.allDegenerate_congr
#print axioms ICG.Env.done_congr
#print axioms ICG.Env.reward_congr
#print axioms ICG.Env.validActions_congr
#print axioms ICG.Env.roundtrip_knowledge
#print axioms ICG.Env.env_undo

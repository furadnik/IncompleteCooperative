/-
  ICG.Model.Mul — the `multiplicative` sub-package (import-free): multiplicative_factor.py and the
  deterministic parts of max_xos_approximation.py.

  ## multiplicative_factor.py

  All four functions have one shape: two value vectors over the coalitions `1 … 2^n − 1`
  (`get_values()[1:]`, `get_lower_bounds()[1:]`, `get_upper_bounds()[1:]`), then

      assert np.all(num >= den);  assert np.all(den > 0);  return np.max(num / den)

  mirrored by `factor num den`:
  * `num >= den` is formed first and BROADCASTS (`broadcast`): equal lengths compare row by row, a
    one-element vector (a 1-player game) is stretched against the other, every other shape mismatch
    raises ValueError before any assertion is looked at;
  * the second assertion looks at `den` alone; both assertions raise AssertionError (`Err.assert`);
  * `np.max` of an empty array (`n = 0`) raises ValueError (`Err.value`);
  * the quotients are formed only after `den > 0` has been checked for every row: there is no division
    by zero in the model and no value for it;
  * `game.get_values()` of the real class raises ValueError unless every coalition is known
    (`Table.getValues none`); `get_lower_bounds` / `get_upper_bounds` never raise.  The order of the two
    reads is the code's (both raise the same kind).
  NaN: `factorN` is the same function on vectors whose entries may be NaN (`none`): a comparison with NaN
  is False, so either assertion fails (`geN`, `posN`); ±inf is not modelled (`inf/inf` would be NaN).

  ## max_xos_approximation.py

  A `Game` is what the code reads from it: `number_of_players` and `get_value`, here
  `get : Nat → Except Err α` (the real class: `Table.getValue` — ValueError for an unknown coalition,
  IndexError for an id ≥ 2^n; a complete game `v`: `okGet v`).  Every `get_value` call of the code is a
  `get` call of the model, in the code's order.

  * `_get_k_r_values(n)`: `k_values = [2^k·√n while 2^k·√n < n] ++ [n]`, `r_values = [2^r while 2^r < n²]
    ++ [n²]`.  The model returns the k-values symbolically (`KVal.sqrtMul k` for `2^k·√n`, `KVal.full` for
    `n`) and the r-values as naturals.  ABSTRACTED: `math.sqrt`.  The loop test `2^k·√n < n` is taken as
    `4^k < n` (equivalent over the reals; equal in float64 for every n < 2^50), and every later comparison
    that involves a k-value is decided by squaring (`geSqrt`, `KVal.reached`), i.e. exactly over the
    reals, whereas the code compares rounded float64 products/quotients.
  * `_approx_xos_subroutine(game, coalition)` (`approxXos`): marginal contributions along the players of
    the coalition in increasing order, `get_value(extended)` before `get_value(sub)`, the queried ids.
    The additive vector is returned as the list of `(player, marginal)` pairs (`avVector` pads it with
    zeros to length n like `np.zeros(n)`).
  * `_max_subroutine(game, coalition, size, eps)` (`maxSubroutine`): the greedy with the geometric
    threshold schedule.  `size` enters only through the test `len(constructed) + 1 >= size`, given here as
    a predicate `reached : Nat → Bool` on `len + 1` (`fun m => decide (s ≤ m)` for an integer size,
    `KVal.reached n kv` for a k-value).  The generator `(coalition - constructed).players` is created once
    per pass of the `for`, from the coalition constructed so far; `constructed += player` inside the pass
    does not change it (`maxPass` runs over a fixed player list).  TERMINATION: the `while` runs as long as
    `limit·(1−eps)^j ≥ eps·initial/n`; the model takes a `fuel` (maximal number of passes) and answers
    `Err.other` when it runs out — `ICG.Mul.maxSubroutine_terminates` proves that this never happens when
    `0 < eps` and `n < fuel·eps²` (the driver uses the least such fuel, `AtRat.fuelFor`), and
    `ICG.Mul.maxSubroutine_fuel_irrelevant` that the answer does not depend on the fuel once it suffices.  For `eps ≤ 0` the Python loop need not
    terminate; that is outside the model (the model answers `Err.other`).
    With rational `eps` the schedule `reduced_limit *= (1 - eps)` is exact over `Rat`; in float64 it is
    exact only while the products stay representable.
  * `_compute_candidate_coalitions_and_query_values` (`candidates`): per cell `(k, r)` the light players
    (`singleton < k_values[k]·r_values[r]/√n`), one `_max_subroutine`, then the `while
    get_value(coalition) >= k_values[k]·r_values[r]/(2α)` loop (`candLoop`).  An iteration that returns the
    same coalition again repeats forever in Python; the model detects the repetition and answers
    `Err.other` ("does not return"); otherwise the coalition strictly shrinks, so `size coalition + 1`
    iterations suffice (the fuel used; `ICG.Mul.candLoop_returns` / `maxXos_returns`: for α > 0, β ≥ 1/2, ε > 0,
    v(∅) = 0 and singletons ≥ 1 the loop returns).  For β < 1/2 the Python loop can repeat forever.  ZeroDivisionError (`α = 0`, `α·β = 0`, `n = 0` where `sqrt(0) = 0.0`)
    is `Err.other` as well.  `np.unique` of the concatenated queried ids: increasing, without repetition.
  * `_compute_approximation` (`computeApproximation`): for every non-empty coalition the maximum of the
    largest singleton value inside it and of `len(cand & coalition) * r / (4αβ)` over all candidates,
    where `r` is the loop INDEX of the r-axis, as in the code, not `r_values[r]`.
  * `compute_max_xos_approximation` (`maxXos`): the composition.
-/
import ICG.Model.Shapley
namespace ICG
namespace Mul

/-! ### multiplicative_factor.py -/
section factor
variable {α : Type}

/-- numpy broadcasting of two 1-d arrays inside an element-wise operation: the rows that are combined,
    or ValueError ("operands could not be broadcast together"). -/
def broadcast {β γ : Type} (a : List β) (b : List γ) : Except Err (List (β × γ)) :=
  if a.length = b.length then .ok (a.zip b)
  else match a, b with
    | [x], _ => .ok (b.map (fun y => (x, y)))
    | _, [y] => .ok (a.map (fun x => (x, y)))
    | _, _ => .error .value

variable [LE α] [DecidableLE α] [LT α] [DecidableLT α] [Zero α] [Div α] [Max α]

/-- `assert np.all(num >= den); assert np.all(den > 0); return np.max(num / den)`. -/
def factor (num den : List α) : Except Err α :=
  match broadcast num den with
  | .error e => .error e
  | .ok pairs =>
    if pairs.all (fun p => decide (p.2 ≤ p.1)) then
      if den.all (fun d => decide (0 < d)) then
        -- every divisor below is one of the entries of `den`, all positive
        match listMax? (pairs.map (fun p => p.1 / p.2)) with
        | some m => .ok m
        | none => .error .value
      else .error .assert
    else .error .assert

/-- `mul_factor_to_approximation(game, approximated_game)`. -/
def toApproximation (game approx : Table α) : Except Err α :=
  match approx.getValues none with
  | .error e => .error e
  | .ok a =>
    match game.getValues none with
    | .error e => .error e
    | .ok o => factor (o.drop 1) (a.drop 1)

/-- `mul_factor_upper_to_approximation(approximated_game, incomplete_game)`. -/
def upperToApproximation (approx inc : Table α) : Except Err α :=
  match approx.getValues none with
  | .error e => .error e
  | .ok a => factor (inc.getUpperBounds.drop 1) (a.drop 1)

/-- `mul_factor_to_lower_bound(game, incomplete_game)`. -/
def toLowerBound (game inc : Table α) : Except Err α :=
  match game.getValues none with
  | .error e => .error e
  | .ok o => factor (o.drop 1) (inc.getLowerBounds.drop 1)

/-- `mul_factor_lower_upper_bound(incomplete_game)`. -/
def lowerUpperBound (inc : Table α) : Except Err α :=
  factor (inc.getUpperBounds.drop 1) (inc.getLowerBounds.drop 1)

/-! #### the same on vectors that may hold NaN (`none`) -/

/-- `a >= b` on floats: False as soon as one side is NaN. -/
def geN : Option α → Option α → Bool
  | some a, some b => decide (b ≤ a)
  | _, _ => false

/-- `b > 0` on floats: False for NaN. -/
def posN : Option α → Bool
  | some b => decide (0 < b)
  | none => false

/-- `a / b` on floats that may be NaN; `none` = NaN.  Only called on rows that passed `posN`. -/
def quotN : Option α × Option α → Option α
  | (some a, some b) => some (a / b)
  | _ => none

/-- all entries of a list of optional values, or `none` when one is missing -/
def allSome {β : Type} : List (Option β) → Option (List β)
  | [] => some []
  | none :: _ => none
  | some x :: l => (allSome l).map (x :: ·)

/-- `factor` on vectors with NaN entries.  `Err.nan` would be a NaN reaching `np.max` — it cannot
    (`ICG.Mul.factorN_never_nan`): both assertions are False on a row that holds a NaN. -/
def factorN (num den : List (Option α)) : Except Err α :=
  match broadcast num den with
  | .error e => .error e
  | .ok pairs =>
    if pairs.all (fun p => geN p.1 p.2) then
      if den.all posN then
        match allSome (pairs.map quotN) with
        | none => .error .nan
        | some qs =>
          match listMax? qs with
          | some m => .ok m
          | none => .error .value
      else .error .assert
    else .error .assert

end factor

/-! ### max_xos_approximation.py -/

/-- a complete game as a `get_value`: never raises. -/
def okGet {α : Type} (v : Nat → α) : Nat → Except Err α := fun c => .ok (v c)

/-- one entry of `k_values`: `2^k·√n` or (the last one) `n`. -/
inductive KVal where
  | sqrtMul (k : Nat)
  | full
  deriving DecidableEq, Repr

/-- the exponents `k = 0, 1, …` with `2^k·√n < n`, i.e. `4^k < n`. -/
def kExps (n : Nat) : List Nat := (List.range n).takeWhile (fun k => 4 ^ k < n)

/-- `k_values` of `_get_k_r_values(n)`. -/
def kVals (n : Nat) : List KVal := (kExps n).map KVal.sqrtMul ++ [KVal.full]

/-- `r_values` of `_get_k_r_values(n)`: the powers `2^r < n²`, then `n²`. -/
def rVals (n : Nat) : List Nat :=
  ((List.range (2 * n)).takeWhile (fun r => 2 ^ r < n ^ 2)).map (fun r => 2 ^ r) ++ [n ^ 2]

/-- the test `m >= size` for `size` a k-value and `m` a natural number (`m = len(constructed) + 1`):
    `m ≥ 2^k·√n ⇔ m² ≥ 4^k·n`. -/
def KVal.reached (n : Nat) : KVal → Nat → Bool
  | .sqrtMul k, m => decide (4 ^ k * n ≤ m * m)
  | .full, m => decide (n ≤ m)

section xos
variable {α : Type}

/-- `_approx_xos_subroutine` along a list of players, starting from the coalition `ext` built so far:
    the `(player, marginal)` pairs and the queried ids. -/
def approxXosGo [Sub α] (get : Nat → Except Err α) : List Nat → Nat → Except Err (List (Nat × α) × List Nat)
  | [], _ => .ok ([], [])
  | p :: ps, ext =>
    let ext' := addPlayer ext p
    match get ext' with
    | .error e => .error e
    | .ok a =>
      match get ext with
      | .error e => .error e
      | .ok b =>
        match approxXosGo get ps ext' with
        | .error e => .error e
        | .ok (av, qs) => .ok ((p, a - b) :: av, ext' :: qs)

/-- `_approx_xos_subroutine(game, coalition)`. -/
def approxXos [Sub α] (get : Nat → Except Err α) (coalition : Nat) : Except Err (List (Nat × α) × List Nat) :=
  approxXosGo get (players coalition) 0

/-- the additive vector as the code holds it: `np.zeros(n)` with the marginals written at the players. -/
def avVector [Zero α] (n : Nat) (av : List (Nat × α)) : List α :=
  (List.range n).map (fun p => match av.lookup p with | some x => x | none => 0)

variable [LE α] [DecidableLE α] [Sub α] [Mul α] [Div α] [One α] [NatCast α] [Max α]

/-- one pass of `for player in (coalition - constructed).players` over the player list fixed at the start
    of the pass.  Returns the coalition constructed so far, the ids queried in this pass, and whether the
    `return` inside the loop was taken. -/
def maxPass (get : Nat → Except Err α) (reached : Nat → Bool) (limit : α) :
    List Nat → Nat → Except Err (Nat × List Nat × Bool)
  | [], c => .ok (c, [], false)
  | p :: ps, c =>
    if reached (size c + 1) then .ok (c, [], true)
    else
      let x := addPlayer c p
      match get x with
      | .error e => .error e
      | .ok a =>
        match get c with
        | .error e => .error e
        | .ok b =>
          match maxPass get reached limit ps (if limit ≤ a - b then x else c) with
          | .error e => .error e
          | .ok (r, qs, stop) => .ok (r, x :: qs, stop)

/-- the `while reduced_limit >= eps * initial_limit / n` loop; `thr` is the right-hand side, `q = 1 − eps`.
    At most `fuel` passes; `Err.other` when the fuel does not suffice. -/
def maxLoop (get : Nat → Except Err α) (coalition : Nat) (reached : Nat → Bool) (thr q : α) :
    Nat → α → Nat → Except Err (Nat × List Nat)
  | 0, limit, c => if thr ≤ limit then .error .other else .ok (c, [])
  | fuel + 1, limit, c =>
    if thr ≤ limit then
      match maxPass get reached limit (players (diff coalition c)) c with
      | .error e => .error e
      | .ok (c', qs, stop) =>
        if stop then .ok (c', qs)
        else
          match maxLoop get coalition reached thr q fuel (limit * q) c' with
          | .error e => .error e
          | .ok (r, qs') => .ok (r, qs ++ qs')
    else .ok (c, [])

/-- `_max_subroutine(game, coalition, size, eps)`; `n = game.number_of_players`. -/
def maxSubroutine (get : Nat → Except Err α) (n : Nat) (coalition : Nat) (reached : Nat → Bool) (eps : α)
    (fuel : Nat) : Except Err (Nat × List Nat) :=
  if coalition = 0 then .ok (0, [])
  else
    match mapE (fun p => get (singleton p)) (players coalition) with
    | .error e => .error e
    | .ok singles =>
      if singles.all (fun s => decide (1 ≤ s)) then
        match listMax? singles with
        | none => .error .value
        | some init =>
          -- a game without players cannot answer `get_value` of a singleton: the real class has raised
          -- IndexError above; a stand-in that answers anyway is not modelled
          if n = 0 then .error .other
          else maxLoop get coalition reached (eps * init / (n : α)) (1 - eps) fuel init 0
      else .error .assert

variable [Zero α] [Add α] [DecidableEq α]

/-- `x >= c·√n`, decided by squaring (no square root in the model). -/
def geSqrt (x c : α) (n : Nat) : Bool :=
  if 0 ≤ c then decide (0 ≤ x) && decide (c * c * (n : α) ≤ x * x)
  else decide (0 ≤ x) || decide (x * x ≤ c * c * (n : α))

/-- `singleton >= k_values[k] * r_values[r] / sqrt(n)`:  `2^k·√n·r/√n = 2^k·r`,  `n·r/√n = r·√n`. -/
def heavy (n : Nat) (kv : KVal) (r : Nat) (s : α) : Bool :=
  match kv with
  | .sqrtMul k => decide (((2 ^ k * r : Nat) : α) ≤ s)
  | .full => geSqrt s (r : α) n

/-- `x >= k_values[k] * r_values[r] / (2 * alpha)` for `alpha ≠ 0`:
    `2^k·√n·r/(2α) = (2^k·r/(2α))·√n`,  `n·r/(2α)` is rational. -/
def geThreshold (n : Nat) (kv : KVal) (r : Nat) (alpha x : α) : Bool :=
  match kv with
  | .sqrtMul k => geSqrt x (((2 ^ k * r : Nat) : α) / (((2 : Nat) : α) * alpha)) n
  | .full => decide (((n * r : Nat) : α) / (((2 : Nat) : α) * alpha) ≤ x)

/-- `for player in coalition.players: if not av[player] >= r/(4αβ): subcoalition -= player`. -/
def subOf (thr : α) (av : List (Nat × α)) (coalition : Nat) : Nat :=
  av.foldl (fun s (pa : Nat × α) => if thr ≤ pa.2 then s else removePlayer s pa.1) coalition

/-- the `while game.get_value(coalition) >= k·r/(2α)` loop of one cell: the candidate coalitions appended
    and the ids queried.  `Err.other`: ZeroDivisionError, or the loop state repeats (Python does not
    return), or out of fuel (never with `fuel = size coalition + 1`: `ICG.Mul.candLoop_returns`). -/
def candLoop (get : Nat → Except Err α) (n : Nat) (alpha beta eps : α) (kv : KVal) (r : Nat)
    (fuelMax : Nat) : Nat → Nat → Except Err (List Nat × List Nat)
  | 0, _ => .error .other
  | fuel + 1, c =>
    match get c with
    | .error e => .error e
    | .ok x =>
      if alpha = 0 then .error .other
      else if geThreshold n kv r alpha x then
        match approxXos get c with
        | .error e => .error e
        | .ok (av, q1) =>
          if c ≠ 0 ∧ alpha * beta = 0 then .error .other
          else
            let sub := subOf ((r : α) / (((4 : Nat) : α) * alpha * beta)) av c
            match maxSubroutine get n (diff c sub) (kv.reached n) eps fuelMax with
            | .error e => .error e
            | .ok (c', q2) =>
              if c' = c then .error .other
              else
                match candLoop get n alpha beta eps kv r fuelMax fuel c' with
                | .error e => .error e
                | .ok (cs, q3) => .ok (sub :: cs, q1 ++ q2 ++ q3)
      else .ok ([], [])

/-- `np.arange(n)[light_players[k, r].astype(bool)]`: the players whose singleton value is below the
    heavy threshold (`singles` has `n` entries). -/
def lightPlayers (n : Nat) (kv : KVal) (r : Nat) (singles : List α) : List Nat :=
  (List.range n).filter (fun p => match singles[p]? with
                                  | some s => !heavy n kv r s
                                  | none => false)

/-- one cell `(k, r)` of `_compute_candidate_coalitions_and_query_values`. -/
def candCell (get : Nat → Except Err α) (n : Nat) (alpha beta eps : α) (fuelMax : Nat) (singles : List α)
    (kv : KVal) (r : Nat) : Except Err (List Nat × List Nat) :=
  if n = 0 then .error .other          -- `… / sqrt(0)`: ZeroDivisionError
  else
    let remaining := fromPlayers (lightPlayers n kv r singles)
    match maxSubroutine get n remaining (kv.reached n) eps fuelMax with
    | .error e => .error e
    | .ok (c, q0) =>
      match candLoop get n alpha beta eps kv r fuelMax (size c + 1) c with
      | .error e => .error e
      | .ok (cs, q1) => .ok (cs, q0 ++ q1)

/-- `np.unique` of ids below `2^n`: increasing, each once. -/
def uniqueIds (n : Nat) (q : List Nat) : List Nat := (List.range (2 ^ n)).filter (fun c => q.contains c)

/-- `_compute_candidate_coalitions_and_query_values`: the `len(k_values) × len(r_values)` array of candidate
    lists (row-major) and `np.unique` of the queried ids. -/
def candidates (get : Nat → Except Err α) (n : Nat) (alpha beta eps : α) (fuelMax : Nat) :
    Except Err (List (List (List Nat)) × List Nat) :=
  match mapE (fun p => get (singleton p)) (List.range n) with
  | .error e => .error e
  | .ok singles =>
    if singles.all (fun s => decide (1 ≤ s)) then
      match mapE (fun kv => mapE (fun r => candCell get n alpha beta eps fuelMax singles kv r) (rVals n))
                 (kVals n) with
      | .error e => .error e
      | .ok cells =>
        .ok (cells.map (fun row => row.map Prod.fst),
             uniqueIds n (cells.flatMap (fun row => row.flatMap Prod.snd)))
    else .error .assert

/-- the inner `for candidate_coalition in candidate_coalitions[k, r]` with `u = 4αβ ≠ 0`. -/
def foldCell [LT α] [DecidableLT α] (u : α) (c r : Nat) (cell : List Nat) (m : α) : α :=
  cell.foldl (fun m cand =>
    let new := ((size (inter cand c) * r : Nat) : α) / u
    if m < new then new else m) m

/-- `for r in range(len(r_values))` over one row of the candidate array, `r` counting from `r0`. -/
def foldRow [LT α] [DecidableLT α] (u : α) (c : Nat) : Nat → List (List Nat) → α → α
  | _, [], m => m
  | r, cell :: row, m => foldRow u c (r + 1) row (foldCell u c r cell m)

/-- the value `_compute_approximation` writes for a non-empty coalition, starting from the largest
    singleton value `ms`. -/
def approxValue [LT α] [DecidableLT α] (u : α) (cands : List (List (List Nat))) (c : Nat) (ms : α) : α :=
  cands.foldl (fun m row => foldRow u c 0 row m) ms

/-- `singleton_values[player]` (numpy indexing: IndexError out of range). -/
def lookupE (singles : List α) (p : Nat) : Except Err α :=
  match singles[p]? with
  | some s => .ok s
  | none => .error .index

/-- `_compute_approximation(game, candidate_coalitions, k_values, r_values, alpha, beta)`; the two value
    lists only give the shape of the candidate array, which `cands` carries itself. -/
def computeApproximation [LT α] [DecidableLT α] (get : Nat → Except Err α) (n : Nat)
    (cands : List (List (List Nat))) (alpha beta : α) : Except Err (List α) :=
  match mapE (fun p => get (singleton p)) (List.range n) with
  | .error e => .error e
  | .ok singles =>
    if singles.all (fun s => decide (1 ≤ s)) then
      -- `… / (4 * alpha * beta)` is evaluated once there is a non-empty coalition and a candidate
      if n ≠ 0 ∧ (cands.any fun row => row.any fun cell => !cell.isEmpty) ∧ ((4 : Nat) : α) * alpha * beta = 0 then
        .error .other
      else
        mapE (fun c =>
          if c = 0 then .ok 0
          else
            match mapE (lookupE singles) (players c) with
            | .error e => .error e
            | .ok inside =>
              match listMax? inside with
              | none => .error .value
              | some ms => .ok (approxValue (((4 : Nat) : α) * alpha * beta) cands c ms)) (allCoalitions n)
    else .error .assert

/-- `compute_max_xos_approximation(game, alpha, beta, eps)`: the queried ids and the values of the
    approximated game. -/
def maxXos [LT α] [DecidableLT α] (get : Nat → Except Err α) (n : Nat) (alpha beta eps : α) (fuelMax : Nat) :
    Except Err (List Nat × List α) :=
  match candidates get n alpha beta eps fuelMax with
  | .error e => .error e
  | .ok (cands, q) =>
    match computeApproximation get n cands alpha beta with
    | .error e => .error e
    | .ok vals => .ok (q, vals)

end xos

/-! ### the instantiation the driver runs: core `Rat` with core's own instances -/
namespace AtRat

def factor (num den : List Rat) : Except Err Rat := Mul.factor num den
def factorN (num den : List (Option Rat)) : Except Err Rat := Mul.factorN num den
def toApproximation (game approx : Table Rat) : Except Err Rat := Mul.toApproximation game approx
def upperToApproximation (approx inc : Table Rat) : Except Err Rat := Mul.upperToApproximation approx inc
def toLowerBound (game inc : Table Rat) : Except Err Rat := Mul.toLowerBound game inc
def lowerUpperBound (inc : Table Rat) : Except Err Rat := Mul.lowerUpperBound inc

/-- the least `f` with `n < f·eps²` (`0 < eps`): enough passes for `maxLoop`
    (`ICG.Mul.maxSubroutine_terminates_atRat`). -/
def fuelFor (n : Nat) (eps : Rat) : Nat :=
  if 0 < eps then ((n : Rat) / (eps * eps)).floor.toNat + 1 else 0

def approxXos (t : Table Rat) (c : Nat) : Except Err (List (Nat × Rat) × List Nat) := Mul.approxXos t.getValue c
def maxSubroutine (t : Table Rat) (c : Nat) (reached : Nat → Bool) (eps : Rat) : Except Err (Nat × List Nat) :=
  Mul.maxSubroutine t.getValue t.n c reached eps (fuelFor t.n eps)
def candidates (t : Table Rat) (alpha beta eps : Rat) : Except Err (List (List (List Nat)) × List Nat) :=
  Mul.candidates t.getValue t.n alpha beta eps (fuelFor t.n eps)
def computeApproximation (t : Table Rat) (cands : List (List (List Nat))) (alpha beta : Rat) :
    Except Err (List Rat) := Mul.computeApproximation t.getValue t.n cands alpha beta
def maxXos (t : Table Rat) (alpha beta eps : Rat) : Except Err (List Nat × List Rat) :=
  Mul.maxXos t.getValue t.n alpha beta eps (fuelFor t.n eps)

end AtRat

end Mul
end ICG

/-
  ICG.Props.FloatErrorNorms — the gap functions `l1_norm` / `linf_norm` (norms.py) under rounding, and what that
  means for the clause "the reward is … never positive, up to float rounding" of the environment (C09).

  The reward of the environment is the NEGATED gap.  For the exploitability gap the rounded value can be
  negative by the slack of `ICG.ApproxShapley.exploitability_nonneg_approx`.  For the norms no slack is
  needed at all: `abs` is exact, and ANY rounded addition that maps two non-negative operands to a
  non-negative result (every IEEE rounding mode does: rounding is monotone and `0` is representable) keeps
  the sum non-negative, whatever the rounded subtraction returned.  So the rounded `l1` / `linf` gaps are
  `≥ 0` EXACTLY, and the reward `−gap` is `≤ 0` exactly; in addition the rounded `l1` is within
  `2^n·(2δ)` of the exact one.

  `l1Approx` / `linfApprox` perform the operations of the model (`ICG.l1`, `ICG.linf`: widths over all `2^n`
  rows in id order, `abs`, sum from 0 left to right / maximum) with the subtraction and the addition
  replaced by `sub'`, `add'`.  (`sumApprox` and `sumApprox_error_map` come from ICG.Props.FloatErrorShapley.)
-/
import ICG.Props.FloatErrorShapley

namespace ICG
namespace ApproxNorms

open ApproxShapley

variable {α : Type} [Field α] [LinearOrder α] [IsStrictOrderedRing α]

/-- `np.abs(upper − lower)` row by row with a rounded subtraction -/
def absWidths (sub' : α → α → α) (n : Nat) (lo hi : Nat → α) : List α :=
  (allCoalitions n).map (fun c => absv (sub' (hi c) (lo c)))

/-- `np.linalg.norm(upper − lower, 1)` with rounded subtraction and addition -/
def l1Approx (add' sub' : α → α → α) (n : Nat) (lo hi : Nat → α) : α :=
  sumApprox add' (absWidths sub' n lo hi)

/-- `np.linalg.norm(upper − lower, inf)` with a rounded subtraction (`abs` and `max` are exact) -/
def linfApprox (sub' : α → α → α) (n : Nat) (lo hi : Nat → α) : Except Err α :=
  match listMax? (absWidths sub' n lo hi) with
  | some m => .ok m
  | none => .error .value

theorem absv_eq_abs (x : α) : absv x = |x| := rfl

theorem absv_nonneg (x : α) : 0 ≤ absv x := by
  rw [absv_eq_abs]; exact abs_nonneg x

theorem approx_exact (n : Nat) (lo hi : Nat → α) :
    l1Approx (· + ·) (· - ·) n lo hi = l1 n lo hi ∧ linfApprox (· - ·) n lo hi = linf n lo hi := by
  refine ⟨?_, ?_⟩
  · simp [l1Approx, absWidths, l1, widths, sumApprox, listSum, List.map_map, Function.comp_def]
  · simp only [linfApprox, absWidths, linf, widths, List.map_map, Function.comp_def]
    cases listMax? (List.map (fun c => absv (hi c - lo c)) (allCoalitions n)) <;> rfl

theorem absWidths_nonneg (sub' : α → α → α) (n : Nat) (lo hi : Nat → α) : ∀ x ∈ absWidths sub' n lo hi, 0 ≤ x := by
  intro x hx
  obtain ⟨c, _, rfl⟩ := List.mem_map.mp hx
  exact absv_nonneg _

theorem l1Approx_nonneg {add' sub' : α → α → α} (hadd : ∀ a b, 0 ≤ a → 0 ≤ b → 0 ≤ add' a b)
    (n : Nat) (lo hi : Nat → α) : 0 ≤ l1Approx add' sub' n lo hi :=
  foldl_nonneg hadd _ 0 le_rfl (absWidths_nonneg sub' n lo hi)

theorem listMax?_nonneg : ∀ (l : List α) (m : α), (∀ x ∈ l, 0 ≤ x) → listMax? l = some m → 0 ≤ m
  | [], _, _, h => by cases h
  | x :: l, m, hl, h => by
    cases h
    exact foldl_nonneg (fun a b ha _ => le_max_of_le_left ha) l x (hl x (by simp))
      (fun y hy => hl y (by simp [hy]))

theorem linfApprox_nonneg (sub' : α → α → α) (n : Nat) (lo hi : Nat → α) {m : α}
    (h : linfApprox sub' n lo hi = .ok m) : 0 ≤ m := by
  unfold linfApprox at h
  cases hm : listMax? (absWidths sub' n lo hi) with
  | none => rw [hm] at h; cases h
  | some m' =>
    rw [hm] at h
    cases h
    exact listMax?_nonneg _ _ (absWidths_nonneg sub' n lo hi) hm

/-- the reward `−gap` of the environment with a norm gap is never positive, exactly, in rounded arithmetic -/
theorem reward_l1_nonpos {add' sub' : α → α → α} (hadd : ∀ a b, 0 ≤ a → 0 ≤ b → 0 ≤ add' a b)
    (n : Nat) (lo hi : Nat → α) : -(l1Approx add' sub' n lo hi) ≤ 0 :=
  neg_nonpos.mpr (l1Approx_nonneg hadd n lo hi)

theorem reward_linf_nonpos (sub' : α → α → α) (n : Nat) (lo hi : Nat → α) {m : α}
    (h : linfApprox sub' n lo hi = .ok m) : -m ≤ 0 :=
  neg_nonpos.mpr (linfApprox_nonneg sub' n lo hi h)

/-- error of the rounded `l1` gap: each of the `2^n` widths carries the subtraction's error (`abs` is
    1-Lipschitz), each addition adds `δ`. -/
theorem l1Approx_error {add' sub' : α → α → α} {δ : α} (hadd : ∀ a b, |add' a b - (a + b)| ≤ δ)
    (hsub : ∀ a b, |sub' a b - (a - b)| ≤ δ) (n : Nat) (lo hi : Nat → α) :
    |l1Approx add' sub' n lo hi - l1 n lo hi| ≤ (2 ^ n : α) * (2 * δ) := by
  have h := sumApprox_error_map hadd (fun c => absv (sub' (hi c) (lo c))) (fun c => absv (hi c - lo c))
    (fun _ => δ) (allCoalitions n) (fun c _ => (abs_abs_sub_abs_le_abs_sub _ _).trans (hsub _ _))
  rw [sum_map_const, show (allCoalitions n).length = 2 ^ n from List.length_range] at h
  have hl1 : l1 n lo hi = listSum ((allCoalitions n).map (fun c => absv (hi c - lo c))) := by
    unfold l1 widths; rw [List.map_map]; rfl
  rw [hl1]
  calc _ ≤ ((2 ^ n : Nat) : α) * δ + ((2 ^ n : Nat) : α) * δ := h
    _ = (2 ^ n : α) * (2 * δ) := by push_cast; ring

/-! ### non-vacuity: an addition that rounds towards zero by one relative unit 1/1024 (sign-preserving) and a
    subtraction that is off by 1/8: the rounded `l1` differs from the exact one and is still `≥ 0` -/

def addDown (a b : ℚ) : ℚ := (a + b) * (1023 / 1024)
def subOff (a b : ℚ) : ℚ := a - b - 1 / 8

theorem addDown_nonneg (a b : ℚ) (ha : 0 ≤ a) (hb : 0 ≤ b) : 0 ≤ addDown a b := by
  unfold addDown
  have : 0 ≤ a + b := add_nonneg ha hb
  positivity

def exLo : Nat → ℚ := fun c => [0, 1, 1, 2, 1, 2, 2, 5].getD c 0
def exHi : Nat → ℚ := fun c => [0, 1, 1, 3, 1, 7 / 2, 3, 5].getD c 0

example : l1 3 exLo exHi = 7 / 2 := by decide +kernel
example : l1Approx addDown subOff 3 exLo exHi ≠ l1 3 exLo exHi := by decide +kernel
example : 0 ≤ l1Approx addDown subOff 3 exLo exHi := l1Approx_nonneg addDown_nonneg 3 exLo exHi
example : linfApprox subOff 3 exLo exHi = .ok (11 / 8) := by decide +kernel

end ApproxNorms
end ICG

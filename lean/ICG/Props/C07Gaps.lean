/-
  Property C07, gap functions — "every offered gap function (exploitability, l1, l2, l∞ norm of the width
  vector) is non-increasing along any sequence of reveals, never negative, and zero once every value is
  revealed."

  ICG/Props/C07.lean proves that more knowledge gives row-wise nested intervals (`C07.Nested`), along
  single edges of the knowledge lattice and along reveal paths.  ICG/Lemmas/GapMono.lean proves that the
  four gap functions of the model (`ICG.l1`, `ICG.linf`, `ICG.l2sq`, `Table.exploitability`,
  ICG/Model/Shapley.lean) are monotone in nested interval vectors, non-negative, and zero on degenerate
  ones.  This file composes the two, for the MODEL computers `sa`, `sac`, `sam r`:

  * l1, l∞ : every `[AddCommGroup α] [LinearOrder α] [IsOrderedAddMonoid α]`
  * l2², exploitability : every `[Field α] [LinearOrder α] [IsStrictOrderedRing α]`; exploitability in
    addition needs `v ∅ = 0` (the C05 identity is for upper(∅) = 0, which every table built by the package
    satisfies).  `l2_norm` is `sqrt` of l2²: the statements for the real square root are in
    ICG/Props/C07L2.lean; monotonicity of the correctly rounded square root is the one trusted step
    (DESIGN 5/C07).

  At the end the rational 3-player instance `exVq`, `exTq` (`exVq_SA`), also used by C07L2 and Compose.
-/
import ICG.Props.C07
import ICG.Lemmas.GapMono
import ICG.Props.C05

namespace ICG.C07
open ICG Table ICG.SpecSA
open ICG.BoundsCommon

variable {α : Type}

section group
variable [AddCommGroup α] [LinearOrder α] [IsOrderedAddMonoid α]

set_option linter.unusedSectionVars false in
theorem Nested.toGapMono {s s' : Table α} (h : Nested s s') :
    GapMono.Nested s.n s.lo s.hi s'.lo s'.hi := h.2

/-- the two computes of `interval_mono`, with everything the gap functions need -/
theorem mono_full (k : Computer) (t t' : Table α) (v : Nat → α) (hn : t'.n = t.n)
    (hle : KnownLe t.known t'.known) (hag : t.Agree v) (hag' : t'.Agree v) (hsa : SA t.n v)
    (hmd : k.NeedsMono → MonoDec t.n v) (hmin : MinInfo t.n t.known) :
    ∃ s s', k.run t = .ok s ∧ k.run t' = .ok s' ∧ Nested s s' ∧ SoundFor t s v ∧ SoundFor t' s' v := by
  obtain ⟨s, s', h1, h2, h3, _⟩ := gap_width_mono k t t' v hn hle hag hag' hsa hmd hmin
  obtain ⟨s2, g1, g2⟩ := run_sound k t hsa hmd hmin hag
  obtain ⟨s2', g1', g2'⟩ := run_sound k t' (by rw [hn]; exact hsa) (by rw [hn]; exact hmd)
    (by rw [hn]; exact minInfo_mono hmin hle) hag'
  rw [h1] at g1; cases g1
  rw [h2] at g1'; cases g1'
  exact ⟨s, s', h1, h2, h3, g2, g2'⟩

/-- **C07_gap_mono, l1.** -/
theorem mono_l1 (k : Computer) (t t' : Table α) (v : Nat → α) (hn : t'.n = t.n)
    (hle : KnownLe t.known t'.known) (hag : t.Agree v) (hag' : t'.Agree v) (hsa : SA t.n v)
    (hmd : k.NeedsMono → MonoDec t.n v) (hmin : MinInfo t.n t.known) :
    ∃ s s', k.run t = .ok s ∧ k.run t' = .ok s' ∧ l1 t.n s'.lo s'.hi ≤ l1 t.n s.lo s.hi := by
  obtain ⟨s, s', h1, h2, h3, g, _⟩ := mono_full k t t' v hn hle hag hag' hsa hmd hmin
  refine ⟨s, s', h1, h2, ?_⟩
  have := GapMono.l1_mono h3.toGapMono
  rwa [g.1] at this

/-- **C07_gap_mono, l∞** (`linf` never raises: there are `2^n ≥ 1` rows). -/
theorem mono_linf (k : Computer) (t t' : Table α) (v : Nat → α) (hn : t'.n = t.n)
    (hle : KnownLe t.known t'.known) (hag : t.Agree v) (hag' : t'.Agree v) (hsa : SA t.n v)
    (hmd : k.NeedsMono → MonoDec t.n v) (hmin : MinInfo t.n t.known) :
    ∃ s s' m m', k.run t = .ok s ∧ k.run t' = .ok s' ∧ linf t.n s.lo s.hi = .ok m ∧
      linf t.n s'.lo s'.hi = .ok m' ∧ m' ≤ m := by
  obtain ⟨s, s', h1, h2, h3, g, _⟩ := mono_full k t t' v hn hle hag hag' hsa hmd hmin
  obtain ⟨m, m', a, b, c⟩ := GapMono.linf_mono h3.toGapMono
  rw [g.1] at a b
  exact ⟨s, s', m, m', h1, h2, a, b, c⟩

/-- **C07_gap_nonneg, l1 and l∞** (true of every pair of columns; stated after a compute). -/
theorem nonneg_l1_linf (k : Computer) (t : Table α) (hmin : MinInfo t.n t.known) (hinv : t.Inv) :
    ∃ s, k.run t = .ok s ∧ 0 ≤ l1 t.n s.lo s.hi ∧ ∃ m, linf t.n s.lo s.hi = .ok m ∧ 0 ≤ m := by
  obtain ⟨s, h, _⟩ := run_spec k t hmin hinv
  exact ⟨s, h, GapMono.l1_nonneg _ _ _, GapMono.linf_nonneg _ _ _⟩

/-- **C07_gap_zero_full, l1 and l∞.** -/
theorem zero_full_l1_linf (k : Computer) (t : Table α) (hinv : t.Inv)
    (hall : ∀ c, c < 2 ^ t.n → t.known c = true) :
    ∃ s, k.run t = .ok s ∧ l1 t.n s.lo s.hi = 0 ∧ linf t.n s.lo s.hi = .ok 0 := by
  obtain ⟨s, h1, h2⟩ := gap_width_zero_full k t hinv hall
  have hd : GapMono.Degenerate t.n s.lo s.hi := fun c hc => by rw [(h2 c hc).1, (h2 c hc).2.1]
  exact ⟨s, h1, GapMono.l1_zero hd, GapMono.linf_zero hd⟩

/-- **C07_path, l1 and l∞**: along every reveal path, for every earlier table `a` and later table `b`
    of the trajectory the gap of `b` is at most the gap of `a`. -/
theorem path_l1 (k : Computer) (v : Nat → α) (cs : List Nat) {t : Table α} {ts : List (Table α)}
    (hf : Fresh k v t) (hsa : SA t.n v) (hmd : k.NeedsMono → MonoDec t.n v)
    (h : revealRun k v t cs = .ok ts) :
    (t :: ts).Pairwise (fun a b => l1 b.n b.lo b.hi ≤ l1 a.n a.lo a.hi) :=
  (path k v cs hf hsa hmd h).1.imp (fun hab => by
    rw [hab.1]; exact GapMono.l1_mono hab.toGapMono)

theorem path_linf (k : Computer) (v : Nat → α) (cs : List Nat) {t : Table α} {ts : List (Table α)}
    (hf : Fresh k v t) (hsa : SA t.n v) (hmd : k.NeedsMono → MonoDec t.n v)
    (h : revealRun k v t cs = .ok ts) :
    (t :: ts).Pairwise (fun a b => ∃ m m', linf a.n a.lo a.hi = .ok m ∧ linf b.n b.lo b.hi = .ok m' ∧
      m' ≤ m) :=
  (path k v cs hf hsa hmd h).1.imp (fun hab => by
    obtain ⟨m, m', a, b, c⟩ := GapMono.linf_mono hab.toGapMono
    rw [← hab.1] at b
    exact ⟨m, m', a, b, c⟩)

end group

section field
variable [Field α] [LinearOrder α] [IsStrictOrderedRing α]

/-- **C07_gap_mono, l2²** (the square of `l2_norm`). -/
theorem mono_l2sq (k : Computer) (t t' : Table α) (v : Nat → α) (hn : t'.n = t.n)
    (hle : KnownLe t.known t'.known) (hag : t.Agree v) (hag' : t'.Agree v) (hsa : SA t.n v)
    (hmd : k.NeedsMono → MonoDec t.n v) (hmin : MinInfo t.n t.known) :
    ∃ s s', k.run t = .ok s ∧ k.run t' = .ok s' ∧ l2sq t.n s'.lo s'.hi ≤ l2sq t.n s.lo s.hi := by
  obtain ⟨s, s', h1, h2, h3, g, _⟩ := mono_full k t t' v hn hle hag hag' hsa hmd hmin
  refine ⟨s, s', h1, h2, ?_⟩
  have := GapMono.l2sq_mono h3.toGapMono
  rwa [g.1] at this

set_option linter.unusedSectionVars false in
/-- what exploitability needs of a computed table: grand coalition known, upper(∅) = 0 -/
theorem expl_side (t s : Table α) (v : Nat → α) (hv0 : v 0 = 0) (hmin : MinInfo t.n t.known)
    (hs : SoundFor t s v) : s.known (grand s.n) = true ∧ s.hi 0 = 0 := by
  obtain ⟨h1, h2, h3⟩ := hs
  refine ⟨by rw [h1, h2]; exact hmin.2.1, ?_⟩
  rw [((h3 0 (Nat.two_pow_pos _)).2.2.2 hmin.1).2, hv0]

/-- **C07_gap_mono, exploitability** — both calls succeed and the value does not grow.  `v ∅ = 0`. -/
theorem mono_expl (k : Computer) (t t' : Table α) (v : Nat → α) (hv0 : v 0 = 0) (hn : t'.n = t.n)
    (hle : KnownLe t.known t'.known) (hag : t.Agree v) (hag' : t'.Agree v) (hsa : SA t.n v)
    (hmd : k.NeedsMono → MonoDec t.n v) (hmin : MinInfo t.n t.known) :
    ∃ s s' x x', k.run t = .ok s ∧ k.run t' = .ok s' ∧ s.exploitability = .ok x ∧
      s'.exploitability = .ok x' ∧ x' ≤ x := by
  obtain ⟨s, s', h1, h2, h3, g, g'⟩ := mono_full k t t' v hn hle hag hag' hsa hmd hmin
  obtain ⟨a1, a2⟩ := expl_side t s v hv0 hmin g
  obtain ⟨b1, b2⟩ := expl_side t' s' v hv0 (by rw [hn]; exact minInfo_mono hmin hle) g'
  obtain ⟨x, x', e1, e2, e3⟩ := GapMono.expl_mono s s' h3.1 a1 b1 a2 b2 h3.toGapMono
  exact ⟨s, s', x, x', h1, h2, e1, e2, e3⟩

/-- **C07_gap_nonneg, l2² and exploitability.** -/
theorem nonneg_l2sq_expl (k : Computer) (t : Table α) (v : Nat → α) (hv0 : v 0 = 0) (hag : t.Agree v)
    (hsa : SA t.n v) (hmd : k.NeedsMono → MonoDec t.n v) (hmin : MinInfo t.n t.known) :
    ∃ s, k.run t = .ok s ∧ 0 ≤ l2sq t.n s.lo s.hi ∧ ∃ x, s.exploitability = .ok x ∧ 0 ≤ x := by
  obtain ⟨s, h1, g⟩ := run_sound k t hsa hmd hmin hag
  obtain ⟨a1, a2⟩ := expl_side t s v hv0 hmin g
  refine ⟨s, h1, GapMono.l2sq_nonneg _ _ _, GapMono.expl_nonneg s a1 a2 ?_⟩
  intro c hc
  rw [g.1] at hc
  exact (g.2.2 c hc).2.2.1

/-- **C07_gap_zero_full, l2² and exploitability** (table value of ∅ is 0). -/
theorem zero_full_l2sq_expl (k : Computer) (t : Table α) (hinv : t.Inv) (h0 : t.lo 0 = 0)
    (hall : ∀ c, c < 2 ^ t.n → t.known c = true) :
    ∃ s, k.run t = .ok s ∧ l2sq t.n s.lo s.hi = 0 ∧ s.exploitability = .ok 0 := by
  have hp := Nat.two_pow_pos t.n
  have hmin := MinInfo.of_all_known hall
  obtain ⟨s, h1, h2n, h2k, _⟩ := run_spec k t hmin hinv
  obtain ⟨s', h1', h2⟩ := gap_width_zero_full k t hinv hall
  rw [h1] at h1'; cases h1'
  have hd : GapMono.Degenerate t.n s.lo s.hi := fun c hc => by rw [(h2 c hc).1, (h2 c hc).2.1]
  refine ⟨s, h1, GapMono.l2sq_zero hd, ?_⟩
  apply GapMono.expl_zero s (by rw [h2n, h2k]; exact hmin.2.1) (by rw [h2n]; exact hd)
  rw [(h2 0 hp).2.1, h0]

theorem path_l2sq (k : Computer) (v : Nat → α) (cs : List Nat) {t : Table α} {ts : List (Table α)}
    (hf : Fresh k v t) (hsa : SA t.n v) (hmd : k.NeedsMono → MonoDec t.n v)
    (h : revealRun k v t cs = .ok ts) :
    (t :: ts).Pairwise (fun a b => l2sq b.n b.lo b.hi ≤ l2sq a.n a.lo a.hi) :=
  (path k v cs hf hsa hmd h).1.imp (fun hab => by
    rw [hab.1]; exact GapMono.l2sq_mono hab.toGapMono)

/-- **C07_path, exploitability**: defined at every table of the trajectory and non-increasing. -/
theorem path_expl (k : Computer) (v : Nat → α) (hv0 : v 0 = 0) (cs : List Nat) {t : Table α}
    {ts : List (Table α)} (hf : Fresh k v t) (hsa : SA t.n v) (hmd : k.NeedsMono → MonoDec t.n v)
    (h : revealRun k v t cs = .ok ts) :
    (t :: ts).Pairwise (fun a b => ∃ x x', a.exploitability = .ok x ∧ b.exploitability = .ok x' ∧
      x' ≤ x) := by
  obtain ⟨hp, hfr⟩ := path k v cs hf hsa hmd h
  have hfresh : ∀ a ∈ t :: ts, Fresh k v a := by
    intro a ha
    rcases List.mem_cons.mp ha with rfl | ha
    · exact hf
    · exact hfr a ha
  have side : ∀ a, Fresh k v a → a.known (grand a.n) = true ∧ a.hi 0 = 0 := by
    intro a ha
    exact ⟨ha.1.2.1, by rw [(ha.2.1 0 (Nat.two_pow_pos _) ha.1.1).2, hv0]⟩
  apply List.Pairwise.imp_of_mem _ hp
  intro a b ha hb hab
  obtain ⟨a1, a2⟩ := side a (hfresh a ha)
  obtain ⟨b1, b2⟩ := side b (hfresh b hb)
  exact GapMono.expl_mono a b hab.1 a1 b1 a2 b2 hab.toGapMono

end field

/-! ### the hypotheses are satisfiable (3 players; `Int` for l1 / l∞, `Rat` for l2² / exploitability) -/

example : ∃ s s', sa Ex.exT = .ok s ∧ sa Ex.exT' = .ok s' ∧ l1 3 s'.lo s'.hi ≤ l1 3 s.lo s.hi :=
  mono_l1 .sa Ex.exT Ex.exT' exV rfl Ex.exT_le Ex.exT_agree Ex.exT'_agree Ex.exT_sa (fun h => h.elim)
    Ex.exT_min

example (r : Nat) : ∃ s s' m m', sam r Ex.samT = .ok s ∧ sam r Ex.samT' = .ok s' ∧
    linf 3 s.lo s.hi = .ok m ∧ linf 3 s'.lo s'.hi = .ok m' ∧ m' ≤ m :=
  mono_linf (.sam r) Ex.samT Ex.samT' SAMExample.v rfl Ex.samT_le Ex.samT_agree Ex.samT'_agree
    Ex.samT_sa (fun _ => Ex.samT_md) Ex.samT_min

def exVq : Nat → Rat := fun c => (exV c : Int)

def exTq (kn : Nat → Bool) : Table Rat :=
  { n := 3, known := kn, lo := fun c => if kn c then exVq c else 99, hi := fun c => if kn c then exVq c else -99 }

theorem exTq_agree (kn : Nat → Bool) : (exTq kn).Agree exVq := by
  intro c _ hk
  have hk' : kn c = true := hk
  simp [exTq, hk']

theorem exVq_SA : SA 3 exVq := by
  rw [SA_iff_bounded]; unfold exVq exV; decide +kernel

example : ∃ s s' x x', sac (exTq exKnown) = .ok s ∧ sac (exTq exKnown') = .ok s' ∧
    s.exploitability = .ok x ∧ s'.exploitability = .ok x' ∧ x' ≤ x :=
  mono_expl .sac (exTq exKnown) (exTq exKnown') exVq (by decide +kernel) rfl exKnown_le
    (exTq_agree _) (exTq_agree _) exVq_SA (fun h => h.elim) exKnown_minInfo

example : ∃ s s', sa (exTq exKnown) = .ok s ∧ sa (exTq exKnown') = .ok s' ∧
    l2sq 3 s'.lo s'.hi ≤ l2sq 3 s.lo s.hi :=
  mono_l2sq .sa (exTq exKnown) (exTq exKnown') exVq rfl exKnown_le
    (exTq_agree _) (exTq_agree _) exVq_SA (fun h => h.elim) exKnown_minInfo

end ICG.C07

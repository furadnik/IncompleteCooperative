/-
  Property C18 (coalition part) — coalitions are finite sets in both representations.

  The finite set of a mask `c` is `{i | c.testBit i = true}`; within `n` players it is the `Finset`
  `toFinset n c = {i < n | c.testBit i}`.  Every theorem is for every player count `n` and every mask; where
  `toFinset n` has to lose nothing, or an id-array enumeration is involved, the mask is below `2^n`.
  Theorems about ICG.Model.Bits (the model of coalitions.py, coalition_ids.py, functoolz.powerset and
  the relation table of bounds.py); the predicates of C18 are in Props/C18pred.

  The examples use `decide +kernel` where a definition recurses by well-founded recursion
  (`size`, `players`), which plain `decide` does not unfold.
-/
import ICG.Lemmas.Enum
import ICG.Lemmas.Sweep
import Mathlib.Data.Finset.Card
import Mathlib.Data.Finset.Lattice.Basic
import Mathlib.Data.Finset.SDiff
import Mathlib.Data.Finset.Range
import Mathlib.Data.Finset.Filter

namespace ICG.C18
open ICG

/-- the set of players of mask `c` among the first `n` players -/
def toFinset (n c : Nat) : Finset Nat := (Finset.range n).filter (fun i => c.testBit i = true)

theorem mem_toFinset {n c i : Nat} : i ∈ toFinset n c ↔ i < n ∧ c.testBit i = true := by
  simp [toFinset]

theorem testBit_false_of_ge {c n i : Nat} (hc : c < 2 ^ n) (hi : n ≤ i) : c.testBit i = false :=
  lt_two_pow_iff_testBit.mp hc i hi

theorem mem_toFinset_of_lt {c n i : Nat} (hc : c < 2 ^ n) : i ∈ toFinset n c ↔ c.testBit i = true :=
  mem_toFinset.trans ⟨fun h => h.2, fun h => ⟨lt_of_testBit hc h, h⟩⟩

/-- for a mask within `n` players `toFinset n` loses nothing: masks are determined by their sets -/
theorem toFinset_injective {n a b : Nat} (ha : a < 2 ^ n) (hb : b < 2 ^ n)
    (h : toFinset n a = toFinset n b) : a = b := by
  apply Nat.eq_of_testBit_eq; intro i
  rw [Bool.eq_iff_iff, ← mem_toFinset_of_lt ha, ← mem_toFinset_of_lt hb, h]

example : toFinset 4 0b1011 = {0, 1, 3} := by decide

/-! ### the operators of `Coalition` -/

theorem inter_toFinset (n a b : Nat) : toFinset n (inter a b) = toFinset n a ∩ toFinset n b := by
  simp only [toFinset, inter_testBit, Bool.and_eq_true, Finset.filter_and]

example : inter 0b1011 0b0110 = 0b0010 := by decide

/-- `a | b` is union -/
theorem union_testBit (a b i : Nat) : (union a b).testBit i = (a.testBit i || b.testBit i) := by
  simp [union]

theorem union_toFinset (n a b : Nat) : toFinset n (union a b) = toFinset n a ∪ toFinset n b := by
  simp only [toFinset, union_testBit, Bool.or_eq_true, Finset.filter_or]

example : union 0b1011 0b0110 = 0b1111 := by decide

theorem diff_toFinset (n a b : Nat) : toFinset n (diff a b) = toFinset n a \ toFinset n b := by
  simp only [toFinset, diff_testBit, Bool.and_eq_true, Bool.not_eq_true', ← Bool.not_eq_true,
    Finset.filter_and_not]

/-- `b` is not a subset of `a` here: `& ~` and `^` differ (0b1011 ^ 0b0110 = 0b1101) -/
example : diff 0b1011 0b0110 = 0b1001 := by decide

theorem diff_lt {a b n : Nat} (ha : a < 2 ^ n) : diff a b < 2 ^ n := by
  rw [lt_two_pow_iff_testBit]; intro i hi
  rw [diff_testBit, testBit_false_of_ge ha hi]; rfl

theorem grand_testBit (n i : Nat) : (grand n).testBit i = decide (i < n) := testBit_grand n i

theorem grand_toFinset (n : Nat) : toFinset n (grand n) = Finset.range n := by
  ext i; simp [mem_toFinset, grand_testBit]

/-- `Coalition.inverted(n)` is the complement within the `n` players -/
theorem inverted_testBit (c n i : Nat) : (inverted c n).testBit i = (decide (i < n) && !c.testBit i) := by
  unfold inverted; rw [diff_testBit, testBit_grand]

theorem inverted_lt (c n : Nat) : inverted c n < 2 ^ n :=
  diff_lt (grand_lt n)

theorem inverted_toFinset (n c : Nat) : toFinset n (inverted c n) = Finset.range n \ toFinset n c := by
  rw [inverted, diff_toFinset, grand_toFinset]

theorem inverted_inverted {c n : Nat} (hc : c < 2 ^ n) : inverted (inverted c n) n = c := by
  apply Nat.eq_of_testBit_eq; intro i
  rw [inverted_testBit, inverted_testBit]
  by_cases hi : i < n
  · simp [hi]
  · have h0 : c.testBit i = false := testBit_false_of_ge hc (Nat.le_of_not_lt hi)
    simp [hi, h0]

example : inverted 0b1011 5 = 0b10100 := by decide

/-- `other in c` (coalition argument) is the subset relation -/
theorem contains_iff {c o : Nat} : contains c o = true ↔ ∀ i, o.testBit i = true → c.testBit i = true := by
  unfold contains
  rw [beq_iff_eq, Nat.and_comm, sub_iff_testBit]

theorem contains_iff_subset {n c o : Nat} (ho : o < 2 ^ n) : contains c o = true ↔ toFinset n o ⊆ toFinset n c := by
  rw [contains_iff]
  constructor
  · intro h i hi
    rw [mem_toFinset] at hi ⊢
    exact ⟨hi.1, h i hi.2⟩
  · intro h i hi
    exact (mem_toFinset.mp (h ((mem_toFinset_of_lt ho).mpr hi))).2

example : contains 0b1011 0b0011 = true ∧ contains 0b1011 0b0110 = false := by decide

/-- `p in c` (player argument) is membership -/
theorem hasPlayer_eq (c p : Nat) : hasPlayer c p = c.testBit p := hasPlayer_eq_testBit c p

example : hasPlayer 0b1011 3 = true ∧ hasPlayer 0b1011 2 = false := by decide

/-- `c + p` adds a player (idempotent) -/
theorem addPlayer_testBit (a p i : Nat) : (addPlayer a p).testBit i = (a.testBit i || decide (p = i)) :=
  ICG.addPlayer_testBit a p i

/-- `c - p` removes a player (no-op when absent) -/
theorem removePlayer_testBit (a p i : Nat) :
    (removePlayer a p).testBit i = (a.testBit i && !decide (p = i)) :=
  ICG.removePlayer_testBit a p i

example : addPlayer 0b1011 2 = 0b1111 ∧ addPlayer 0b1011 1 = 0b1011 ∧
    removePlayer 0b1011 1 = 0b1001 ∧ removePlayer 0b1011 2 = 0b1011 := by decide

/-- `disjoint_coalitions` -/
theorem disjoint_iff {a b : Nat} :
    disjoint a b = true ↔ ∀ i, ¬ (a.testBit i = true ∧ b.testBit i = true) := by
  unfold disjoint
  rw [beq_iff_eq]
  constructor
  · exact fun h i => testBit_disjoint h
  · intro h
    apply Nat.eq_of_testBit_eq; intro i
    rw [Nat.testBit_and, Nat.zero_testBit, Bool.and_eq_false_iff]
    cases h1 : a.testBit i
    · exact Or.inl rfl
    · exact Or.inr (Bool.eq_false_iff.mpr fun h2 => h i ⟨h1, h2⟩)

theorem disjoint_iff_toFinset {n a b : Nat} (ha : a < 2 ^ n) :
    disjoint a b = true ↔ Disjoint (toFinset n a) (toFinset n b) := by
  rw [disjoint_iff, Finset.disjoint_left]
  constructor
  · intro h i h1 h2
    exact h i ⟨(mem_toFinset.mp h1).2, (mem_toFinset.mp h2).2⟩
  · intro h i ⟨h1, h2⟩
    have hlt := lt_of_testBit ha h1
    exact h (mem_toFinset.mpr ⟨hlt, h1⟩) (mem_toFinset.mpr ⟨hlt, h2⟩)

example : disjoint 0b1001 0b0110 = true ∧ disjoint 0b1011 0b0110 = false := by decide

/-! ### players, size, from_players -/

/-- `Coalition.players` lists exactly the set bits -/
theorem mem_players {c i : Nat} : i ∈ players c ↔ c.testBit i = true := ICG.mem_players

/-- `Coalition.players` is strictly increasing, hence without duplicates -/
theorem players_sorted (c : Nat) : (players c).Pairwise (· < ·) := players_pairwise c

theorem players_nodup (c : Nat) : (players c).Nodup := ICG.players_nodup c

theorem players_toFinset {c n : Nat} (hc : c < 2 ^ n) : (players c).toFinset = toFinset n c := by
  ext i
  rw [List.mem_toFinset, mem_players, mem_toFinset_of_lt hc]

theorem players_eq_filter {c n : Nat} (hc : c < 2 ^ n) :
    players c = (List.range n).filter (fun i => c.testBit i) := by
  rw [← playersId_eq_players hc, playersId_eq_filter]

example : players 0b1011 = [0, 1, 3] := by decide +kernel

/-- `len(c)` is the cardinality -/
theorem size_eq_length_players (c : Nat) : size c = (players c).length := ICG.size_eq_length_players c

theorem size_eq_card {c n : Nat} (hc : c < 2 ^ n) : size c = (toFinset n c).card := by
  rw [← players_toFinset hc, List.toFinset_card_of_nodup (players_nodup c), size_eq_length_players]

theorem size_le {c n : Nat} (hc : c < 2 ^ n) : size c ≤ n := ICG.size_le n c hc

theorem size_union_of_disjoint {a b : Nat} (h : disjoint a b = true) :
    size (union a b) = size a + size b := by
  unfold disjoint at h; rw [beq_iff_eq] at h
  exact size_or_of_disjoint a b h

theorem size_lt_of_proper_sub {x c : Nat} (h : contains c x = true) (hne : x ≠ c) : size x < size c := by
  unfold contains at h; rw [beq_iff_eq, Nat.and_comm] at h
  exact ICG.size_lt h hne

example : size 0b1011 = 3 ∧ (toFinset 4 0b1011).card = 3 := by decide +kernel

/-- `Coalition.from_players`: the mask of a list of players, duplicates allowed -/
theorem fromPlayers_testBit (l : List Nat) (i : Nat) : (fromPlayers l).testBit i = decide (i ∈ l) :=
  testBit_fromPlayers l i

theorem fromPlayers_toFinset {l : List Nat} {n : Nat} (h : ∀ i ∈ l, i < n) :
    toFinset n (fromPlayers l) = l.toFinset := by
  ext i
  rw [mem_toFinset, fromPlayers_testBit, List.mem_toFinset, decide_eq_true_eq]
  exact ⟨fun h' => h'.2, fun h' => ⟨h i h', h'⟩⟩

/-- `from_players ∘ players = id` -/
theorem fromPlayers_players (c : Nat) : fromPlayers (players c) = c := ICG.fromPlayers_players c

/-- `players ∘ from_players` sorts and de-duplicates: on an increasing list it is the identity -/
theorem players_fromPlayers {l : List Nat} (h : l.Pairwise (· < ·)) : players (fromPlayers l) = l :=
  ICG.players_fromPlayers h

example : fromPlayers [3, 0, 1, 0] = 0b1011 ∧ fromPlayers (players 0b1011) = 0b1011 := by decide +kernel

/-- `minimal_game_coalitions`: ∅, the grand coalition, the singletons in player order -/
theorem minimalCoalitions_eq (n : Nat) :
    minimalCoalitions n = [0, 2 ^ n - 1] ++ (List.range n).map (fun i => 2 ^ i) := by
  unfold minimalCoalitions grand
  congr 1
  apply List.map_congr_left
  intro i _; exact fromPlayers_singleton i

theorem singleton_testBit (p i : Nat) : (singleton p).testBit i = decide (p = i) := by
  unfold singleton; exact Nat.testBit_two_pow

example : minimalCoalitions 3 = [0, 7, 1, 2, 4] := by decide +kernel

/-- `exclude_coalition(ex, l)` keeps, in order, exactly the coalitions disjoint from `ex` -/
theorem excludeCoalition_eq (ex : Nat) (l : List Nat) :
    excludeCoalition ex l = l.filter (fun c => disjoint c ex) := rfl

theorem mem_excludeCoalition {ex x : Nat} {l : List Nat} :
    x ∈ excludeCoalition ex l ↔ x ∈ l ∧ ∀ i, ¬ (x.testBit i = true ∧ ex.testBit i = true) := by
  rw [excludeCoalition_eq, List.mem_filter, disjoint_iff]

example : excludeCoalition 0b010 (allCoalitions 3) = [0, 1, 4, 5] := by decide

/-! ### the id-array style agrees with the object style -/

theorem playersId_eq_players {c n : Nat} (hc : c < 2 ^ n) : playersId c n = players c :=
  ICG.playersId_eq_players hc

theorem sizeId_eq_size {c n : Nat} (hc : c < 2 ^ n) : sizeId c n = size c := ICG.sizeId_eq_size hc

/-- without the guard the id style silently truncates to the first `n` players -/
theorem mem_playersId {c n i : Nat} : i ∈ playersId c n ↔ i < n ∧ c.testBit i = true := ICG.mem_playersId

example : playersId 0b1011 4 = players 0b1011 ∧ sizeId 0b1011 4 = size 0b1011 := by decide +kernel

/-! ### sub-coalition enumeration -/

/-- `get_sub_coalitions(c)` lists exactly the sub-masks of `c` (∅ and `c` included), each once -/
theorem mem_subCoalitionsObj {x c : Nat} :
    x ∈ subCoalitionsObj c ↔ ∀ i, x.testBit i = true → c.testBit i = true := by
  rw [ICG.mem_subCoalitionsObj, sub_iff_testBit]

theorem mem_subCoalitionsObj_iff_and {x c : Nat} : x ∈ subCoalitionsObj c ↔ x &&& c = x :=
  ICG.mem_subCoalitionsObj

theorem subCoalitionsObj_nodup (c : Nat) : (subCoalitionsObj c).Nodup := ICG.subCoalitionsObj_nodup c

theorem length_subCoalitionsObj (c : Nat) : (subCoalitionsObj c).length = 2 ^ size c := by
  unfold subCoalitionsObj powerset
  rw [List.length_map, size_eq_length_players]
  have : ∀ (l : List Nat), ((List.range (l.length + 1)).flatMap (fun r => combos r l)).length = 2 ^ l.length := by
    intro l
    have hperm : ((List.range (l.length + 1)).flatMap (fun r => combos r l)).Perm
        ((List.range (l.length + 1)).flatMap (fun r => List.sublistsLen r l)) := by
      apply List.Perm.flatMap_left
      intro r _; exact combos_perm r l
    rw [hperm.length_eq, (List.range_bind_sublistsLen_perm l).length_eq, List.length_sublists']
  exact this (players c)

example : subCoalitionsObj 0b101 = [0, 1, 4, 5] ∧ (subCoalitionsObj 0b101).length = 2 ^ size 0b101 := by
  decide +kernel

theorem mem_saSubs {x c : Nat} : x ∈ saSubs c ↔ x &&& c = x ∧ x ≠ 0 ∧ x ≠ c := ICG.mem_saSubs

example : saSubs 0b111 = [1, 2, 4, 3, 5, 6] := by decide +kernel

/-- `coalition_ids.sub_coalitions(c, n)` succeeds for a mask within `n` players and lists exactly the
    sub-masks, each once (in increasing id order) -/
theorem subCoalitionsId_spec {c n : Nat} (hc : c < 2 ^ n) :
    ∃ l, subCoalitionsId c n = .ok l ∧ l.Pairwise (· < ·) ∧
      ∀ x, x ∈ l ↔ ∀ i, x.testBit i = true → c.testBit i = true :=
  ⟨subIdList c n, subCoalitionsId_ok hc, subIdList_pairwise c n, fun x => by
    rw [mem_subIdList hc, sub_iff_testBit]⟩

/-- the Python assertion `2**n > c` -/
theorem subCoalitionsId_error {c n : Nat} (hc : 2 ^ n ≤ c) : subCoalitionsId c n = .error .assert :=
  ICG.subCoalitionsId_error hc

example : subCoalitionsId 0b101 3 = .ok [0, 1, 4, 5] ∧ subCoalitionsId 0b101 2 = .error .assert := by decide

/-- the two styles list the same sub-coalitions, each exactly once (so they are permutations) -/
theorem sub_enumerations_agree {c n : Nat} (hc : c < 2 ^ n) :
    ∃ l, subCoalitionsId c n = .ok l ∧ l.Nodup ∧ (subCoalitionsObj c).Nodup ∧
      (∀ x, x ∈ subCoalitionsObj c ↔ x ∈ l) ∧ (subCoalitionsObj c).Perm l := by
  obtain ⟨l, h1, h2, h3, h4⟩ := ICG.sub_enumerations_agree hc
  exact ⟨l, h1, h2, h3, h4, (List.perm_ext_iff_of_nodup h3 h2).mpr h4⟩

example : ∃ l, subCoalitionsId 0b110 3 = .ok l ∧ (subCoalitionsObj 0b110).Perm l :=
  ⟨[0, 2, 4, 6], by decide, by decide +kernel⟩

/-! ### super-coalition enumeration -/

/-- `get_super_coalitions(c, n)` lists exactly the supersets of `c` within `n` players (`c` itself
    included), each once -/
theorem mem_superCoalitionsObj {c n T : Nat} (hc : c < 2 ^ n) :
    T ∈ superCoalitionsObj c n ↔ (T < 2 ^ n ∧ ∀ i, c.testBit i = true → T.testBit i = true) := by
  rw [ICG.mem_superCoalitionsObj hc, sub_iff_testBit]

theorem superCoalitionsObj_nodup (c n : Nat) : (superCoalitionsObj c n).Nodup :=
  ICG.superCoalitionsObj_nodup c n

example : superCoalitionsObj 0b101 3 = [5, 7] := by decide +kernel

theorem superCoalitionsId_spec {c n : Nat} (hc : c < 2 ^ n) :
    ∃ l, superCoalitionsId c n = .ok l ∧ l.Nodup ∧
      ∀ T, T ∈ l ↔ (T < 2 ^ n ∧ ∀ i, c.testBit i = true → T.testBit i = true) :=
  ⟨superIdList c n, superCoalitionsId_ok hc, superIdList_nodup hc, fun T => by
    rw [mem_superIdList hc, sub_iff_testBit]⟩

theorem superCoalitionsId_error {c n : Nat} (hc : 2 ^ n ≤ c) : superCoalitionsId c n = .error .assert :=
  ICG.superCoalitionsId_error hc

example : superCoalitionsId 0b001 3 = .ok [1, 3, 5, 7] ∧ superCoalitionsId 0b1001 3 = .error .assert := by
  decide

theorem super_enumerations_agree {c n : Nat} (hc : c < 2 ^ n) :
    ∃ l, superCoalitionsId c n = .ok l ∧ l.Nodup ∧ (superCoalitionsObj c n).Nodup ∧
      (∀ T, T ∈ superCoalitionsObj c n ↔ T ∈ l) ∧ (superCoalitionsObj c n).Perm l := by
  obtain ⟨l, h1, h2, h3, h4⟩ := ICG.super_enumerations_agree hc
  exact ⟨l, h1, h2, h3, h4, (List.perm_ext_iff_of_nodup h3 h2).mpr h4⟩

example : ∃ l, superCoalitionsId 0b001 3 = .ok l ∧ (superCoalitionsObj 0b001 3).Perm l :=
  ⟨[1, 3, 5, 7], by decide, by decide +kernel⟩

/-! ### the relation table of bounds.py -/

theorem coalStructure_eq {n c d : Nat} (hc : c < 2 ^ n) (hd : d < 2 ^ n) (hc0 : c ≠ 0) :
    coalStructure n c d =
      if d = 0 then -2 else if d = c then 0 else if c &&& d = c then 2 else if d &&& c = d then 1 else -1 :=
  ICG.coalStructure_eq hc hd hc0

example : (List.range 8).map (coalStructure 3 0b101) = [-2, 1, -1, -1, 1, 0, -1, 2] := by decide

/-! ### all coalitions sorted by size -/

/-- `allSorted n` contains every coalition of `n` players exactly once -/
theorem allSorted_perm (n : Nat) : (allSorted n).Perm (List.range (2 ^ n)) := by
  unfold allSorted allCoalitions
  apply (List.perm_ext_iff_of_nodup (Refine.sortByKey_nodup _ _ _ List.nodup_range) List.nodup_range).mpr
  intro x
  rw [Refine.mem_sortByKey, List.mem_range]
  exact ⟨fun h => h.1, fun h => ⟨h, ICG.size_le n x h⟩⟩

theorem allSorted_sorted (n : Nat) :
    (allSorted n).Pairwise (fun x y => size x < size y ∨ (size x = size y ∧ x < y)) :=
  Refine.sortByKey_stable _ _ List.pairwise_lt_range

theorem allSorted_size_mono (n : Nat) : (allSorted n).Pairwise (fun x y => size x ≤ size y) :=
  (allSorted_sorted n).imp fun h => h.elim Nat.le_of_lt fun h => Nat.le_of_eq h.1

example : allSorted 3 = [0, 1, 2, 4, 3, 5, 6, 7] := by decide +kernel

end ICG.C18

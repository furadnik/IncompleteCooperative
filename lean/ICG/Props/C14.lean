/-
  Property C14 — the regret minimiser (ICG.Model.Regret, the model of incomplete_cooperative/regret.py).

  "A regret minimiser can be constructed for every player count it can represent and every reveal limit
   ≥ 1, and its ranking of coalition sets is a bijection ordered by set size.  After any number of
   iterations with non-negative terminal values, every current and every average strategy is a probability
   distribution supported only on viable coalitions not yet revealed at that node, the regret added at a
   node is orthogonal to the strategy played there, the 'plus' variant keeps cumulative regret
   non-negative, and a saved-then-loaded minimiser continues identically."

  (Limit 0 is covered too: then there is no regret minimiser, `R = 0`.)

  The model has an allocation `Policy` (length of the id → rank table, stored limit).  `Policy.current` is the
  constructor as /repo had it before its two repairs (one slot per id, limit stored unclipped): `current_index_error`
  and `current_nan` are the two ways it FAILED the property.  `Policy.repaired` is what /repo allocates; `constructible` /
  `constructible_repaired` and the invariants are for policies whose table covers every id and whose stored limit
  is at most the number of viable coalitions.
-/
import ICG.Model.Regret
import ICG.Lemmas.Regret
import ICG.Lemmas.RegretNode
import ICG.Lemmas.RegretIter
import ICG.Lemmas.RegretAvg
import ICG.Lemmas.RegretPass
import ICG.Lemmas.RegretTree
import ICG.Lemmas.RegretPid
import Mathlib.Algebra.Order.Field.Basic
import Mathlib.Algebra.Order.Field.Rat

set_option linter.unusedSectionVars false

namespace ICG.C14
open ICG ICG.Regret

/-! ## 0. reading off outcomes, for the examples -/

/-- the error of a result, if any (lets `decide` talk about outcomes of a type without `DecidableEq`) -/
def errOf {β} : Except Err β → Option Err
  | .ok _ => none
  | .error e => some e

def holds : Except Err Bool → Bool
  | .ok b => b
  | .error _ => false

/-! ## 1. ranking -/

/-- **ranking**: the rank → id list is duplicate-free, sorted by set size, and consists exactly of the masks over
    `m` bits with at most `min limit m` bits; `np.fromiter(.., count=coalitions_up_to(..))` receives exactly that list. -/
theorem ranking (m limit : Nat) :
    (metaIds m limit).Nodup ∧
    (metaIds m limit).Pairwise (fun a b => size a ≤ size b) ∧
    (∀ x, x ∈ metaIds m limit ↔ x < 2 ^ m ∧ size x ≤ min limit m) ∧
    metaIdsArr m limit = .ok (metaIds m limit) ∧
    (metaIds m limit).length = ((List.range (min m limit + 1)).map (Nat.choose m)).sum :=
  ⟨metaIds_nodup m limit, metaIds_sorted m limit, fun _ => mem_metaIds, metaIdsArr_eq m limit,
   by rw [length_metaIds, coalitionsUpTo_eq]⟩

example : metaIds 3 2 = [0, 1, 2, 4, 3, 5, 6] := by decide +kernel
example : metaIds 3 60 = [0, 1, 2, 4, 3, 5, 6, 7] := by decide +kernel
example : (metaIds 10 5).length = 638 := by rw [length_metaIds]; decide +kernel

/-! ## 2. construction -/

section ctor
variable {α : Type} [Zero α]

/-- **construction** succeeds iff every id fits the table (`n ≥ 2`; for `n < 2` numpy rejects the negative array
    shape); otherwise it is an IndexError (`construction_fails_iff`). -/
theorem construction_ok_iff (p : Policy) {n : Nat} (hn : 2 ≤ n) (limit : Nat) (plus : Bool) :
    (∃ rm, RM.new (α := α) p n limit plus = .ok rm) ↔
      ∀ id ∈ metaIds (numCoalitions n) limit, id < p.tableLen (metaIds (numCoalitions n) limit) := by
  rw [new_eq p hn, ← fillTable_ok_iff]
  exact Equivariance.exists_map_ok

theorem construction_fails_iff (p : Policy) {n : Nat} (hn : 2 ≤ n) (limit : Nat) (plus : Bool) :
    RM.new (α := α) p n limit plus = .error .index ↔
      ∃ id ∈ metaIds (numCoalitions n) limit, p.tableLen (metaIds (numCoalitions n) limit) ≤ id := by
  rw [new_eq p hn, ← fillTable_error_iff]
  exact Equivariance.map_eq_error

theorem current_fails_iff {n : Nat} (hn : 2 ≤ n) (limit : Nat) (plus : Bool) :
    RM.new (α := α) Policy.current n limit plus = .error .index ↔
      ∃ id ∈ metaIds (numCoalitions n) limit, (metaIds (numCoalitions n) limit).length ≤ id :=
  construction_fails_iff Policy.current hn limit plus

/-- with a table longer than every id the constructor succeeds, and `rank ∘ id` is the identity on ranks -/
theorem constructible (p : Policy) {n : Nat} (hn : 2 ≤ n) (limit : Nat) (plus : Bool)
    (hp : ∀ id ∈ metaIds (numCoalitions n) limit, id < p.tableLen (metaIds (numCoalitions n) limit)) :
    ∃ rm, RM.new (α := α) p n limit plus = .ok rm ∧
      rm.n = n ∧ rm.m = numCoalitions n ∧ rm.plus = plus ∧ rm.limit = p.storedLimit (numCoalitions n) limit ∧
      rm.rankToId = metaIds (numCoalitions n) limit ∧
      (∀ r (hr : r < rm.rankToId.length), rm.rankOf rm.rankToId[r] = .ok r) ∧
      rm.R = coalitionsBelow rm.m rm.limit ∧
      rm.regret = zeros2 rm.R rm.m ∧ rm.strategy = zeros2 rm.R rm.m ∧ rm.iteration = 0 := by
  obtain ⟨rm, h⟩ := (construction_ok_iff (α := α) p hn limit plus).mpr hp
  obtain ⟨_, t, ht, rfl⟩ := new_ok h
  exact ⟨_, h, rfl, rfl, rfl, rfl, rfl, fresh_rank_id ht, rfl, rfl, rfl, rfl⟩

theorem repaired_covers (ids : List Nat) : ∀ id ∈ ids, id < Policy.repaired.tableLen ids := by
  intro id hid
  have := (le_foldl_max ids 0).2 id hid
  exact Nat.lt_succ_of_le this

theorem constructible_repaired {n : Nat} (hn : 2 ≤ n) (limit : Nat) (plus : Bool) :
    ∃ rm, RM.new (α := α) Policy.repaired n limit plus = .ok rm ∧
      rm.rankToId = metaIds (numCoalitions n) limit ∧
      (∀ r (hr : r < rm.rankToId.length), rm.rankOf rm.rankToId[r] = .ok r) ∧
      rm.limit = min (numCoalitions n) limit := by
  obtain ⟨rm, h, _, _, _, h4, h5, h6, _⟩ :=
    constructible (α := α) Policy.repaired hn limit plus (repaired_covers _)
  exact ⟨rm, h, h5, h6, h4⟩

theorem constructible_pow {n : Nat} (hn : 2 ≤ n) (limit stored : Nat) (plus : Bool) :
    ∃ rm, RM.new (α := α) (Policy.explicit (2 ^ numCoalitions n) stored) n limit plus = .ok rm :=
  (construction_ok_iff _ hn limit plus).mpr (fun _ hid => (mem_metaIds.mp hid).1)

end ctor

/-- no enumeration of the ids is needed: an id is any mask with at most `min limit m` bits, and there are
    `coalitions_up_to(m, min(m, limit))` of them.  The witness used below is the largest id, `2^m − 2^(m−limit)`. -/
theorem current_fails_of {α : Type} [Zero α] {n limit id : Nat} (hn : 2 ≤ n) (plus : Bool)
    (hid : id < 2 ^ numCoalitions n ∧ size id ≤ min limit (numCoalitions n))
    (hlen : coalitionsUpTo (numCoalitions n) (min (numCoalitions n) limit) ≤ id) :
    RM.new (α := α) Policy.current n limit plus = .error .index :=
  (current_fails_iff hn limit plus).mpr ⟨id, mem_metaIds.mpr hid, (length_metaIds _ _).trans_le hlen⟩

/-- **first defect of `Policy.current`**: `GameRegretMinimizer(3, 1)` raises IndexError (ids `0, 1, 2, 4`,
    four slots). -/
theorem current_index_error :
    RM.new (α := Rat) Policy.current 3 1 false = .error .index :=
  current_fails_of (id := 4) (by decide) false (by decide +kernel) (by decide +kernel)

/-- the same for n = 4 (m = 10), limits 1 … 8 -/
theorem current_index_error_n4 : ∀ limit ∈ [1, 2, 3, 4, 5, 6, 7, 8], ∀ plus,
    RM.new (α := Rat) Policy.current 4 limit plus = .error .index := by
  intro limit hl plus
  have key : ∀ limit ∈ [1, 2, 3, 4, 5, 6, 7, 8],
      (2 ^ 10 - 2 ^ (10 - limit) < 2 ^ 10 ∧ size (2 ^ 10 - 2 ^ (10 - limit)) ≤ min limit 10) ∧
      coalitionsUpTo 10 (min 10 limit) ≤ 2 ^ 10 - 2 ^ (10 - limit) := by decide +kernel
  exact current_fails_of (by decide) plus (key limit hl).1 (key limit hl).2

/-- the same inputs are fine under the repaired allocation -/
example : errOf (RM.new (α := Rat) Policy.repaired 3 1 false) = none := by decide +kernel

/-- **second defect of `Policy.current`**: n = 3, limit = 4 (> 3 viable coalitions) constructs, but the
    all-revealed node 7 has a regret minimiser whose strategy is 0/0, and one iteration with the
    non-negative terminal value 1 ends in NaN. -/
theorem current_nan :
    errOf (RM.new (α := Rat) Policy.current 3 4 false) = none ∧
    errOf (do let rm ← RM.new (α := Rat) Policy.current 3 4 false; rm.regretMatching 7) = some .nan ∧
    errOf (do let rm ← RM.new (α := Rat) Policy.current 3 4 false; rm.iterate [1] [[3, 5, 6]]) = some .nan := by
  decide +kernel

/-- with the stored limit clipped the same call is fine -/
example : errOf (do let rm ← RM.new (α := Rat) Policy.repaired 3 4 false; rm.iterate [1] [[3, 5, 6]]) = none := by
  decide +kernel

/-! ## 3. one node; the player-id map; plus-clipping -/

section node
variable {α : Type} [Field α] [LinearOrder α] [IsStrictOrderedRing α]

/-- **current strategy at a node**: if the regret of every revealed coalition is ≤ 0 and some viable coalition is
    not yet revealed, regret matching succeeds (no 0/0) with a distribution that is 0 on the revealed coalitions. -/
theorem strategy_distribution {m : Nat} {row : List α} {used : List Nat}
    (hlen : row.length = m) (hused : ∀ i ∈ used, i < m)
    (hneg : ∀ i ∈ used, ∀ h : i < row.length, row[i] ≤ 0)
    (hfree : ∃ j, j < m ∧ j ∉ used) :
    ∃ σ, regretMatchingRow m row used = .ok σ ∧ σ.length = m ∧ (∀ x ∈ σ, 0 ≤ x) ∧ σ.sum = 1 ∧
      ∀ i ∈ used, σ[i]? = some 0 :=
  regretMatchingRow_distribution hlen hused hneg hfree

/-- **orthogonality**: the regret added at a node, `q_a − Σ_b q_b σ_b`, is orthogonal to the strategy played there -/
theorem added_regret_orthogonal {σ q : List α} (hlen : σ.length = q.length) (hs : σ.sum = 1) :
    (List.zipWith (· * ·) σ (q.map (· - listSum (List.zipWith (· * ·) q σ)))).sum = 0 :=
  update_orthogonal hlen hs

/-- `new row − old row` of the code's update `r += q − e` is the added regret `q − e` of `added_regret_orthogonal` -/
theorem added_regret_eq (r q : List α) (e : α) (h : r.length = q.length) :
    List.zipWith (fun r' r => r' - r) (List.zipWith (fun r q => r + (q - e)) r q) r = q.map (· - e) :=
  regret_update_sub r q e h

/-- the regret of a revealed coalition (q-value 0) stays ≤ 0 when the experienced loss `e` is ≥ 0 -/
theorem used_regret_stays_nonpos {r e : α} (hr : r ≤ 0) (he : 0 ≤ e) : r + (0 - e) ≤ 0 :=
  by rw [zero_sub, ← sub_eq_add_neg, sub_nonpos]; exact hr.trans he

theorem experienced_nonneg (q σ : List α) (hq : ∀ x ∈ q, 0 ≤ x) (hσ : ∀ x ∈ σ, 0 ≤ x) :
    0 ≤ listSum (List.zipWith (· * ·) q σ) := by
  rw [listSum_eq_sum]; exact dot_nonneg q σ hq hσ


theorem node_strategy_distribution {rm : RM α} {mc i : Nat} {row : List α}
    (hrank : rm.rankOf mc = .ok i) (hrow : getIdx rm.regret i = .ok row) (hlen : row.length = rm.m)
    (hused : ∀ a ∈ players mc, a < rm.m) (hneg : ∀ a ∈ players mc, ∀ h : a < row.length, row[a] ≤ 0)
    (hfree : ∃ j, j < rm.m ∧ j ∉ players mc) :
    ∃ σ, rm.regretMatching mc = .ok σ ∧ σ.length = rm.m ∧ (∀ x ∈ σ, 0 ≤ x) ∧ σ.sum = 1 ∧
      ∀ a ∈ players mc, σ[a]? = some 0 :=
  node_strategy hrank hrow hlen hused hneg hfree

/-- the induction step of the tree invariant at one node: `q` is 0 on the revealed coalitions because those entries
    are never assigned -/
theorem node_update_invariants {m : Nat} {row σ q : List α} {used : List Nat}
    (hrow : row.length = m) (hσ : σ.length = m) (hq : q.length = m)
    (hσnn : ∀ x ∈ σ, 0 ≤ x) (hσ1 : σ.sum = 1) (hqnn : ∀ x ∈ q, 0 ≤ x)
    (hq0 : ∀ a ∈ used, ∀ h : a < q.length, q[a] = 0)
    (hneg : ∀ a ∈ used, ∀ h : a < row.length, row[a] ≤ 0) :
    let e := listSum (List.zipWith (· * ·) q σ)
    let new := List.zipWith (fun r q => r + (q - e)) row q
    new.length = m ∧
    (∀ a ∈ used, ∀ h : a < new.length, new[a] ≤ 0) ∧
    (List.zipWith (· * ·) σ (List.zipWith (fun r' r => r' - r) new row)).sum = 0 ∧
    (∀ x ∈ new.map Regret.posPart, 0 ≤ x) ∧
    (∀ a ∈ used, ∀ h : a < (new.map Regret.posPart).length, (new.map Regret.posPart)[a] ≤ 0) := by
  intro e new
  have he : 0 ≤ e := experienced_nonneg q σ hqnn hσnn
  have hused := update_used_nonpos he hq0 hneg
  refine ⟨by rw [List.length_zipWith, hrow, hq, Nat.min_self], hused, ?_, map_posPart_nonneg new,
    posPart_used_nonpos hused⟩
  show (List.zipWith (· * ·) σ (List.zipWith (fun r' r => r' - r)
      (List.zipWith (fun r q => r + (q - e)) row q) row)).sum = 0
  rw [regret_update_sub row q e (hrow.trans hq.symm)]
  exact update_orthogonal (hσ.trans hq.symm) hσ1

/-- **average strategy at a node**: `get_average_strategy` succeeds (no 0/0) with a distribution over coalition ids
    that is 0 on every non-viable id and on every coalition revealed at the node.  The hypotheses on the row are kept
    by `strategy += weight · σ · reach`. -/
theorem average_strategy_distribution {rm : RM α} {cs : List Nat} {mc rank : Nat} {row : List α}
    (hid : rm.getMetacoalitionId cs = .ok mc) (hrank : rm.rankOf mc = .ok rank)
    (hrow : getIdx rm.strategy rank = .ok row)
    (hlen : row.length = rm.m) (hnn : ∀ x ∈ row, 0 ≤ x)
    (hsupp : ∀ a ∈ players mc, row[a]? = some 0)
    (hused : ∀ a ∈ players mc, a < rm.m) (hfree : ∃ j, j < rm.m ∧ j ∉ players mc)
    (hpm : PidMapOK rm.pidMap rm.m) :
    ∃ avg, rm.averageStrategy cs = .ok avg ∧ avg.length = rm.pidMap.length ∧ (∀ x ∈ avg, 0 ≤ x) ∧
      avg.sum = 1 ∧
      ∀ c (hc : c < rm.pidMap.length), (rm.pidMap[c] < 0 ∨ rm.pidMap[c].toNat ∈ players mc) →
        avg[c]? = some 0 := by
  have hm : 0 < rm.m := hfree.elim fun j hj => Nat.zero_lt_of_lt hj.1
  -- the weights that are re-indexed and normalised: the uniform fallback, or the row itself
  obtain ⟨cum, hcum, hw⟩ : ∃ cum : List α,
      (if row.all (fun x => decide (x = 0)) then onesWithout rm.m (players mc) else pure row) = .ok cum ∧
      Weights rm.m (players mc) cum := by
    split
    · exact onesWithout_weights hused hfree
    · rename_i hall
      exact ⟨row, rfl, .of_nonneg hlen hnn (fun h0 => hall (List.all_eq_true.mpr fun x hx => decide_eq_true (h0 x hx))) hsupp⟩
  obtain ⟨avg, hok, rest⟩ := reindex_normalize hpm hw
  refine ⟨avg, ?_, rest⟩
  unfold RM.averageStrategy
  rw [hid, ok_bind, hrank, ok_bind, hrow, ok_bind, hcum, ok_bind, reindex_ok hpm hw.len hm, ok_bind]
  exact hok

/-- for every `n ≥ 2` the `2^n − n − 2` coalitions of size ∉ {0, 1, n} get the player ids
    `0 .. m-1` in id order, everything else −1 -/
theorem pid_map_ok_general {n : Nat} (hn : 2 ≤ n) : PidMapOK (coalitionPlayerIdMap n) (numCoalitions n) := by
  unfold PidMapOK coalitionPlayerIdMap
  rw [← length_viableCoalitions hn]
  exact filter_idxOf_nonneg (allCoalitions n) List.nodup_range _

theorem pid_map_ok : PidMapOK (coalitionPlayerIdMap 3) (numCoalitions 3) ∧
    PidMapOK (coalitionPlayerIdMap 4) (numCoalitions 4) ∧ PidMapOK (coalitionPlayerIdMap 5) (numCoalitions 5) :=
  ⟨pid_map_ok_general (by decide), pid_map_ok_general (by decide), pid_map_ok_general (by decide)⟩

/-- **plus**: the clause "the 'plus' variant keeps cumulative regret non-negative", one iteration from any state -/
theorem plus_regret_nonneg {rm rm' : RM α} {t : List α} {u : List (List Nat)} (hp : rm.plus = true)
    (h : rm.iterate t u = .ok rm') : ∀ row ∈ rm'.regret, ∀ x ∈ row, 0 ≤ x :=
  iterate_plus_nonneg hp h

end node


/-! ## 4. the tree -/

section tree
variable {α : Type} [Field α] [LinearOrder α] [IsStrictOrderedRing α]

/-- base case of the tree invariant: the current strategies of a freshly constructed object -/
theorem tree_invariant_base {p : Policy} {n limit : Nat} {plus : Bool} {rm : RM α}
    (hn : 2 ≤ n) (h : RM.new (α := α) p n limit plus = .ok rm)
    (hst : p.storedLimit (numCoalitions n) limit ≤ min (numCoalitions n) limit) :
    ∀ i (hi : i < rm.R),
      ∃ σ, rm.regretMatching (rm.rankToId[i]'(lt_of_lt_of_le hi (R_le_V hn h hst))) = .ok σ ∧ σ.length = rm.m ∧
      (∀ x ∈ σ, 0 ≤ x) ∧ σ.sum = 1 ∧
      ∀ a ∈ players (rm.rankToId[i]'(lt_of_lt_of_le hi (R_le_V hn h hst))), σ[a]? = some 0 := by
  intro i hi
  have hs := new_struct h hst
  obtain ⟨_, t, _, rfl⟩ := new_ok h
  exact (zero_inv hs rfl rfl).strat hs i _ hi (List.getElem?_eq_getElem _)

/-- `Regret.ValidInput` spelled out: every used-action list is a ranked node; one terminal loss per list, or a
    single one that numpy broadcasts; all terminal losses ≥ 0 -/
theorem validInput_iff (rm : RM α) (terminal : List α) (used : List (List Nat)) :
    ValidInput rm terminal used ↔
      (∀ x ∈ used, ∃ id, rm.getMetacoalitionId x = .ok id ∧ id ∈ rm.rankToId) ∧
      (terminal.length = used.length ∨ terminal.length = 1) ∧ ∀ x ∈ terminal, 0 ≤ x := Iff.rfl

/-- the states of the property: constructed under a policy whose stored limit is clipped (the table
    covers every id since the constructor succeeded), then any history of iterations with admissible
    inputs -/
inductive TreeReachable (p : Policy) : RM α → Prop
  | new {n limit plus rm} : p.storedLimit (numCoalitions n) limit ≤ min (numCoalitions n) limit →
      RM.new (α := α) p n limit plus = .ok rm → TreeReachable p rm
  | iter {rm rm' t u} : TreeReachable p rm → ValidInput rm t u → rm.iterate t u = .ok rm' →
      TreeReachable p rm'

/-- **the invariant**: every rank `< R` (number of regret minimisers) is the rank of a node, and at every
    such node `mc` (of rank `i`):
    the node holds only viable coalitions and has an unrevealed one;
    its cumulative-regret row is ≤ 0 on the revealed coalitions (and ≥ 0 everywhere for `plus`);
    its current strategy is a probability distribution that is 0 on the revealed coalitions;
    its cumulative-strategy row is ≥ 0 and 0 on the revealed coalitions. -/
def TreeInvariant (rm : RM α) : Prop :=
  rm.R ≤ rm.rankToId.length ∧
  ∀ i mc, i < rm.R → rm.rankToId[i]? = some mc →
    ((∀ a ∈ players mc, a < rm.m) ∧ ∃ j, j < rm.m ∧ j ∉ players mc) ∧
    (∃ row : List α, rm.regret[i]? = some row ∧ row.length = rm.m ∧
      (∀ a ∈ players mc, ∀ h : a < row.length, row[a] ≤ 0) ∧ (rm.plus = true → ∀ x ∈ row, 0 ≤ x)) ∧
    (∃ σ : List α, rm.regretMatching mc = .ok σ ∧ σ.length = rm.m ∧ (∀ x ∈ σ, 0 ≤ x) ∧ σ.sum = 1 ∧
      ∀ a ∈ players mc, σ[a]? = some 0) ∧
    (∃ srow : List α, rm.strategy[i]? = some srow ∧ srow.length = rm.m ∧ (∀ x ∈ srow, 0 ≤ x) ∧
      ∀ a ∈ players mc, srow[a]? = some 0)

theorem reachable_inv {p : Policy} {rm : RM α} (h : TreeReachable p rm) : Struct rm ∧ Inv rm := by
  induction h with
  | new hst h =>
    have hs := new_struct h hst
    obtain ⟨_, t, _, rfl⟩ := new_ok h
    exact ⟨hs, zero_inv hs rfl rfl⟩
  | iter _ hin hit ih =>
    obtain ⟨rm'', hok, hs', hI', _⟩ := iterate_inv ih.1 ih.2 hin
    rw [hit] at hok
    cases hok
    exact ⟨hs', hI'⟩

theorem treeInvariant_of {rm : RM α} (hs : Struct rm) (hI : Inv rm) : TreeInvariant rm := by
  refine ⟨hs.R_le_V, ?_⟩
  intro i mc hi hmc
  have hir : i < rm.regret.length := by rw [hI.regret_len]; exact hi
  have his : i < rm.strategy.length := by rw [hI.strategy.len]; exact hi
  refine ⟨⟨hs.used_lt i mc hi hmc, hs.unused i mc hi hmc⟩,
    ⟨rm.regret[i], List.getElem?_eq_getElem hir, hI.regret_row _ (List.getElem_mem _),
      hI.used_nonpos i mc _ hmc (List.getElem?_eq_getElem hir),
      fun hp => hI.plus_nonneg hp _ (List.getElem_mem _)⟩,
    hI.strat hs i mc hi hmc,
    ⟨rm.strategy[i], List.getElem?_eq_getElem his, (hI.strategy.row _ (List.getElem_mem _)).1,
      (hI.strategy.row _ (List.getElem_mem _)).2, hI.strategy.used i mc _ hmc (List.getElem?_eq_getElem his)⟩⟩

/-- **tree invariant**: for every `n ≥ 2`, every limit, plain / plus, under a policy whose stored limit is clipped
    (`Policy.repaired` is one), after every history of iterations with admissible inputs the invariant holds at every
    node that has a regret minimiser, and the next `regret_min_iteration` with admissible inputs **returns `.ok`**
    (every index of both passes in range, no 0/0) in a state that satisfies the invariant again. -/
theorem tree_invariant {p : Policy} {rm : RM α} (h : TreeReachable p rm) :
    TreeInvariant rm ∧
    ∀ t u, ValidInput rm t u → ∃ rm', rm.iterate t u = .ok rm' ∧ TreeReachable p rm' ∧ TreeInvariant rm' := by
  obtain ⟨hs, hI⟩ := reachable_inv h
  refine ⟨treeInvariant_of hs hI, fun t u hin => ?_⟩
  obtain ⟨rm', hok, hs', hI', _⟩ := iterate_inv hs hI hin
  exact ⟨rm', hok, .iter h hin hok, treeInvariant_of hs' hI'⟩

theorem repaired_clips (m limit : Nat) : Policy.repaired.storedLimit m limit ≤ min m limit := le_refl _

/-- `Policy.current` stores the limit unclipped (here limit > m): the reason for `current_nan` -/
example : ¬ Policy.current.storedLimit 3 4 ≤ min 3 4 := by decide

/-- **current strategy, every reachable state**, by id and by list of revealed coalitions: supported on viable, not
    yet revealed coalitions (there are only viable positions, `σ.length = m`) -/
theorem current_strategy_distribution {p : Policy} {rm : RM α} (h : TreeReachable p rm) {i mc : Nat}
    (hi : i < rm.R) (hmc : rm.rankToId[i]? = some mc) :
    ∃ σ, rm.regretMatching mc = .ok σ ∧
      (∀ cs, rm.getMetacoalitionId cs = .ok mc → rm.regretMatchingOf cs = .ok σ) ∧
      σ.length = rm.m ∧ (∀ x ∈ σ, 0 ≤ x) ∧ σ.sum = 1 ∧ ∀ a ∈ players mc, σ[a]? = some 0 := by
  obtain ⟨hs, hI⟩ := reachable_inv h
  obtain ⟨σ, hσ, rest⟩ := hI.strat hs i mc hi hmc
  refine ⟨σ, hσ, ?_, rest⟩
  intro cs hcs
  unfold RM.regretMatchingOf
  rw [hcs, ok_bind, hσ]

theorem reachable_pidMap {p : Policy} {rm : RM α} (h : TreeReachable p rm) : PidMapOK rm.pidMap rm.m := by
  induction h with
  | new _ h =>
    obtain ⟨hn, t, _, rfl⟩ := new_ok h
    exact pid_map_ok_general hn
  | iter _ _ hit ih => rw [iterate_frame hit]; exact ih

/-- **average strategy, every reachable state** -/
theorem average_strategy_distribution_reachable {p : Policy} {rm : RM α} (h : TreeReachable p rm)
    {cs : List Nat} {i mc : Nat}
    (hid : rm.getMetacoalitionId cs = .ok mc) (hi : i < rm.R) (hmc : rm.rankToId[i]? = some mc) :
    ∃ avg, rm.averageStrategy cs = .ok avg ∧ avg.length = rm.pidMap.length ∧ (∀ x ∈ avg, 0 ≤ x) ∧
      avg.sum = 1 ∧
      ∀ c (hc : c < rm.pidMap.length), (rm.pidMap[c] < 0 ∨ rm.pidMap[c].toNat ∈ players mc) →
        avg[c]? = some 0 := by
  obtain ⟨hs, hI⟩ := reachable_inv h
  have his : i < rm.strategy.length := by rw [hI.strategy.len]; exact hi
  have hrow := hI.strategy.row _ (List.getElem_mem his)
  exact average_strategy_distribution hid (hs.rankOf_eq hmc) (getIdx_ok his) hrow.1 hrow.2
    (hI.strategy.used i mc _ hmc (List.getElem?_eq_getElem his)) (hs.used_lt i mc hi hmc) (hs.unused i mc hi hmc)
    (reachable_pidMap h)

/-- **orthogonality, every reachable state**: `add` is the regret added before the clipping of the plus variant; for
    the plain variant it is `row' − row` -/
theorem orthogonality_reachable {p : Policy} {rm rm' : RM α} (h : TreeReachable p rm) {t : List α}
    {u : List (List Nat)} (hin : ValidInput rm t u) (hit : rm.iterate t u = .ok rm') {i mc : Nat}
    (hi : i < rm.R) (hmc : rm.rankToId[i]? = some mc) :
    ∃ σ row row' add : List α, rm.regretMatching mc = .ok σ ∧ rm.regret[i]? = some row ∧
      rm'.regret[i]? = some row' ∧ add.length = rm.m ∧
      (List.zipWith (· * ·) σ add).sum = 0 ∧
      row' = (if rm.plus then (List.zipWith (· + ·) row add).map Regret.posPart else List.zipWith (· + ·) row add) ∧
      (rm.plus = false → (List.zipWith (· * ·) σ (List.zipWith (fun r' r => r' - r) row' row)).sum = 0) := by
  obtain ⟨hs, hI⟩ := reachable_inv h
  obtain ⟨rm'', hok, _, _, hnode⟩ := iterate_inv hs hI hin
  rw [hit] at hok
  cases hok
  obtain ⟨σ, row, add, hσ, hrow, hal, horth, hrow'⟩ := hnode i mc hi hmc
  refine ⟨σ, row, _, add, hσ, hrow, hrow', hal, horth, rfl, ?_⟩
  intro hp
  have hrl : row.length = rm.m := hI.regret_row _ (List.mem_of_getElem? hrow)
  simp only [hp, Bool.false_eq_true, if_false]
  rw [zipWith_add_sub_cancel row add (by rw [hrl, hal])]
  exact horth

theorem plus_nonneg_reachable {p : Policy} {rm : RM α} (h : TreeReachable p rm) (hp : rm.plus = true) :
    ∀ row ∈ rm.regret, ∀ x ∈ row, 0 ≤ x :=
  (reachable_inv h).2.plus_nonneg hp

/-- so revealed coalitions are never played again -/
theorem used_regret_nonpos_reachable {p : Policy} {rm : RM α} (h : TreeReachable p rm) {i mc : Nat}
    {row : List α} (hmc : rm.rankToId[i]? = some mc) (hrow : rm.regret[i]? = some row) :
    ∀ a ∈ players mc, ∀ ha : a < row.length, row[a] ≤ 0 :=
  (reachable_inv h).2.used_nonpos i mc row hmc hrow

end tree

/-- the hypotheses are satisfiable by a non-trivial instance: `n = 3`, `limit = 2`, the repository's own
    test vector as the first iteration, then a second iteration from the state reached -/
example : ∃ rm rm' rm'' : RM ℚ, RM.new Policy.repaired 3 2 false = .ok rm ∧
    ValidInput rm [1, 0, 0] [[3, 5], [5, 6], [3, 6]] ∧ rm.iterate [1, 0, 0] [[3, 5], [5, 6], [3, 6]] = .ok rm' ∧
    ValidInput rm' [0, 2, 1] [[3, 5], [5, 6], [3, 6]] ∧ rm'.iterate [0, 2, 1] [[3, 5], [5, 6], [3, 6]] = .ok rm'' ∧
    TreeReachable Policy.repaired rm'' ∧ TreeInvariant rm'' := by
  obtain ⟨rm, hnew, _⟩ := constructible_repaired (α := ℚ) (n := 3) (by decide) 2 false
  -- the three used-action lists are the ranked nodes 3, 6, 5: a fact about `n`, `pidMap`, `rankToId` only
  have hused : ∀ x ∈ [[3, 5], [5, 6], [3, 6]], ∃ id, rm.getMetacoalitionId x = .ok id ∧ id ∈ rm.rankToId := by
    obtain ⟨_, t, _, rfl⟩ := new_ok hnew
    intro x hx
    simp only [getMetacoalitionId_eq, RM.fresh]
    simp only [List.mem_cons, List.not_mem_nil, or_false] at hx
    rcases hx with rfl | rfl | rfl
    · exact ⟨3, by decide +kernel, by decide +kernel⟩
    · exact ⟨6, by decide +kernel, by decide +kernel⟩
    · exact ⟨5, by decide +kernel, by decide +kernel⟩
  have hv0 : ValidInput rm [1, 0, 0] [[3, 5], [5, 6], [3, 6]] := ⟨hused, Or.inl rfl, by decide⟩
  obtain ⟨rm', hit1, hr1, _⟩ := (tree_invariant (.new (repaired_clips _ _) hnew)).2 _ _ hv0
  have hv1 : ValidInput rm' [0, 2, 1] [[3, 5], [5, 6], [3, 6]] :=
    ⟨by rw [iterate_frame hit1]; exact hused, Or.inl rfl, by decide⟩
  obtain ⟨rm'', hit2, hr2, hinv2⟩ := (tree_invariant hr1).2 _ _ hv1
  exact ⟨rm, rm', rm'', hnew, hv0, hit1, hv1, hit2, hr2, hinv2⟩

/-- `Rat` with core's instances is what the driver runs; the theorems, stated over an ordered field, apply to it -/
example {rm : RM Rat} (h : TreeReachable (α := ℚ) Policy.repaired rm) {t : List Rat} {u : List (List Nat)}
    (hin : ValidInput (α := ℚ) rm t u) : ∃ rm', RM.iterate (α := Rat) rm t u = .ok rm' :=
  let ⟨rm', h', _⟩ := (tree_invariant h).2 t u hin
  ⟨rm', h'⟩

/-- the conclusions observed on the same inputs with `plus = true`: both iterations return, there are four regret
    minimisers, every current strategy of the final state is ≥ 0 and sums to 1, the regrets stay ≥ 0 -/
example : holds (do
    let rm ← RM.new (α := Rat) Policy.repaired 3 2 true
    let rm ← rm.iterate [1, 0, 0] [[3, 5], [5, 6], [3, 6]]
    let rm ← rm.iterate [0, 2, 1] [[3, 5], [5, 6], [3, 6]]
    let σs ← (List.range rm.R).mapM (fun i => do let mc ← getIdx rm.rankToId i; rm.regretMatching mc)
    pure (decide (rm.R = 4 ∧ σs.all (fun σ => listSum σ == 1 && σ.all (fun x => decide (0 ≤ x))) ∧
      rm.regret.all (fun row => row.all (fun x => decide (0 ≤ x)))))) = true := by
  decide +kernel

example : holds (do
    let rm ← RM.new (α := Rat) Policy.repaired 3 2 false
    let σ ← rm.regretMatching 2
    pure (decide (σ = [1/2, 0, 1/2]))) = true := by decide +kernel

/-- the repository's own test vector (tests/test_regret.py, `test_apply_regret`): regret of the root and
    average strategy of the root after one iteration -/
example : holds (do
    let rm ← RM.new (α := Rat) Policy.repaired 3 2 false
    let rm ← rm.iterate [1, 0, 0] [[3, 5], [5, 6], [3, 6]]
    let avg ← rm.averageStrategy []
    pure (decide (rm.regret.head? = some [1/6, 1/6, -1/3] ∧ avg = [0, 0, 0, 1/3, 0, 1/3, 1/3, 0]))) = true := by
  decide +kernel

/-- the same for one node: `strategy_distribution` applies to core's `Rat` -/
example : ∃ σ, regretMatchingRow (α := Rat) 3 [1/6, 1/6, -1/3] [2] = .ok σ ∧ σ.length = 3 ∧
    (∀ x ∈ σ, 0 ≤ x) ∧ σ.sum = 1 ∧ ∀ i ∈ [2], σ[i]? = some 0 :=
  strategy_distribution (α := ℚ) rfl (by decide) (by decide +kernel) ⟨0, by decide, by decide⟩

example : regretMatchingRow (α := Rat) 3 [1/6, 1/6, -1/3] [2] = .ok [1/2, 1/2, 0] := by decide +kernel
example : regretMatchingRow (α := Rat) 3 [0, -1, -1/3] [1] = .ok [1/2, 0, 1/2] := by decide +kernel
/-- without an unused coalition the model reports the 0/0 instead of returning zeros -/
example : regretMatchingRow (α := Rat) 3 [0, 0, 0] [0, 1, 2] = .error .nan := by decide +kernel

/-! ## 5. save / load -/

section saveload
variable {α : Type} [Field α] [LinearOrder α] [IsStrictOrderedRing α]

/-- states reachable from the constructor by iterations with **any** inputs, under a policy for which `load`'s second
    run of the constructor rebuilds the tables (`Policy.Stable`).  `TreeReachable` above asks instead for a clipped
    stored limit and admissible inputs; save / load needs neither. -/
inductive Reachable (p : Policy) : RM α → Prop
  | new {n limit plus rm} : p.Stable (numCoalitions n) limit → RM.new (α := α) p n limit plus = .ok rm →
      Reachable p rm
  | iter {rm rm' t u} : Reachable p rm → rm.iterate t u = .ok rm' → Reachable p rm'

/-- **save / load**: the loaded minimiser is the same value, so every later call returns the same on both -/
theorem load_save {p : Policy} {rm : RM α} (h : Reachable p rm) : RM.load p rm.save = .ok rm := by
  apply load_save_of_built
  induction h with
  | new hs h => exact new_built hs h
  | iter _ h ih => exact iterate_built ih h

theorem load_save_current {rm : RM α} {n limit plus} (h : RM.new (α := α) Policy.current n limit plus = .ok rm) :
    RM.load Policy.current rm.save = .ok rm :=
  load_save (.new (Policy.current_stable _ _) h)

theorem load_save_repaired {rm : RM α} {n limit plus} (h : RM.new (α := α) Policy.repaired n limit plus = .ok rm) :
    RM.load Policy.repaired rm.save = .ok rm :=
  load_save (.new (Policy.repaired_stable _ _) h)

end saveload

example : holds (do
    let rm ← RM.new (α := Rat) Policy.repaired 3 2 true
    let rm ← rm.iterate [1, 0, 0] [[3, 5], [5, 6], [3, 6]]
    let rm' ← RM.load Policy.repaired rm.save
    pure (decide (rm'.regret = rm.regret ∧ rm'.strategy = rm.strategy ∧ rm'.iteration = 1))) = true := by
  decide +kernel

end ICG.C14

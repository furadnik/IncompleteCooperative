/-
  Property C04 — the approximate bounds for superadditive monotone (non-increasing) games.

  "For every superadditive and monotone non-increasing game v (x ⊆ y ⇒ v(y) ≤ v(x)), every knowledge set
   containing ∅, the singletons and N, and every number of repetitions r ≥ 0,
   `compute_bounds_superadditive_monotone_approx_cached(game, r)`: (sound) lower ≤ v ≤ upper on every
   coalition, revealed coalitions exact, knowledge unchanged; (tighter) its interval lies inside the
   exact superadditive interval; (monotone in r) more repetitions never widen an interval; (shape) the
   lower bounds are non-increasing along inclusion, and the upper bound of an unknown coalition is at most
   the value of each of its known non-empty proper sub-coalitions and at most v(T) − lower(T ∖ c) for each
   known proper superset T.  The registered computers `sam_apx_1/10/100/1000` are the instances
   r = 1, 10, 100, 1000."

  Theorems about the MODEL function `sam r` (ICG/Model/Bounds.lean), composing `sam_eq_spec`
  (ICG.Lemmas.RefineSam/RefineCor) with ICG.Lemmas.SpecSAM.  All `n`, all `r`, every linearly ordered
  abelian group.  Each theorem lists exactly the hypotheses it uses (`tighter_than_sa` and the two upper
  caps do not need `MonoDec`; the caps do not even need `SA`).
-/
import ICG.Lemmas.BoundsCommon

namespace ICG.C04
open ICG Table
open ICG.BoundsCommon

variable {α : Type} [AddCommGroup α] [LinearOrder α] [IsOrderedAddMonoid α]

omit [IsOrderedAddMonoid α] in
theorem run_eq (r : Nat) (t : Table α) (v : Nat → α) (hmin : MinInfo t.n t.known) (hag : t.Agree v) :
    ∃ t', sam r t = .ok t' ∧ t'.n = t.n ∧ t'.known = t.known ∧
      (∀ c, c < 2 ^ t.n → t'.lo c = samB t.n t.known v r c ∧ t'.hi c = samUp t.n t.known v r c) ∧
      (∀ c, 2 ^ t.n ≤ c → t'.lo c = t.lo c ∧ t'.hi c = t.hi c) :=
  run_spec_agree (.sam r) t hmin hag

/-- **C04_sound r.**  NO assumption on the stale content of unknown rows. -/
theorem sound (r : Nat) (t : Table α) (v : Nat → α) (hsa : SA t.n v) (hmd : MonoDec t.n v)
    (hmin : MinInfo t.n t.known) (hag : t.Agree v) :
    ∃ t', sam r t = .ok t' ∧ t'.n = t.n ∧ t'.known = t.known ∧
      ∀ c, c < 2 ^ t.n → t'.lo c ≤ v c ∧ v c ≤ t'.hi c ∧ t'.lo c ≤ t'.hi c ∧
        (t.known c = true → t'.lo c = v c ∧ t'.hi c = v c) :=
  run_sound (.sam r) t hsa (fun _ => hmd) hmin hag

/-- **C04, registered instances**: `sam_apx_1`, `sam_apx_10`, `sam_apx_100`, `sam_apx_1000`
    (bounds.py:115) are sound. -/
theorem registered_sound (t : Table α) (v : Nat → α) (hsa : SA t.n v) (hmd : MonoDec t.n v)
    (hmin : MinInfo t.n t.known) (hag : t.Agree v) :
    ∀ r ∈ [1, 10, 100, 1000], ∃ t', sam r t = .ok t' ∧ SoundFor t t' v :=
  fun r _ => sound r t v hsa hmd hmin hag

/-- **C04_tighter_than_sa r.**  The SAM interval lies inside the exact superadditive interval computed
    by `sac` (and by `sa`: C03) from the same table.  Needs `SA` only. -/
theorem tighter_than_sa (r : Nat) (t : Table α) (v : Nat → α) (hsa : SA t.n v)
    (hmin : MinInfo t.n t.known) (hag : t.Agree v) :
    ∃ ts tm, sac t = .ok ts ∧ sam r t = .ok tm ∧
      ∀ c, c < 2 ^ t.n → ts.lo c ≤ tm.lo c ∧ tm.hi c ≤ ts.hi c := by
  obtain ⟨ts, h1, _, _, h4, _⟩ := run_spec_agree .sac t hmin hag
  obtain ⟨tm, g1, _, _, g4, _⟩ := run_eq r t v hmin hag
  refine ⟨ts, tm, h1, g1, fun c hc => ?_⟩
  rw [(h4 c hc).1, (h4 c hc).2, (g4 c hc).1, (g4 c hc).2]
  exact ⟨lo_le_samB hsa hmin r hc, samUp_le_upSpec hsa hmin r hc⟩

theorem tighter_than_sa_ref (r : Nat) (t : Table α) (v : Nat → α) (hsa : SA t.n v)
    (hmin : MinInfo t.n t.known) (hag : t.Agree v) :
    ∃ ts tm, sa t = .ok ts ∧ sam r t = .ok tm ∧
      ∀ c, c < 2 ^ t.n → ts.lo c ≤ tm.lo c ∧ tm.hi c ≤ ts.hi c := by
  obtain ⟨ts, tm, h1, h2, h3⟩ := tighter_than_sa r t v hsa hmin hag
  obtain ⟨t', a1, a2⟩ := sa_sac_agree enumFacts t hmin hag.inv
  rw [h1] at a2; cases a2
  exact ⟨ts, tm, a1, h2, h3⟩

/-- **C04_rep_mono.**  More repetitions never widen an interval. -/
theorem rep_mono {r r' : Nat} (hr : r ≤ r') (t : Table α) (v : Nat → α) (hsa : SA t.n v)
    (hmd : MonoDec t.n v) (hmin : MinInfo t.n t.known) (hag : t.Agree v) :
    ∃ t1 t2, sam r t = .ok t1 ∧ sam r' t = .ok t2 ∧
      ∀ c, c < 2 ^ t.n → t1.lo c ≤ t2.lo c ∧ t2.hi c ≤ t1.hi c := by
  obtain ⟨t1, h1, _, _, h4, _⟩ := run_eq r t v hmin hag
  obtain ⟨t2, g1, _, _, g4, _⟩ := run_eq r' t v hmin hag
  refine ⟨t1, t2, h1, g1, fun c hc => ?_⟩
  rw [(h4 c hc).1, (h4 c hc).2, (g4 c hc).1, (g4 c hc).2]
  exact sam_mono_rep hsa hmd hmin hr hc

/-- **C04_lower_antitone.**  After `sam r` the lower bounds are non-increasing along inclusion, over all
    pairs of coalitions of the game (known or not). -/
theorem lower_antitone (r : Nat) (t : Table α) (v : Nat → α) (hsa : SA t.n v) (hmd : MonoDec t.n v)
    (hmin : MinInfo t.n t.known) (hag : t.Agree v) :
    ∃ t', sam r t = .ok t' ∧ ∀ x c, c < 2 ^ t.n → x &&& c = x → t'.lo c ≤ t'.lo x := by
  obtain ⟨t', h1, _, _, h4, _⟩ := run_eq r t v hmin hag
  refine ⟨t', h1, fun x c hc hsub => ?_⟩
  rw [(h4 c hc).1, (h4 x (sub_lt_two_pow hsub hc)).1]
  exact samB_antitone hsa hmd r hsub hc

set_option linter.unusedSectionVars false in
/-- **C04_upper_le_sub.**  The upper bound of an unknown coalition is at most the value of each of its
    known non-empty proper sub-coalitions.  (`MinInfo` and `Inv` only.) -/
theorem upper_le_sub (r : Nat) (t : Table α) (hmin : MinInfo t.n t.known) (hinv : t.Inv) :
    ∃ t', sam r t = .ok t' ∧ ∀ c x, c < 2 ^ t.n → t.known c = false → x &&& c = x → x ≠ 0 → x ≠ c →
      t.known x = true → t'.hi c ≤ t.lo x := by
  obtain ⟨t', h1, _, _, h4, _⟩ := run_spec (.sam r) t hmin hinv
  refine ⟨t', h1, fun c x hc hk hsub hx0 hxc hkx => ?_⟩
  rw [(h4 c hc).2]
  exact samUp_le_sub hmin r hc hk hsub hx0 hxc hkx

set_option linter.unusedSectionVars false in
/-- **C04_upper_le_super.**  The upper bound of an unknown coalition is at most
    `value T − (computed lower bound of T ∖ c)` for each known proper superset `T` within the game. -/
theorem upper_le_super (r : Nat) (t : Table α) (hmin : MinInfo t.n t.known) (hinv : t.Inv) :
    ∃ t', sam r t = .ok t' ∧ ∀ c T, c < 2 ^ t.n → t.known c = false → T < 2 ^ t.n → c &&& T = c →
      T ≠ c → t.known T = true → t'.hi c ≤ t.lo T - t'.lo (T - c) := by
  obtain ⟨t', h1, _, _, h4, _⟩ := run_spec (.sam r) t hmin hinv
  refine ⟨t', h1, fun c T hc hk hT hsub hTc hkT => ?_⟩
  rw [(h4 c hc).2, (h4 (T - c) (Nat.sub_lt_of_lt hT)).1]
  exact samUp_le_super hmin r hc hk hT hsub hTc hkT

/-! ### the hypotheses are satisfiable: `samT` = minimal information about `v c = −min(2, |c|)`,
    3 players over `Int`, stale junk in the three unknown pairs -/

example (r : Nat) : ∃ t', sam r Ex.samT = .ok t' ∧ SoundFor Ex.samT t' SAMExample.v :=
  sound r Ex.samT SAMExample.v Ex.samT_sa Ex.samT_md Ex.samT_min Ex.samT_agree

example : ∀ r ∈ [1, 10, 100, 1000], ∃ t', sam r Ex.samT' = .ok t' ∧ SoundFor Ex.samT' t' SAMExample.v :=
  registered_sound Ex.samT' SAMExample.v Ex.samT_sa Ex.samT_md SAMExample.minInfo' Ex.samT'_agree

example (r : Nat) : ∃ ts tm, sac Ex.samT = .ok ts ∧ sam r Ex.samT = .ok tm ∧
    ∀ c, c < 2 ^ 3 → ts.lo c ≤ tm.lo c ∧ tm.hi c ≤ ts.hi c :=
  tighter_than_sa r Ex.samT SAMExample.v Ex.samT_sa Ex.samT_min Ex.samT_agree

example : ∃ t1 t2, sam 1 Ex.samT = .ok t1 ∧ sam 10 Ex.samT = .ok t2 ∧
    ∀ c, c < 2 ^ 3 → t1.lo c ≤ t2.lo c ∧ t2.hi c ≤ t1.hi c :=
  rep_mono (by decide) Ex.samT SAMExample.v Ex.samT_sa Ex.samT_md Ex.samT_min Ex.samT_agree

example (r : Nat) : ∃ t', sam r Ex.samT = .ok t' ∧
    ∀ x c, c < 2 ^ 3 → x &&& c = x → t'.lo c ≤ t'.lo x :=
  lower_antitone r Ex.samT SAMExample.v Ex.samT_sa Ex.samT_md Ex.samT_min Ex.samT_agree

/-- the two caps at the unknown pair {0,2} (id 5): sub-coalition {2} (id 4), superset N (id 7) -/
example (r : Nat) : ∃ t', sam r Ex.samT = .ok t' ∧ t'.hi 5 ≤ Ex.samT.lo 4 := by
  obtain ⟨t', h1, h2⟩ := upper_le_sub r Ex.samT Ex.samT_min Ex.samT_agree.inv
  exact ⟨t', h1, h2 5 4 (by decide) (by decide) (by decide) (by decide) (by decide) (by decide)⟩

example (r : Nat) : ∃ t', sam r Ex.samT = .ok t' ∧ t'.hi 5 ≤ Ex.samT.lo 7 - t'.lo (7 - 5) := by
  obtain ⟨t', h1, h2⟩ := upper_le_super r Ex.samT Ex.samT_min Ex.samT_agree.inv
  exact ⟨t', h1, h2 5 7 (by decide) (by decide) (by decide) (by decide) (by decide) (by decide)⟩

end ICG.C04

/-
  Property C12 — evaluate().

  "For each repetition j, evaluate() returns the real trajectory of that repetition: row 0 of the gap
  matrix is the gap at minimal information, row t+1 the gap after the t-th coalition chosen in that
  repetition's hidden game, and the action matrix holds the ids actually revealed (distinct and
  explorable). For a fixed seed the result is the same for every number of worker processes, and distinct
  repetitions are evaluated on independently drawn hidden games (never replays of one another)."

  Theorems about ICG.Model.Search (`evalOne`, `evaluate`, the pool).  The environment is an abstract state
  machine (`EnvOps`), the solver an arbitrary function with its own state.
  * `trajectory`: what one repetition's two rows contain, for every environment and solver;
  * `isolated_schedule_free`: if a repetition's outcome is a function of its own environment alone (`Isolated`), every
    chunking — every number of worker processes — gives the plain map over the environments;
  * `current_*`: the model of the code before commit "fix: one child random stream per environment" does NOT satisfy
    that hypothesis, and the property fails for it: concrete runs where two process counts assign different generator
    draws to the repetitions, and where all repetitions of a parallel run see the same draw (the same hidden game);
  * `repaired_*`: the model of the code AFTER that commit (ICG.Model.SearchRepaired: one child stream per environment,
    a draw = (stream, position)): for every chunking, in the sequential branch, for every solver, repetition j is
    evaluated on draw (j, 2), distinct for distinct j; for solvers without mutable state (`Stateless`) it is `Isolated`,
    hence `evaluate()` = the plain map over the environments for EVERY `procs`.
  (That the ids are distinct and explorable is a property of the environment: C09.)
-/
import ICG.Lemmas.Search
import ICG.Model.SearchRepaired
import Batteries.Lean.Except

namespace ICG.C12
open ICG ICG.Search

section trajectory
variable {α ε ρ ς : Type} [Neg α]

/-- the outcome `(reward, done, chosen coalition)` of the `t`-th step of the run that starts in solver
    state `s` and environment state `e`; `none` once an earlier step reported `done` (or raised). -/
def stepAt (E : EnvOps ε ρ α) (next : ς → ε → Except Err (ς × Nat)) : Nat → ς → ε → Option (α × Bool × Nat)
  | 0, s, e =>
    match next s e with
    | .error _ => none
    | .ok (_, a) =>
      match E.step e a with
      | .error _ => none
      | .ok (_, r, d, c) => some (r, d, c)
  | t + 1, s, e =>
    match next s e with
    | .error _ => none
    | .ok (s1, a) =>
      match E.step e a with
      | .error _ => none
      | .ok (e1, _, d, _) => if d then none else stepAt E next t s1 e1

theorem episodes_succ_ok {E : EnvOps ε ρ α} {next : ς → ε → Except Err (ς × Nat)} {f : Nat} {s s' : ς} {e : ε}
    {gs : List α} {cs : List Nat} (h : episodes E next (f + 1) s e = .ok (s', gs, cs)) :
    ∃ s1 a e1 r d c, next s e = .ok (s1, a) ∧ E.step e a = .ok (e1, r, d, c) ∧
      ((d = true ∧ gs = [-r] ∧ cs = [c]) ∨
       (d = false ∧ ∃ gs' cs', episodes E next f s1 e1 = .ok (s', gs', cs') ∧ gs = -r :: gs' ∧ cs = c :: cs')) := by
  rw [episodes] at h
  cases hn : next s e with
  | error err => rw [hn] at h; cases h
  | ok p =>
    obtain ⟨s1, a⟩ := p
    rw [hn] at h
    dsimp only at h
    cases hs : E.step e a with
    | error err => rw [hs] at h; cases h
    | ok q =>
      obtain ⟨e1, r, d, c⟩ := q
      rw [hs] at h
      dsimp only at h
      refine ⟨s1, a, e1, r, d, c, rfl, hs, ?_⟩
      cases d with
      | true => cases h; exact Or.inl ⟨rfl, rfl, rfl⟩
      | false =>
        simp only [Bool.false_eq_true, ↓reduceIte] at h
        cases hr : episodes E next f s1 e1 with
        | error err => rw [hr] at h; cases h
        | ok w => rw [hr] at h; cases h; exact Or.inr ⟨rfl, _, _, rfl, rfl, rfl⟩

theorem episodes_spec (E : EnvOps ε ρ α) (next : ς → ε → Except Err (ς × Nat)) :
    ∀ (f : Nat) (s : ς) (e : ε) (s' : ς) (gs : List α) (cs : List Nat),
      episodes E next f s e = .ok (s', gs, cs) →
      gs.length = cs.length ∧ gs.length ≤ f ∧
      ∀ t, t < f → gs[t]? = (stepAt E next t s e).map (fun x => -x.1) ∧
                    cs[t]? = (stepAt E next t s e).map (fun x => x.2.2) := by
  intro f
  induction f with
  | zero =>
    intro s e s' gs cs h
    cases h
    exact ⟨rfl, Nat.le_refl _, fun t ht => absurd ht (Nat.not_lt_zero t)⟩
  | succ f ih =>
    intro s e s' gs cs h
    obtain ⟨s1, a, e1, r, d, c, hn, hs, ⟨rfl, rfl, rfl⟩ | ⟨rfl, gs', cs', hr, rfl, rfl⟩⟩ := episodes_succ_ok h
    · refine ⟨rfl, Nat.succ_le_succ (Nat.zero_le f), fun t _ => ?_⟩
      cases t <;> simp only [stepAt, hn, hs] <;> exact ⟨rfl, rfl⟩
    · obtain ⟨h1, h2, h3⟩ := ih s1 e1 s' gs' cs' hr
      refine ⟨congrArg (· + 1) h1, Nat.succ_le_succ h2, fun t ht => ?_⟩
      cases t with
      | zero => simp only [stepAt, hn, hs]; exact ⟨rfl, rfl⟩
      | succ t =>
        simp only [List.getElem?_cons_succ, stepAt, hn, hs, Bool.false_eq_true, ↓reduceIte]
        exact h3 t (Nat.lt_of_succ_lt_succ ht)

variable [Zero α]

theorem evalOne_ok {E : EnvOps ε ρ α} {next : ς → ε → Except Err (ς × Nat)} {limit : Nat} {st st' : ρ × ς} {env : ε}
    {G : List α} {I : List Nat} (h : evalOne E next limit st env = .ok (st', (G, I))) :
    ∃ s gs cs, episodes E next limit st.2 (E.reset env st.1).1 = .ok (s, gs, cs) ∧
      st' = ((E.reset env st.1).2, s) ∧
      G = -(E.reward (E.reset env st.1).1) :: gs ++ List.replicate (limit - gs.length) 0 ∧
      I = cs ++ List.replicate (limit - cs.length) 0 := by
  simp only [evalOne] at h
  cases hep : episodes E next limit st.2 (E.reset env st.1).1 with
  | error err => rw [hep] at h; cases h
  | ok w => rw [hep] at h; cases h; exact ⟨_, _, _, rfl, rfl, rfl, rfl⟩

/-- **C12_trajectory** (one repetition, any environment, any solver, any shared state `st` it starts
    from).  If `eval_one` returns the rows `(G, I)` then, with `e₀` the environment after ITS OWN reset:
    `G` has `limit + 1` entries and `I` has `limit`; `G[0] = −reward(e₀)` (the reward is minus the gap, so
    this is the gap at the initial knowledge of this repetition's hidden game); for every `t < limit`,
    if the `t`-th step of this repetition's own run took place — no earlier step reported `done` — then
    `G[t+1] = −(reward returned by that step)` and `I[t]` is the coalition id that step revealed;
    otherwise both are the filler `0`. -/
theorem trajectory (E : EnvOps ε ρ α) (next : ς → ε → Except Err (ς × Nat)) (limit : Nat)
    (st st' : ρ × ς) (env : ε) (G : List α) (I : List Nat)
    (h : evalOne E next limit st env = .ok (st', (G, I))) :
    let e0 := (E.reset env st.1).1
    G.length = limit + 1 ∧ I.length = limit ∧ G[0]? = some (-(E.reward e0)) ∧
    ∀ t, t < limit →
      match stepAt E next t st.2 e0 with
      | some (r, _, c) => G[t + 1]? = some (-r) ∧ I[t]? = some c
      | none => G[t + 1]? = some 0 ∧ I[t]? = some 0 := by
  obtain ⟨s, gs, cs, hep, _, rfl, rfl⟩ := evalOne_ok h
  obtain ⟨h1, h2, h3⟩ := episodes_spec E next limit st.2 _ s gs cs hep
  refine ⟨by rw [List.length_append, List.length_cons, List.length_replicate, Nat.add_right_comm,
                 Nat.add_sub_of_le h2],
          by rw [List.length_append, List.length_replicate, Nat.add_sub_of_le (h1 ▸ h2)], rfl, fun t ht => ?_⟩
  obtain ⟨hg, hc⟩ := h3 t ht
  rw [List.cons_append, List.getElem?_cons_succ, getElem?_pad gs 0 ht, getElem?_pad cs 0 ht, hg, hc]
  cases stepAt E next t st.2 (E.reset env st.1).1 with
  | some x => exact ⟨rfl, rfl⟩
  | none => exact ⟨rfl, rfl⟩

end trajectory

/-! ### non-vacuity: a two-step run that is done after its second step -/
section examples

/-- scripted environment: state = number of steps taken; done after 2 steps; reward −(10 − 3·steps) -/
def demoEnv : EnvOps Nat Unit Int :=
  { reset := fun _ r => (0, r), reward := fun e => -(10 - 3 * (e : Int)),
    step := fun e a => .ok (e + 1, -(10 - 3 * ((e : Int) + 1)), decide (e + 1 ≥ 2), 100 + a) }

def demoNext : Nat → Nat → Except Err (Nat × Nat) := fun s e => .ok (s + 1, 7 * s + e)

example : (evalOne demoEnv demoNext 4 ((), 0) 5).toOption = some (((), 2), ([10, 7, 4, 0, 0], [100, 108, 0, 0])) := by
  decide
example : stepAt demoEnv demoNext 1 0 0 = some (-4, true, 108) ∧ stepAt demoEnv demoNext 2 0 0 = none := by
  decide

end examples

/-! ### schedules -/
section schedule
variable {α ε ρ ς : Type} [Neg α] [Zero α]

/-- a repetition is *isolated* when its rows are a function `g` of its own environment — whatever
    generator state and solver state it is started from, i.e. it shares no mutable state with the
    other repetitions -/
def Isolated (E : EnvOps ε ρ α) (next : ς → ε → Except Err (ς × Nat)) (limit : Nat)
    (g : ε → Except Err (List α × List Nat)) : Prop :=
  ∀ (st : ρ × ς) (env : ε), (evalOne E next limit st env).map (·.2) = g env

/-- **C12_isolated_schedule_free**: with isolated repetitions, EVERY partition of the repetitions into
    consecutive pool chunks, started from any snapshot of the shared objects, yields the plain map of `g`
    over the environments — so the result is the same for every number of worker processes. -/
theorem isolated_schedule_free (E : EnvOps ε ρ α) (next : ς → ε → Except Err (ς × Nat)) (limit : Nat)
    (g : ε → Except Err (List α × List Nat)) (hiso : Isolated E next limit g)
    (snapshot : ρ × ς) (chunks : List (List ε)) :
    runPool (evalOne E next limit) snapshot chunks = mapE g chunks.flatten := by
  refine runPool_of_stateFree (Inv := fun _ => True) (P := fun _ => True) ?_ snapshot trivial chunks
    (fun _ _ => trivial)
  intro st env _ _
  have := hiso st env
  cases h : evalOne E next limit st env with
  | error e => rw [h] at this; exact this.symm
  | ok p => obtain ⟨st', r⟩ := p; rw [h] at this; exact ⟨trivial, this.symm⟩

theorem isolated_par_eq (E : EnvOps ε ρ α) (mk : ρ → ε × ρ) (next : ς → ε → Except Err (ς × Nat))
    (limit reps : Nat) (g : ε → Except Err (List α × List Nat)) (hiso : Isolated E next limit g)
    (st : ρ × ς) (p q : Nat) (hp : 0 < p) (hq : 0 < q) :
    evaluatePar E mk next limit reps p st = evaluatePar E mk next limit reps q st := by
  have hp' : p ≠ 0 := Nat.ne_of_gt hp
  have hq' : q ≠ 0 := Nat.ne_of_gt hq
  simp only [evaluatePar, starmap, hp', hq', ↓reduceIte]
  rw [isolated_schedule_free E next limit g hiso, isolated_schedule_free E next limit g hiso,
    poolChunks_flatten _ hp, poolChunks_flatten _ hq]

/-- the sequential branch gives the same map when evaluating a repetition leaves alone the state from which
    environments are constructed -/
theorem isolated_seq_eq_par (E : EnvOps ε ρ α) (mk : ρ → ε × ρ) (next : ς → ε → Except Err (ς × Nat))
    (limit : Nat) (g : ε → Except Err (List α × List Nat)) (hiso : Isolated E next limit g)
    (hρ : ∀ st env st' r, evalOne E next limit st env = .ok (st', r) → st'.1 = st.1) :
    ∀ (reps : Nat) (st : ρ × ς), (evaluateSeq E mk next limit reps st).map (·.2) = mapE g (mkEnvs mk reps st.1).1 := by
  intro reps
  induction reps with
  | zero => intro st; rfl
  | succ reps ih =>
    intro st
    simp only [evaluateSeq, mkEnvs, mapE]
    rcases rows_cases (hiso ((mk st.1).2, st.2) (mk st.1).1) with ⟨e', hx, hz⟩ | ⟨st1, r, hx, hz⟩
    · simp only [hx, hz]; rfl
    · have := ih st1
      rw [hρ _ _ _ _ hx] at this
      rcases rows_cases this with ⟨e', hx', hz'⟩ | ⟨st2, rest, hx', hz'⟩
      · simp only [hx, hz, hx', hz']; rfl
      · simp only [hx, hz, hx', hz']; rfl

end schedule

/-! ### model of the code before commit "fix: one child random stream per environment":
    one generator RNG shared by all environments -/

/-- generator draw seen by each repetition (the first entry of its gap row in `poolDraws`) -/
def drawsSeen (reps procs : Nat) : Option (List Int) :=
  (poolDraws 2 0 reps procs).toOption.map (fun rows => rows.map (fun r => r.1.headD 0))

/-- **C12_current_shared_rng** — the negation for the model of the code before commit "fix: one child random
    stream per environment" (`ICG_Gym.__init__` draws twice, `eval_one` once, all from the instance's single RNG):
    with 1 process repetition j sees draw 3j+2 — four different hidden games; with 2 processes all four
    repetitions see draw 8 — one hidden game replayed four times; with 16 repetitions and 2 processes the
    chunks have two tasks and every chunk replays draws 32, 33.  So the result depends on the number of
    worker processes and repetitions are replays of one another. -/
theorem current_shared_rng :
    drawsSeen 4 1 = some [2, 5, 8, 11] ∧ drawsSeen 4 2 = some [8, 8, 8, 8] ∧
    drawsSeen 4 1 ≠ drawsSeen 4 2 ∧
    drawsSeen 16 2 = some [32, 33, 32, 33, 32, 33, 32, 33, 32, 33, 32, 33, 32, 33, 32, 33] ∧
    drawsSeen 16 3 = some [32, 33, 32, 33, 32, 33, 32, 33, 32, 33, 32, 33, 32, 33, 32, 33] ∧
    drawsSeen 16 1 = some [2, 5, 8, 11, 14, 17, 20, 23, 26, 29, 32, 35, 38, 41, 44, 47] := by
  decide

/-- the solver's own random source (solvers/random.py) is shared the same way: with 2 steps per repetition,
    sequentially repetition j uses solver draws 2j, 2j+1; in a pool every chunk restarts at 0 (the commit does not touch
    the solver, see `repaired_solver_rng_still_shared`) -/
theorem current_shared_solver_rng :
    (poolDraws 2 2 3 1).toOption.map (fun rows => rows.map (·.2)) = some [[0, 1], [2, 3], [4, 5]] ∧
    (poolDraws 2 2 3 2).toOption.map (fun rows => rows.map (·.2)) = some [[0, 1], [0, 1], [0, 1]] := by
  decide

/-- that model is not `Isolated`: the same environment evaluated from two generator states gives different rows -/
theorem current_not_isolated :
    ¬ ∃ g, Isolated (drawEnv 2).1 drawSolver 0 g := by
  rintro ⟨g, hg⟩
  have h1 := hg (0, 0) 0
  have h2 := hg (1, 0) 0
  rw [← h2] at h1
  revert h1
  decide

/-! ### the REPAIRED code: one child generator per environment

Model: `ICG.Model.SearchRepaired` (`drawRepaired`, `repairedEnv`, `repairedMk`, `mkEnvsRepaired`,
`evaluateRepaired` = the unchanged `evaluate` instantiated with them). -/
section repaired
variable {ς : Type}

theorem draw_neg_neg (d : Draw) : - -d = d := by
  cases d with
  | mk a b =>
    show Draw.mk (- -a) (- -b) = Draw.mk a b
    rw [Int.neg_neg, Int.neg_neg]

theorem drawRepaired_inj {j k j' k' : Nat} : drawRepaired j k = drawRepaired j' k' ↔ j = j' ∧ k = k' := by
  simp only [drawRepaired, Draw.mk.injEq]
  omega

theorem mkEnvs_repaired : ∀ (reps c : Nat),
    mkEnvs repairedMk reps c = ((List.range reps).map (fun j => (repairedMk (c + j)).1), c + reps) := by
  intro reps
  induction reps with
  | zero => intro c; rfl
  | succ reps ih =>
    intro c
    simp only [mkEnvs, ih (repairedMk c).2, List.range_succ_eq_map, List.map_cons, List.map_map]
    refine Prod.ext ?_ ?_
    · simp only [Nat.add_zero, List.cons.injEq, true_and]
      apply List.map_congr_left
      intro j _
      simp only [repairedMk, Function.comp]
      rw [Nat.add_assoc c 1 j, Nat.add_comm 1 j]
    · simp only [repairedMk]; omega

theorem mkEnvsRepaired_eq (reps : Nat) :
    mkEnvsRepaired reps =
      (List.range reps).map (fun j => ({ stream := j, pos := 2, game := drawRepaired j 1 } : RepEnv)) := by
  simp only [mkEnvsRepaired, mkEnvs_repaired, repairedMk, Nat.zero_add]

theorem episodes_repaired (next : ς → RepEnv → Except Err (ς × Nat)) :
    ∀ (f : Nat) (s : ς) (e : RepEnv) (s' : ς) (gs : List Draw) (cs : List Nat),
      episodes repairedEnv next f s e = .ok (s', gs, cs) → gs = List.replicate f e.game ∧ cs.length = f := by
  intro f
  induction f with
  | zero => intro s e s' gs cs h; cases h; exact ⟨rfl, rfl⟩
  | succ f ih =>
    intro s e s' gs cs h
    -- the repaired environment never reports `done`, stays where it is, and returns `-game` as reward
    obtain ⟨s1, a, e1, r, d, c, _, hs, ⟨rfl, _⟩ | ⟨rfl, gs', cs', hr, rfl, rfl⟩⟩ := episodes_succ_ok h
    · cases hs
    · cases hs
      obtain ⟨h1, h2⟩ := ih s1 e s' gs' cs' hr
      exact ⟨by rw [h1, draw_neg_neg, List.replicate_succ], by rw [List.length_cons, h2]⟩

/-- one repetition under the repaired plumbing, from ANY shared state and for ANY solver: the spawn
    counter is left alone, and every gap row shows the next draw of the environment's own stream -/
theorem evalOne_repaired (next : ς → RepEnv → Except Err (ς × Nat)) (limit : Nat)
    (st st' : Nat × ς) (env : RepEnv) (G : List Draw) (I : List Nat)
    (h : evalOne repairedEnv next limit st env = .ok (st', (G, I))) :
    st'.1 = st.1 ∧ G = List.replicate (limit + 1) (drawRepaired env.stream env.pos) ∧ I.length = limit := by
  obtain ⟨s, gs, cs, hep, rfl, rfl, rfl⟩ := evalOne_ok h
  obtain ⟨h1, h2⟩ := episodes_repaired next limit st.2 _ s gs cs hep
  refine ⟨rfl, ?_, ?_⟩
  · rw [h1]
    simp only [repairedEnv, draw_neg_neg, List.length_replicate, Nat.sub_self, List.replicate_zero,
      List.append_nil, List.replicate_succ]
  · simp only [List.length_append, List.length_replicate, h2, Nat.sub_self, Nat.add_zero]

theorem evaluateSeq_repaired (next : ς → RepEnv → Except Err (ς × Nat)) (limit : Nat) :
    ∀ (reps c : Nat) (s : ς) (st' : Nat × ς) (rows : List (List Draw × List Nat)),
      evaluateSeq repairedEnv repairedMk next limit reps (c, s) = .ok (st', rows) →
      rows.map (·.1) = (List.range reps).map (fun j => List.replicate (limit + 1) (drawRepaired (c + j) 2)) := by
  intro reps
  induction reps with
  | zero =>
    intro c s st' rows h
    simp only [evaluateSeq, Except.ok.injEq, Prod.mk.injEq] at h
    obtain ⟨_, rfl⟩ := h
    rfl
  | succ reps ih =>
    intro c s st' rows h
    simp only [evaluateSeq] at h
    cases h1 : evalOne repairedEnv next limit ((repairedMk c).2, s) (repairedMk c).1 with
    | error e => rw [h1] at h; cases h
    | ok p =>
      obtain ⟨st1, G, I⟩ := p
      rw [h1] at h
      simp only at h
      obtain ⟨hc, hG, _⟩ := evalOne_repaired next limit _ st1 _ G I h1
      obtain ⟨c1, s1⟩ := st1
      simp only at hc
      subst hc
      cases h2 : evaluateSeq repairedEnv repairedMk next limit reps ((repairedMk c).2, s1) with
      | error e => rw [h2] at h; cases h
      | ok w =>
        obtain ⟨st2, rest⟩ := w
        rw [h2] at h
        simp only [Except.ok.injEq, Prod.mk.injEq] at h
        obtain ⟨_, rfl⟩ := h
        have := ih (repairedMk c).2 s1 st2 rest h2
        simp only [List.map_cons, this, hG, List.range_succ_eq_map, List.map_map, repairedMk,
          Nat.add_zero, List.cons.injEq, true_and]
        apply List.map_congr_left
        intro j _
        simp only [Function.comp]
        rw [Nat.add_assoc c 1 j, Nat.add_comm 1 j]

theorem evaluateRepaired_par (next : ς → RepEnv → Except Err (ς × Nat)) (limit reps : Nat) {procs : Nat}
    (hp : procs > 1) (s : ς) :
    evaluateRepaired next limit reps procs s =
      runPool (evalOne repairedEnv next limit) ((mkEnvs repairedMk reps 0).2, s)
        (poolChunks (mkEnvsRepaired reps) procs) := by
  simp only [evaluateRepaired, evaluate, hp, ↓reduceIte, evaluatePar, starmap, Nat.ne_of_gt (Nat.lt_of_succ_lt hp)]
  rfl

theorem evaluateRepaired_seq (next : ς → RepEnv → Except Err (ς × Nat)) (limit reps : Nat) {procs : Nat}
    (hp : ¬ procs > 1) (s : ς) :
    evaluateRepaired next limit reps procs s =
      (evaluateSeq repairedEnv repairedMk next limit reps (0, s)).map (·.2) := by
  simp only [evaluateRepaired, evaluate, hp, ↓reduceIte]
  cases evaluateSeq repairedEnv repairedMk next limit reps (0, s) <;> rfl

/-- the draws, pool part: under the repaired plumbing, for EVERY solver, every `limit` and EVERY partition
    of the task list into pool chunks, started from any snapshot of the shared objects: if the pool returns, repetition
    `j`'s gap rows all show draw `(j, 2)`, the third game of the stream spawned `j`-th. -/
theorem repaired_draws_pool (next : ς → RepEnv → Except Err (ς × Nat)) (limit reps : Nat) (snapshot : Nat × ς)
    (chunks : List (List RepEnv)) (rows : List (List Draw × List Nat))
    (hfl : chunks.flatten = mkEnvsRepaired reps)
    (hrun : runPool (evalOne repairedEnv next limit) snapshot chunks = .ok rows) :
    rows.map (·.1) = (List.range reps).map (fun j => List.replicate (limit + 1) (drawRepaired j 2)) := by
  have := runPool_map_of (π := fun r : List Draw × List Nat => r.1)
    (f := fun env : RepEnv => List.replicate (limit + 1) (drawRepaired env.stream env.pos))
    (fun st env st' r hr => (evalOne_repaired next limit st st' env r.1 r.2 hr).2.1) snapshot chunks rows hrun
  rw [this, hfl, mkEnvsRepaired_eq, List.map_map]
  rfl

/-- the same for `evaluate()` itself with every `procs` (`procs ≤ 1`: the sequential branch
    with its lazy construction; `procs > 1`: the pool with CPython's chunking), hence independently of the process
    count.  (`repaired_total` below: the call does return whenever the solver does.) -/
theorem repaired_draws (next : ς → RepEnv → Except Err (ς × Nat)) (limit reps procs : Nat) (s : ς)
    (rows : List (List Draw × List Nat)) (h : evaluateRepaired next limit reps procs s = .ok rows) :
    rows.map (·.1) = (List.range reps).map (fun j => List.replicate (limit + 1) (drawRepaired j 2)) := by
  by_cases hp : procs > 1
  · rw [evaluateRepaired_par next limit reps hp] at h
    exact repaired_draws_pool next limit reps _ _ rows (poolChunks_flatten _ (by omega)) h
  · rw [evaluateRepaired_seq next limit reps hp] at h
    rcases rows_cases h with ⟨_, _, hz⟩ | ⟨st', rows', hs, hz⟩
    · cases hz
    · cases hz
      simpa only [Nat.zero_add] using evaluateSeq_repaired next limit reps 0 s st' rows hs

/-- row 0 only (the gap at minimal information is that of draw `(j, 2)`) -/
theorem repaired_draws_row0 (next : ς → RepEnv → Except Err (ς × Nat)) (limit reps procs : Nat) (s : ς)
    (rows : List (List Draw × List Nat)) (h : evaluateRepaired next limit reps procs s = .ok rows) :
    rows.map (fun r => r.1.head?) = (List.range reps).map (fun j => some (drawRepaired j 2)) := by
  have := congrArg (List.map List.head?) (repaired_draws next limit reps procs s rows h)
  simpa only [List.map_map, Function.comp_def, List.replicate_succ, List.head?_cons] using this

/-- the call returns whenever the solver does (the repaired environment model never raises) -/
theorem repaired_total (next : ς → RepEnv → Except Err (ς × Nat)) (hnext : ∀ s e, ∃ p, next s e = .ok p)
    (limit reps procs : Nat) (s : ς) : ∃ rows, evaluateRepaired next limit reps procs s = .ok rows := by
  have hep : ∀ (f : Nat) (s : ς) (e : RepEnv), ∃ w, episodes repairedEnv next f s e = .ok w := by
    intro f
    induction f with
    | zero => intro s e; exact ⟨_, rfl⟩
    | succ f ih =>
      intro s e
      obtain ⟨⟨s1, a⟩, hn⟩ := hnext s e
      obtain ⟨⟨s2, gs, cs⟩, hr⟩ := ih s1 e
      simp only [repairedEnv] at hr
      simp only [episodes, hn, repairedEnv, Bool.false_eq_true, ↓reduceIte, hr]
      exact ⟨_, rfl⟩
  have hone : ∀ (st : Nat × ς) (env : RepEnv), ∃ p, evalOne repairedEnv next limit st env = .ok p := by
    intro st env
    obtain ⟨⟨s', gs, cs⟩, hw⟩ := hep limit st.2 (repairedEnv.reset env st.1).1
    simp only [evalOne, hw]
    exact ⟨_, rfl⟩
  have hseq : ∀ (reps : Nat) (st : Nat × ς), ∃ w, evaluateSeq repairedEnv repairedMk next limit reps st = .ok w := by
    intro reps
    induction reps with
    | zero => intro st; exact ⟨_, rfl⟩
    | succ reps ih =>
      intro st
      obtain ⟨⟨st1, r⟩, h1⟩ := hone ((repairedMk st.1).2, st.2) (repairedMk st.1).1
      obtain ⟨⟨st2, rest⟩, h2⟩ := ih st1
      simp only [evaluateSeq, h1, h2]
      exact ⟨_, rfl⟩
  by_cases hp : procs > 1
  · rw [evaluateRepaired_par next limit reps hp]
    exact runPool_total hone _ _
  · obtain ⟨⟨st', rows⟩, hw⟩ := hseq reps (0, s)
    exact ⟨rows, by rw [evaluateRepaired_seq next limit reps hp, hw]; rfl⟩

/-- distinct repetitions read distinct draws: never replays of one another -/
theorem repaired_distinct {j j' : Nat} (h : j ≠ j') : drawRepaired j 2 ≠ drawRepaired j' 2 := by
  intro heq
  exact h (drawRepaired_inj.mp heq).1

/-- the draws of the `reps` repetitions are pairwise different, and none of them is a draw an environment consumed at
    construction (positions 0 and 1 of any stream) -/
theorem repaired_draws_nodup (reps : Nat) :
    ((List.range reps).map (fun j => drawRepaired j 2)).Nodup ∧
    ∀ j j' k, k < 2 → drawRepaired j 2 ≠ drawRepaired j' k := by
  constructor
  · exact List.pairwise_map.mpr (List.nodup_range.imp fun hne hab => hne (drawRepaired_inj.mp hab).1)
  · intro j j' k hk heq
    have := (drawRepaired_inj.mp heq).2
    omega

end repaired

/-! ### repaired ⇒ isolated ⇒ schedule-free, for solvers without mutable state -/
section repairedIsolated
variable {α ε ρ ς : Type} [Neg α]

/-- the solver has no mutable state that matters: the action it returns is a function `f` of the
    environment alone (whatever it does to its own state `ς`) -/
def Stateless (next : ς → ε → Except Err (ς × Nat)) (f : ε → Except Err Nat) : Prop :=
  ∀ s e, (next s e).map (·.2) = f e

/-- `f` as a solver with trivial state -/
def pureSolver (f : ε → Except Err Nat) : Unit → ε → Except Err (Unit × Nat) :=
  fun _ e => (f e).map (fun a => ((), a))

theorem episodes_stateless (E : EnvOps ε ρ α) (next : ς → ε → Except Err (ς × Nat)) (f : ε → Except Err Nat)
    (hf : Stateless next f) :
    ∀ (lim : Nat) (s : ς) (e : ε),
      (episodes E next lim s e).map (·.2) = (episodes E (pureSolver f) lim () e).map (·.2) := by
  intro lim
  induction lim with
  | zero => intro s e; rfl
  | succ lim ih =>
    intro s e
    simp only [episodes, pureSolver]
    rcases rows_cases (hf s e) with ⟨err, hn, hz⟩ | ⟨s1, a, hn, hz⟩
    · rw [hn, hz]; rfl
    · rw [hn, hz]
      simp only [Except.map]
      cases hs : E.step e a with
      | error err => rfl
      | ok q =>
        obtain ⟨e1, r, d, c⟩ := q
        cases d with
        | true => rfl
        | false =>
          simp only [Bool.false_eq_true, ↓reduceIte]
          rcases rows_eq_cases (ih s1 e1) with ⟨e', hx, hy⟩ | ⟨s2, u, b, hx, hy⟩
          · rw [hx, hy]
          · rw [hx, hy]

variable [Zero α]

/-- every environment whose `reset` draws from a PRIVATE source (the environment it returns does not
    depend on the shared state `ρ`), evaluated with a stateless solver, is `Isolated` -/
theorem isolated_of_private (E : EnvOps ε ρ α) (hreset : ∀ e r r', (E.reset e r).1 = (E.reset e r').1)
    (next : ς → ε → Except Err (ς × Nat)) (f : ε → Except Err Nat) (hf : Stateless next f)
    (limit : Nat) (r0 : ρ) :
    Isolated E next limit (fun env => (evalOne E (pureSolver f) limit (r0, ()) env).map (·.2)) := by
  intro st env
  have hep := episodes_stateless E next f hf limit st.2 (E.reset env st.1).1
  simp only [evalOne]
  rw [hreset env r0 st.1]
  rcases rows_eq_cases hep with ⟨e', hx, hy⟩ | ⟨s2, u, b, hx, hy⟩
  · rw [hx, hy]; rfl
  · rw [hx, hy]; rfl

end repairedIsolated

section repairedSchedule
variable {ς : Type}

/-- the rows of a repetition as a function of its own environment (solver choice function `f`) -/
def repairedRows (f : RepEnv → Except Err Nat) (limit : Nat) : RepEnv → Except Err (List Draw × List Nat) :=
  fun env => (evalOne repairedEnv (pureSolver f) limit (0, ()) env).map (·.2)

/-- the model of the repaired code satisfies the hypothesis of
    `isolated_schedule_free` for every solver without mutable state. -/
theorem repaired_isolated (next : ς → RepEnv → Except Err (ς × Nat)) (f : RepEnv → Except Err Nat)
    (hf : Stateless next f) (limit : Nat) :
    Isolated repairedEnv next limit (repairedRows f limit) :=
  isolated_of_private repairedEnv (fun _ _ _ => rfl) next f hf limit 0

/-- pool part: for every solver without mutable state every chunking of the repaired
    task list gives the plain map over the environments -/
theorem repaired_pool_schedule_free (next : ς → RepEnv → Except Err (ς × Nat)) (f : RepEnv → Except Err Nat)
    (hf : Stateless next f) (limit reps : Nat) (snapshot : Nat × ς) (chunks : List (List RepEnv))
    (hfl : chunks.flatten = mkEnvsRepaired reps) :
    runPool (evalOne repairedEnv next limit) snapshot chunks = mapE (repairedRows f limit) (mkEnvsRepaired reps) := by
  rw [isolated_schedule_free repairedEnv next limit _ (repaired_isolated next f hf limit), hfl]

/-- `evaluate()` returns that same value for EVERY `procs`, sequential branch
    (`procs ≤ 1`) and pool (`procs > 1`) alike -/
theorem repaired_schedule_free (next : ς → RepEnv → Except Err (ς × Nat)) (f : RepEnv → Except Err Nat)
    (hf : Stateless next f) (limit reps procs : Nat) (s : ς) :
    evaluateRepaired next limit reps procs s = mapE (repairedRows f limit) (mkEnvsRepaired reps) := by
  by_cases hp : procs > 1
  · rw [evaluateRepaired_par next limit reps hp]
    exact repaired_pool_schedule_free next f hf limit reps _ _ (poolChunks_flatten _ (by omega))
  · rw [evaluateRepaired_seq next limit reps hp]
    exact isolated_seq_eq_par repairedEnv repairedMk next limit _ (repaired_isolated next f hf limit)
      (fun st env st' r h => (evalOne_repaired next limit st st' env r.1 r.2 h).1) reps (0, s)

theorem repaired_procs_irrelevant (next : ς → RepEnv → Except Err (ς × Nat)) (f : RepEnv → Except Err Nat)
    (hf : Stateless next f) (limit reps p q : Nat) (s : ς) :
    evaluateRepaired next limit reps p s = evaluateRepaired next limit reps q s := by
  rw [repaired_schedule_free next f hf limit reps p s, repaired_schedule_free next f hf limit reps q s]

end repairedSchedule

/-! ### the two models on the same instance (4 repetitions, 1 vs 2 processes) -/

/-- hidden-game draw seen by each repetition under the repaired model (the first entry of its gap row) -/
def drawsSeenRepaired (reps procs : Nat) : Option (List Draw) :=
  (poolDrawsRepaired 0 reps procs).toOption.map (fun rows => rows.map (fun r => r.1.headD 0))

/-- both models on 4 repetitions: the model of the code before commit "fix: one child random
    stream per environment" gives draws 2, 5, 8, 11 of the one shared stream with 1 process and draw 8
    four times with 2 processes; the repaired model gives (0,2), (1,2), (2,2), (3,2) with 1 process, with
    2 processes, and with 3 — four different hidden games, the same ones. -/
theorem current_vs_repaired :
    (drawsSeen 4 1 = some [2, 5, 8, 11] ∧ drawsSeen 4 2 = some [8, 8, 8, 8]) ∧
    (drawsSeenRepaired 4 1 = some [drawRepaired 0 2, drawRepaired 1 2, drawRepaired 2 2, drawRepaired 3 2] ∧
     drawsSeenRepaired 4 2 = some [drawRepaired 0 2, drawRepaired 1 2, drawRepaired 2 2, drawRepaired 3 2] ∧
     drawsSeenRepaired 4 3 = drawsSeenRepaired 4 1 ∧
     drawsSeenRepaired 16 2 = drawsSeenRepaired 16 1) :=
  ⟨⟨current_shared_rng.1, current_shared_rng.2.1⟩, by decide⟩

/-- non-vacuity of `repaired_schedule_free` / `repaired_draws`: a solver without mutable state (always
    action 7), 2 steps, 4 repetitions, 1 and 2 processes: the same successful result, every gap row of
    repetition j showing draw (j, 2). -/
example :
    evaluateRepaired (fun (_ : Unit) (_ : RepEnv) => .ok ((), 7)) 2 4 1 () =
      evaluateRepaired (fun (_ : Unit) (_ : RepEnv) => .ok ((), 7)) 2 4 2 () ∧
    (evaluateRepaired (fun (_ : Unit) (_ : RepEnv) => .ok ((), 7)) 2 4 2 ()).toOption =
      some [([drawRepaired 0 2, drawRepaired 0 2, drawRepaired 0 2], [7, 7]),
            ([drawRepaired 1 2, drawRepaired 1 2, drawRepaired 1 2], [7, 7]),
            ([drawRepaired 2 2, drawRepaired 2 2, drawRepaired 2 2], [7, 7]),
            ([drawRepaired 3 2, drawRepaired 3 2, drawRepaired 3 2], [7, 7])] := by
  decide

example : Stateless (fun (_ : Unit) (_ : RepEnv) => (.ok ((), 7) : Except Err (Unit × Nat))) (fun _ => .ok 7) :=
  fun _ _ => rfl

/-- the repair concerns the hidden-game generator only.  A solver WITH a random source of its own
    (solvers/random.py — not `Stateless`) still shares it across the repetitions of a chunk and restarts
    it in every chunk: under the repaired model the hidden games no longer depend on the process count,
    the solver's draws still do. -/
theorem repaired_solver_rng_still_shared :
    (poolDrawsRepaired 2 3 1).toOption.map (fun rows => rows.map (·.2)) = some [[0, 1], [2, 3], [4, 5]] ∧
    (poolDrawsRepaired 2 3 2).toOption.map (fun rows => rows.map (·.2)) = some [[0, 1], [0, 1], [0, 1]] ∧
    (poolDrawsRepaired 2 3 1).toOption.map (fun rows => rows.map (·.1)) =
      (poolDrawsRepaired 2 3 2).toOption.map (fun rows => rows.map (·.1)) := by
  decide

end ICG.C12

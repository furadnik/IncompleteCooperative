/-
  Property C19 — the entry codec, concretely.

  Props/C19.lean proves the file-level half of C19 for an ABSTRACT entry codec under the hypothesis
  `∀ e, c.decode (c.encode e) = some (norm e)`.  This file replaces that hypothesis by theorems about the concrete model of
      Output.json → json.dump(default=json_serializer) → json.load → Output.from_json / get_outputs
  in ICG.Model.Codec (JSON value trees, numpy `tolist` / `np.array`, metadata stringification):

  arrays (`np.array(a.tolist(), …)` for every array; shape, dtype and every cell come back iff no dimension except
  possibly the last is zero — hence "a run of at least one step"), metadata (comes back stringified: `PyVal.norm`),
  the whole entry (`entry_roundtrip`, `saveLoad_fixed_point`), and the file-level theorems of Props/C19.lean for
  `concreteCodec`.

  What is still trusted is listed in the header of ICG/Model/Codec.lean ((T1)–(T6): JSON text, int → double).
-/
import ICG.Model.Store
import ICG.Props.C19
import ICG.Lemmas.CodecArr
import ICG.Lemmas.CodecMeta

namespace ICG.C19Codec
open ICG.Codec ICG.Store

variable {φ : Type} (ofInt : Int → Except CErr (FCell φ))

theorem Nd.cells_hasType {a : Nd φ} (hwf : a.wfB = true) : a.cells.all (Scalar.hasType a.dtype) = true :=
  ((Bool.and_eq_true _ _).mp hwf).2

/-- `tolist` of a well-formed array succeeds; `np.array`'s shape discovery on the tree gives the cut shape and the
    cells; and `t.reload = t`: json writes and reads this tree unchanged -/
theorem tolist_discover (a : Nd φ) (hwf : a.wfB = true) (hdim : a.shape.length ≤ maxDims) :
    ∃ t, a.tolist = .ok t ∧ t.reload = t ∧ discover t = .ok (cut a.shape, a.cells) := by
  obtain ⟨dt, shape, cells⟩ := a
  simp only [Nd.wfB, Bool.and_eq_true, beq_iff_eq] at hwf
  obtain ⟨t, ht, hd, hr⟩ := discover_tolist shape cells hwf.1 hdim
  exact ⟨t, by simp [Nd.tolist, Nd.wfB, hwf.1, hwf.2, ht], hr, hd⟩

/-- every float64 array: `np.array(a.tolist(), dtype=float)` has the cells of `a`, in order, and the shape of
    `a` cut after its first zero dimension -/
theorem nd_float_roundtrip_general (a : Nd φ) (hwf : a.wfB = true) (hdt : a.dtype = .f64)
    (hdim : a.shape.length ≤ maxDims) :
    ∃ t, a.tolist = .ok t ∧ t.reload = t ∧ npArrayFloat ofInt t = .ok ⟨.f64, cut a.shape, a.cells⟩ := by
  obtain ⟨t, ht, hr, hd⟩ := tolist_discover a hwf hdim
  have hty := Nd.cells_hasType hwf
  rw [hdt] at hty
  exact ⟨t, ht, hr, by simp [npArrayFloat, hd, castTo_self ofInt .f64 a.cells hty]⟩

/-- every bool / int64 / float64 array: `np.array(a.tolist())` has the cells of `a`, the cut shape, and the
    dtype of `a` — unless `a` has no cell at all, in which case the dtype is float64 -/
theorem nd_infer_roundtrip_general (a : Nd φ) (hwf : a.wfB = true) (hdt : a.dtype ≠ .obj)
    (hdim : a.shape.length ≤ maxDims) :
    ∃ t, a.tolist = .ok t ∧ t.reload = t ∧
      npArrayInfer ofInt t = .ok ⟨if a.cells = [] then .f64 else a.dtype, cut a.shape, a.cells⟩ := by
  obtain ⟨t, ht, hr, hd⟩ := tolist_discover a hwf hdim
  have hty := Nd.cells_hasType hwf
  refine ⟨t, ht, hr, ?_⟩
  by_cases hc : a.cells = []
  · simp [npArrayInfer, hd, hc, inferDType, mapE]
  · simp [npArrayInfer, hd, inferDType_same a.dtype hdt a.cells hty (Or.inl hc),
      castTo_self ofInt a.dtype a.cells hty, hc]

/-- an array whose `tolist` keeps the shape: a numpy array (cells fill the shape, have the dtype, ≤ 64 dimensions)
    with no zero dimension except possibly the last -/
structure Good (a : Nd φ) : Prop where
  wf : a.wfB = true
  dims : a.shape.length ≤ maxDims
  nozero : ∀ d ∈ a.shape.dropLast, d ≠ 0

/-- gap array round trip (any number of dimensions): shape, dtype float64 and every cell come back -/
theorem nd_float_roundtrip (a : Nd φ) (h : Good a) (hdt : a.dtype = .f64) :
    ∃ t, a.tolist = .ok t ∧ t.reload = t ∧ npArrayFloat ofInt t = .ok a := by
  obtain ⟨t, h1, h2, h3⟩ := nd_float_roundtrip_general ofInt a h.wf hdt h.dims
  refine ⟨t, h1, h2, ?_⟩
  rw [h3, (cut_eq_self_iff a.shape).2 h.nozero]
  obtain ⟨dt, shape, cells⟩ := a
  simp only at hdt
  subst hdt
  rfl

/-- action array round trip (any number of dimensions, dtype float64 — NaN padded —, int64 or bool): shape,
    dtype and every cell come back, provided the array has a cell or is float64 -/
theorem nd_infer_roundtrip (a : Nd φ) (h : Good a) (hdt : a.dtype ≠ .obj) (hne : a.cells ≠ [] ∨ a.dtype = .f64) :
    ∃ t, a.tolist = .ok t ∧ t.reload = t ∧ npArrayInfer ofInt t = .ok a := by
  obtain ⟨t, h1, h2, h3⟩ := nd_infer_roundtrip_general ofInt a h.wf hdt h.dims
  refine ⟨t, h1, h2, ?_⟩
  rw [h3, (cut_eq_self_iff a.shape).2 h.nozero]
  obtain ⟨dt, shape, cells⟩ := a
  simp only at hne ⊢
  rcases hne with hne | hne
  · simp [hne]
  · subst hne; simp

/-- the shape survives the round trip **iff** no dimension except possibly the last is zero -/
theorem shape_preserved_iff (a : Nd φ) (hwf : a.wfB = true) (hdt : a.dtype = .f64) (hdim : a.shape.length ≤ maxDims) :
    (∃ t, a.tolist = .ok t ∧ npArrayFloat ofInt t = .ok a) ↔ ∀ d ∈ a.shape.dropLast, d ≠ 0 := by
  constructor
  · rintro ⟨t, h1, h2⟩
    obtain ⟨t', h1', _, h3⟩ := nd_float_roundtrip_general ofInt a hwf hdt hdim
    rw [h1] at h1'
    cases h1'
    rw [h2] at h3
    rw [← cut_eq_self_iff]
    obtain ⟨dt, shape, cells⟩ := a
    simp only [Except.ok.injEq, Nd.mk.injEq] at h3
    exact h3.2.1.symm
  · intro h
    obtain ⟨t, h1, _, h3⟩ := nd_float_roundtrip ofInt a ⟨hwf, hdim, h⟩ hdt
    exact ⟨t, h1, h3⟩

/-- a concrete 2 × 3 gap matrix with NaN, +inf, -inf and a negative cell (finite values as `Int` tokens) -/
def exData : Nd Int :=
  ⟨.f64, [2, 3], [.float (.fin 1), .float .nan, .float (.fin (-3)), .float .pinf, .float (.fin 5), .float .ninf]⟩

/-- a NaN-padded 3-D action array of shape (2, 1, 2), the kind `best_states` saves -/
def exActions : Nd Int :=
  ⟨.f64, [2, 1, 2], [.float .nan, .float .nan, .float (.fin 6), .float .nan]⟩

/-- int → double for `Int` tokens, exact below 2^53 (all the examples need) -/
def exOfInt (i : Int) : Except CErr (FCell Int) :=
  match roundInt i with
  | some r => .ok (.fin r)
  | none => .error .overflow

theorem good_exData : Good exData := ⟨by decide, by decide, by decide⟩
theorem good_exActions : Good exActions := ⟨by decide, by decide, by decide⟩
example : Good exData := good_exData
example : Good exActions := good_exActions
example : exData.tolist = .ok (.arr [.arr [.float (.fin 1), .float .nan, .float (.fin (-3))],
    .arr [.float .pinf, .float (.fin 5), .float .ninf]]) := by rfl
example : ∃ t, exData.tolist = .ok t ∧ npArrayFloat exOfInt t = .ok exData :=
  let ⟨t, h1, _, h3⟩ := nd_float_roundtrip exOfInt exData good_exData rfl
  ⟨t, h1, h3⟩
example : ∃ t, exActions.tolist = .ok t ∧ npArrayInfer exOfInt t = .ok exActions :=
  let ⟨t, h1, _, h3⟩ := nd_infer_roundtrip exOfInt exActions good_exActions (by decide) (Or.inr rfl)
  ⟨t, h1, h3⟩

theorem good_matrix (dt : DType) (r c : Nat) (hr : 1 ≤ r) (cells : List (Scalar φ)) (hl : cells.length = r * c)
    (hf : cells.all (Scalar.hasType dt) = true) : Good (⟨dt, [r, c], cells⟩ : Nd φ) := by
  refine ⟨by simp [Nd.wfB, prod, hl, hf], by simp [maxDims], ?_⟩
  simp only [List.dropLast_cons_cons, List.dropLast_singleton, List.mem_singleton]
  intro d hd
  exact hd ▸ Nat.ne_of_gt hr

/-- gap matrix round trip: an `r × c` float64 matrix with at least one row, any cells (NaN, ±inf, any finite
    value): shape, dtype and cells come back exactly.  (`c = 0` is allowed here: `[[], []]` keeps its shape.) -/
theorem matrix_roundtrip (r c : Nat) (hr : 1 ≤ r) (cells : List (Scalar φ)) (hl : cells.length = r * c)
    (hf : cells.all (Scalar.hasType .f64) = true) :
    ∃ t, (⟨.f64, [r, c], cells⟩ : Nd φ).tolist = .ok t ∧ t.reload = t ∧
      npArrayFloat ofInt t = .ok ⟨.f64, [r, c], cells⟩ := by
  exact nd_float_roundtrip ofInt _ (good_matrix .f64 r c hr cells hl hf) rfl

example : ∃ t, (⟨.f64, [2, 3], exData.cells⟩ : Nd Int).tolist = .ok t ∧ t.reload = t ∧
    npArrayFloat exOfInt t = .ok ⟨.f64, [2, 3], exData.cells⟩ :=
  matrix_roundtrip exOfInt 2 3 (by decide) _ (by decide) (by decide)

/-- action matrix round trip: an `r × c` matrix, `r, c ≥ 1`, of dtype float64 (ints with NaN padding, as
    `evaluate()` produces), int64 (`greedy`) or bool: shape, dtype and cells come back exactly -/
theorem matrix_roundtrip_actions (dt : DType) (hdt : dt ≠ .obj) (r c : Nat) (hr : 1 ≤ r) (hc : 1 ≤ c)
    (cells : List (Scalar φ)) (hl : cells.length = r * c) (hf : cells.all (Scalar.hasType dt) = true) :
    ∃ t, (⟨dt, [r, c], cells⟩ : Nd φ).tolist = .ok t ∧ t.reload = t ∧
      npArrayInfer ofInt t = .ok ⟨dt, [r, c], cells⟩ := by
  refine nd_infer_roundtrip ofInt _ (good_matrix dt r c hr cells hl hf) hdt (Or.inl fun h : cells = [] => ?_)
  rw [h] at hl
  exact absurd hl (Nat.ne_of_lt (Nat.mul_le_mul hr hc))

example : ∃ t, (⟨.i64, [2, 1], [.int 5, .int 9]⟩ : Nd Int).tolist = .ok t ∧ t.reload = t ∧
    npArrayInfer exOfInt t = .ok ⟨.i64, [2, 1], [.int 5, .int 9]⟩ :=
  matrix_roundtrip_actions exOfInt .i64 (by decide) 2 1 (by decide) (by decide) _ (by decide) (by decide)

/-- zero rows, the shape is NOT preserved: a `0 × c` matrix is written as `[]` and read back with shape `(0,)`;
    for every `c` the array read back differs from the one saved.  This is why the property speaks of a run of at
    least one step. -/
theorem zero_rows_shape_lost (c : Nat) :
    (⟨.f64, [0, c], []⟩ : Nd φ).tolist = .ok (.arr []) ∧
    npArrayFloat ofInt (.arr [] : Json φ) = .ok ⟨.f64, [0], []⟩ ∧
    npArrayInfer ofInt (.arr [] : Json φ) = .ok ⟨.f64, [0], []⟩ ∧
    (⟨.f64, [0], []⟩ : Nd φ) ≠ ⟨.f64, [0, c], []⟩ := by
  refine ⟨?_, by rfl, by rfl, by simp⟩
  simp [Nd.tolist, Nd.wfB, prod, toTree?, splitChunks, mapO]

/-- zero columns: a float64 `r × 0` matrix (`r ≥ 1`) does keep shape and dtype (instance of `matrix_roundtrip`); an
    int64 one keeps the shape but comes back as float64 -/
theorem zero_cols_int_dtype_lost (r : Nat) (hr : 1 ≤ r) :
    ∃ t, (⟨.i64, [r, 0], []⟩ : Nd φ).tolist = .ok t ∧ npArrayInfer ofInt t = .ok ⟨.f64, [r, 0], []⟩ := by
  obtain ⟨t, h1, _, h3⟩ := nd_infer_roundtrip_general ofInt (⟨.i64, [r, 0], []⟩ : Nd φ)
    (by simp [Nd.wfB, prod]) (by simp) (by simp [maxDims])
  refine ⟨t, h1, ?_⟩
  rw [h3]
  obtain ⟨r', rfl⟩ : ∃ r', r = r' + 1 := ⟨r - 1, by omega⟩
  simp [cut]

example : (⟨.f64, [0, 3], []⟩ : Nd Int).tolist = .ok (.arr []) := (zero_rows_shape_lost exOfInt 3).1
example : (⟨.f64, [2, 0, 3], []⟩ : Nd Int).tolist = .ok (.arr [.arr [], .arr []]) := by rfl
example : npArrayFloat exOfInt (.arr [.arr [], .arr []] : Json Int) = .ok ⟨.f64, [2, 0], []⟩ := by rfl
example : Good (⟨.f64, [3], [.float .nan, .float (.fin 2), .float .ninf]⟩ : Nd Int) := ⟨by decide, by decide, by decide⟩
example : Good (⟨.f64, [], [.float (.fin 7)]⟩ : Nd Int) := ⟨by decide, by decide, by decide⟩
example : (⟨.f64, [], [.float (.fin 7)]⟩ : Nd Int).tolist = .ok (.float (.fin 7)) := by rfl
/-- what `np.array` does with values that `tolist` never produces: `None` under `dtype=float` is NaN, an int is
    converted, a ragged list is a ValueError, without dtype a `None` makes the array an object array -/
example : npArrayFloat exOfInt (.arr [.arr [.int 1, .null], .arr [.bool true, .float (.fin 4)]] : Json Int) =
    .ok ⟨.f64, [2, 2], [.float (.fin 1), .float .nan, .float (.fin 1), .float (.fin 4)]⟩ := by rfl
example : npArrayInfer exOfInt (.arr [.arr [.int 1, .null]] : Json Int) = .ok ⟨.obj, [1, 2], [.int 1, .null]⟩ := by rfl
example : npArrayInfer exOfInt (.arr [.arr [.int 1, .bool true], .arr [.int 3, .float (.fin 4)]] : Json Int) =
    .ok ⟨.f64, [2, 2], [.float (.fin 1), .float (.fin 1), .float (.fin 3), .float (.fin 4)]⟩ := by rfl
example : npArrayFloat exOfInt (.arr [.arr [.int 1, .int 2], .arr [.int 3]] : Json Int) = .error .value := by rfl
example : npArrayFloat exOfInt (.arr [.arr [], .arr [.arr []]] : Json Int) = .error .value := by rfl

/-- metadata comes back stringified: after `json.dump(default=json_serializer)` + `json.load` a metadata value is
    `PyVal.norm` of itself (the directly written definition of "JSON stringification"), and the dump raises exactly
    when `norm` does -/
theorem stringify_eq_norm (v : PyVal φ) : v.stringify = v.norm := by
  rw [norm_eq]; rfl

theorem stringify_idem (v w : PyVal φ) (h : v.stringify = .ok w) : w.stringify = .ok w := by
  simp only [PyVal.stringify] at h
  cases hj : v.toJson with
  | error e => simp [hj] at h
  | ok j =>
    simp only [hj, Except.ok.injEq] at h
    subst h
    simp [PyVal.stringify, toJson_toPy, reload_idem]

/-- JSON-native metadata (what `json.load` can return: None, bools, ints, floats, strings, lists, dicts with distinct
    string keys) round-trips exactly -/
theorem stringify_json_native (j : Json φ) (h : j.loaded = true) : j.toPy.stringify = .ok j.toPy := by
  simp [PyVal.stringify, toJson_toPy, reload_of_loaded j h]

/-- metadata with a Path, an int key, a bool key, a tuple, a callable: `{"lr": 0.5, "dir": Path("/x/y"),
    "sizes": (1, None), "table": {1: "a", "1": "b", True: Path("p")}, "cb": <function f>}` -/
def exMeta : List (String × PyVal Int) :=
  [("lr", .float (.fin 5)), ("dir", .path "/x/y"), ("sizes", .tuple [.int 1, .none]),
   ("table", .dict [(.int 1, .str "a"), (.str "1", .str "b"), (.bool true, .path "p")]),
   ("cb", .other "<function f at 0x7f>")]

example : stringifyMeta exMeta = .ok
    [("lr", .float (.fin 5)), ("dir", .str "/x/y"), ("sizes", .list [.int 1, .none]),
     ("table", .dict [(.str "1", .str "b"), (.str "true", .str "p")]),
     ("cb", .str "<function f at 0x7f>")] := by rfl
example : (PyVal.dict [(.other, .int 1)] : PyVal Int).stringify = .error .type := by rfl
example : (PyVal.dict [(.str "1", .str "b"), (.str "true", .str "p")] : PyVal Int).stringify =
    .ok (.dict [(.str "1", .str "b"), (.str "true", .str "p")]) :=
  stringify_idem (.dict [(.int 1, .str "a"), (.str "1", .str "b"), (.bool true, .path "p")]) _ (by rfl)

/-! ## the whole entry -/

/-- the Outputs the property quantifies over: a float64 gap array and a bool / int64 / float64 action array that
    are numpy arrays (cells fill the shape) with no zero dimension before the last, the action array non-empty
    unless float64; `vars(parsed_args)` is a dict (no attribute twice) -/
structure WellShaped (o : Output φ) : Prop where
  data : Good o.data
  dataF : o.data.dtype = .f64
  actions : Good o.actions
  actT : o.actions.dtype ≠ .obj
  actNE : o.actions.cells ≠ [] ∨ o.actions.dtype = .f64
  argsNodup : (keys o.args).Nodup

/-- a well-shaped Output whose parsed arguments hold `func` and whose metadata json can write -/
def Saveable (o : Output φ) : Prop :=
  WellShaped o ∧ ∃ f sm, lookupKey o.args "func" = some f ∧
    stringifyMeta (setKey (eraseKey o.args "func") "run_type" (.str (runTypeOf f))) = .ok sm

theorem func_not_mem_meta (args : List (String × PyVal φ)) (v : PyVal φ) :
    "func" ∉ keys (setKey (eraseKey args "func") "run_type" v) :=
  not_mem_keys_setKey_eraseKey _ _ (by decide)

theorem meta_facts (args : List (String × PyVal φ)) (f : PyVal φ) (sm : List (String × PyVal φ))
    (hnd : (keys args).Nodup)
    (hs : stringifyMeta (setKey (eraseKey args "func") "run_type" (.str (runTypeOf f))) = .ok sm) :
    (keys sm).Nodup ∧ "func" ∉ keys sm ∧ lookupKey sm "run_type" = some (.str (runTypeOf f)) := by
  have hk := keys_stringifyMeta _ _ hs
  refine ⟨?_, ?_, ?_⟩
  · rw [hk]; exact keys_setKey_nodup _ _ _ (keys_eraseKey_nodup _ _ hnd)
  · rw [hk]; exact func_not_mem_meta _ _
  · obtain ⟨w, hw1, hw2⟩ := lookupKey_stringifyMeta _ _ hs "run_type" _ (lookupKey_setKey_same _ _ _)
    simp only [PyVal.stringify, PyVal.toJson, Json.reload, Json.toPy, Except.ok.injEq] at hw1
    rw [hw2, ← hw1]

theorem entryTree_of_parts {o : Output φ} {d a : Json φ} {f : PyVal φ} {m : List (String × Json φ)}
    (hd : o.data.tolist = .ok d) (ha : o.actions.tolist = .ok a) (hf : lookupKey o.args "func" = some f)
    (hm : toJsonMeta (setKey (eraseKey o.args "func") "run_type" (.str (runTypeOf f))) = .ok m) :
    entryTree o = .ok (.obj [("data", d), ("actions", a), ("metadata", .obj m)]) := by
  simp [entryTree, hd, ha, Output.metadata, hf, hm]

/-- entry round trip: for a well-shaped Output whose parsed arguments hold `func` and whose metadata json can
    write (`stringifyMeta … = .ok sm`), `from_json(json.loads(json.dumps(output.json, default=json_serializer)))`
    SUCCEEDS and returns the gap array and the action array exactly (shape, dtype, every cell) and, as parsed
    arguments, the stringified metadata (`func` removed, `run_type` set) followed by `func := run_type` -/
theorem entry_roundtrip (o : Output φ) (hw : WellShaped o) (f : PyVal φ) (hf : lookupKey o.args "func" = some f)
    (sm : List (String × PyVal φ))
    (hs : stringifyMeta (setKey (eraseKey o.args "func") "run_type" (.str (runTypeOf f))) = .ok sm) :
    saveLoad ofInt o = .ok ⟨o.data, o.actions, sm ++ [("func", .str (runTypeOf f))]⟩ := by
  obtain ⟨d, hd1, hd2, hd3⟩ := nd_float_roundtrip ofInt o.data hw.data hw.dataF
  obtain ⟨a, ha1, ha2, ha3⟩ := nd_infer_roundtrip ofInt o.actions hw.actions hw.actT hw.actNE
  generalize hmd : setKey (eraseKey o.args "func") "run_type" (PyVal.str (runTypeOf f)) = md at hs
  obtain ⟨m, hm, rfl⟩ := stringifyMeta_ok hs
  have hkeys : keys (reloadItems m) = keys md := by rw [keys_reloadItems, keys_toJsonMeta md m hm]
  have hnd : (keys md).Nodup := by
    rw [← hmd]; exact keys_setKey_nodup _ _ _ (keys_eraseKey_nodup _ _ hw.argsNodup)
  have hfunc : "func" ∉ keys md := hmd ▸ func_not_mem_meta _ _
  have hrt : lookupKey (reloadItems m) "run_type" = some (.str (runTypeOf f)) := by
    have h1 : lookupKey md "run_type" = some (.str (runTypeOf f)) := by
      rw [← hmd]; exact lookupKey_setKey_same _ _ _
    obtain ⟨j, hj1, hj2⟩ := lookupKey_toJsonMeta md m hm _ _ h1
    simp only [PyVal.toJson, Except.ok.injEq] at hj1
    subst hj1
    simp [lookupKey_reloadItems, hj2, Json.reload]
  have htree := entryTree_of_parts hd1 ha1 hf (hmd ▸ hm)
  have hdd : dedup (reloadItems m) = reloadItems m := dedup_of_nodup _ (by rw [hkeys]; exact hnd)
  have hreload : (Json.obj [("data", d), ("actions", a), ("metadata", .obj m)]).reload =
      .obj [("data", d), ("actions", a), ("metadata", .obj (reloadItems m))] := by
    simp only [Json.reload, reloadItems, hd2, ha2, hdd]
    rw [dedup_of_nodup _ (by simp [keys])]
  have hset : setKey (reloadItems m) "func" (Json.str (runTypeOf f)) =
      reloadItems m ++ [("func", .str (runTypeOf f))] :=
    setKey_of_not_mem _ _ _ (by rw [hkeys]; exact hfunc)
  simp only [saveLoad, htree, hreload]
  -- `from_json` on the reloaded tree: the three keys are found, both arrays are read back (`hd3`, `ha3`), and
  -- `metadata["func"] = metadata["run_type"]` appends, `func` being absent (`hset`)
  simp [fromJson, lookupKey, hrt, hd3, ha3, entryKeys, hset, toPyMeta_eq_mapVal, mapVal, Json.toPy]

theorem metadata_roundtrip (o o' : Output φ) (hw : WellShaped o) (h : saveLoad ofInt o = .ok o')
    (f : PyVal φ) (hf : lookupKey o.args "func" = some f) :
    ∃ sm, stringifyMeta (setKey (eraseKey o.args "func") "run_type" (.str (runTypeOf f))) = .ok sm ∧
      o'.args = sm ++ [("func", .str (runTypeOf f))] ∧
      lookupKey o'.args "run_type" = some (.str (runTypeOf f)) ∧
      lookupKey o'.args "func" = some (.str (runTypeOf f)) := by
  cases hs : stringifyMeta (setKey (eraseKey o.args "func") "run_type" (.str (runTypeOf f))) with
  | error e =>
    -- the dump raised: `saveLoad` cannot have succeeded
    exfalso
    rw [stringifyMeta_eq] at hs
    obtain ⟨d, hd1, _, _⟩ := nd_float_roundtrip ofInt o.data hw.data hw.dataF
    obtain ⟨a, ha1, _, _⟩ := nd_infer_roundtrip ofInt o.actions hw.actions hw.actT hw.actNE
    cases hm : toJsonMeta (setKey (eraseKey o.args "func") "run_type" (.str (runTypeOf f))) with
    | ok m => simp [hm] at hs
    | error e' => simp [saveLoad, entryTree, hd1, ha1, Output.metadata, hf, hm] at h
  | ok sm =>
    have h1 := entry_roundtrip ofInt o hw f hf sm hs
    rw [h] at h1
    cases h1
    obtain ⟨_, hfunc, hrt⟩ := meta_facts o.args f sm hw.argsNodup hs
    exact ⟨sm, rfl, rfl, lookupKey_append_of_some _ _ _ _ hrt, lookupKey_append_singleton _ _ _ hfunc⟩

/-- what was read back is a fixed point: saving the Output that was read back and reading it again returns it
    unchanged (so the second and every later generation of a results file is exact, metadata included) -/
theorem saveLoad_fixed_point (o o' : Output φ) (hs : Saveable o) (h : saveLoad ofInt o = .ok o') :
    Saveable o' ∧ saveLoad ofInt o' = .ok o' ∧ o'.data = o.data ∧ o'.actions = o.actions := by
  obtain ⟨hw, f, sm, hf, hsm⟩ := hs
  have h1 := entry_roundtrip ofInt o hw f hf sm hsm
  rw [h] at h1
  simp only [Except.ok.injEq] at h1
  subst h1
  obtain ⟨hnd, hfunc, hrt⟩ := meta_facts o.args f sm hw.argsNodup hsm
  have hw' : WellShaped (⟨o.data, o.actions, sm ++ [("func", .str (runTypeOf f))]⟩ : Output φ) := by
    refine ⟨hw.data, hw.dataF, hw.actions, hw.actT, hw.actNE, ?_⟩
    rw [← setKey_of_not_mem _ _ _ hfunc]
    exact keys_setKey_nodup _ _ _ hnd
  have hf' : lookupKey (sm ++ [("func", PyVal.str (runTypeOf f))]) "func" = some (.str (runTypeOf f)) :=
    lookupKey_append_singleton _ _ _ hfunc
  have hmd' : setKey (eraseKey (sm ++ [("func", PyVal.str (runTypeOf f))]) "func") "run_type"
      (PyVal.str (runTypeOf (PyVal.str (runTypeOf f) : PyVal φ))) = sm := by
    rw [eraseKey_append_singleton _ _ _ hfunc, runTypeOf_str_runTypeOf, setKey_of_lookupKey _ _ _ hrt]
  have hsm' := stringifyMeta_idem _ _ hsm
  have h2 := entry_roundtrip ofInt _ hw' (.str (runTypeOf f)) hf' sm (by rw [hmd']; exact hsm')
  refine ⟨⟨hw', .str (runTypeOf f), sm, hf', by rw [hmd']; exact hsm'⟩, ?_, rfl, rfl⟩
  rw [h2, runTypeOf_str_runTypeOf]

theorem saveLoad_ok (o : Output φ) (hs : Saveable o) :
    ∃ o', saveLoad ofInt o = .ok o' ∧ o'.data = o.data ∧ o'.actions = o.actions := by
  obtain ⟨hw, f, sm, hf, hsm⟩ := hs
  exact ⟨_, entry_roundtrip ofInt o hw f hf sm hsm, rfl, rfl⟩

theorem entryTree_ok (o : Output φ) (hs : Saveable o) : ∃ t, entryTree o = .ok t := by
  obtain ⟨hw, f, sm, hf, hsm⟩ := hs
  obtain ⟨d, hd, _⟩ := tolist_discover o.data hw.data.wf hw.data.dims
  obtain ⟨a, ha, _⟩ := tolist_discover o.actions hw.actions.wf hw.actions.dims
  obtain ⟨m, hm, _⟩ := stringifyMeta_ok hsm
  exact ⟨_, entryTree_of_parts hd ha hf hm⟩

/-- a complete concrete entry: 2 × 3 gap matrix with NaN and ±inf, NaN-padded 3-D actions, parsed arguments with an
    evaluation function, a Path, a tuple, an int-keyed and bool-keyed dict -/
def exOutput : Output Int :=
  ⟨exData, exActions, ("func", .other "<function eval_func at 0x7f>") :: ("seed", .int 7) :: exMeta⟩

def exLoaded : Output Int :=
  ⟨exData, exActions,
   [("seed", .int 7), ("lr", .float (.fin 5)), ("dir", .str "/x/y"), ("sizes", .list [.int 1, .none]),
    ("table", .dict [(.str "1", .str "b"), (.str "true", .str "p")]), ("cb", .str "<function f at 0x7f>"),
    ("run_type", .str "eval"), ("func", .str "eval")]⟩

theorem entryTree_exOutput : entryTree exOutput = .ok (.obj
    [("data", .arr [.arr [.float (.fin 1), .float .nan, .float (.fin (-3))], .arr [.float .pinf, .float (.fin 5), .float .ninf]]),
     ("actions", .arr [.arr [.arr [.float .nan, .float .nan]], .arr [.arr [.float (.fin 6), .float .nan]]]),
     ("metadata", .obj [("seed", .int 7), ("lr", .float (.fin 5)), ("dir", .str "/x/y"), ("sizes", .arr [.int 1, .null]),
        ("table", .obj [("1", .str "a"), ("1", .str "b"), ("true", .str "p")]), ("cb", .str "<function f at 0x7f>"),
        ("run_type", .str "eval")])]) := by rfl
example : entryTree exOutput = .ok (.obj
    [("data", .arr [.arr [.float (.fin 1), .float .nan, .float (.fin (-3))], .arr [.float .pinf, .float (.fin 5), .float .ninf]]),
     ("actions", .arr [.arr [.arr [.float .nan, .float .nan]], .arr [.arr [.float (.fin 6), .float .nan]]]),
     ("metadata", .obj [("seed", .int 7), ("lr", .float (.fin 5)), ("dir", .str "/x/y"), ("sizes", .arr [.int 1, .null]),
        ("table", .obj [("1", .str "a"), ("1", .str "b"), ("true", .str "p")]), ("cb", .str "<function f at 0x7f>"),
        ("run_type", .str "eval")])]) := entryTree_exOutput
theorem saveLoad_exOutput : saveLoad exOfInt exOutput = .ok exLoaded := by
  simp only [saveLoad, entryTree_exOutput]; rfl
/-- the hypotheses are satisfiable: `exOutput` is a saveable Output, so is what is read back for it -/
theorem exSaveable : Saveable exOutput :=
  ⟨⟨good_exData, rfl, good_exActions, by decide, Or.inl (by decide), by decide⟩,
   _, _, rfl, rfl⟩

theorem saveLoad_exLoaded : saveLoad exOfInt exLoaded = .ok exLoaded :=
  (saveLoad_fixed_point exOfInt exOutput exLoaded exSaveable saveLoad_exOutput).2.1

example : saveLoad exOfInt exOutput = .ok exLoaded := saveLoad_exOutput
example : saveLoad exOfInt exLoaded = .ok exLoaded := saveLoad_exLoaded
example : WellShaped exOutput := exSaveable.1
example : Saveable exOutput := exSaveable
/-- the errors of the real code: no `func` → KeyError; a tuple as dict key → TypeError; an entry without metadata →
    KeyError; metadata that is not a dict → TypeError; ragged data → ValueError -/
example : saveLoad exOfInt (⟨exData, exActions, [("seed", .int 7)]⟩ : Output Int) = .error .key := by rfl
example : saveLoad exOfInt (⟨exData, exActions, [("func", .str "f"), ("w", .dict [(.other, .int 1)])]⟩ : Output Int) =
    .error .type := by rfl
example : fromJson exOfInt (.obj [("data", .arr []), ("actions", .arr [])] : Json Int) = .error .key := by rfl
example : fromJson exOfInt (.obj [("data", .arr []), ("actions", .arr []), ("metadata", .arr [])] : Json Int) =
    .error .type := by rfl
example : fromJson exOfInt (.obj [("data", .arr [.arr [.int 1], .arr []]), ("actions", .arr []),
    ("metadata", .obj [("run_type", .str "x")])] : Json Int) = .error .value := by rfl

/-! ## the results file: Props/C19.lean without the codec hypothesis -/

section store
open Classical

abbrev SO (φ : Type) := {o : Output φ // Saveable o}

/-- the value of a computation known to succeed -/
def okVal {ε α : Type} : (x : Except ε α) → (∃ a, x = .ok a) → α
  | .ok a, _ => a
  | .error _, h => False.elim (by obtain ⟨a, ha⟩ := h; cases ha)

theorem okVal_spec {ε α : Type} (x : Except ε α) (h : ∃ a, x = .ok a) : x = .ok (okVal x h) := by
  cases x with
  | ok a => rfl
  | error e => obtain ⟨a, ha⟩ := h; cases ha

/-- the concrete entry codec as an instance of the abstract `ICG.Store.Codec`: `encode` = the loaded JSON value of
    what `save_json` writes for the entry, `decode` = `Output.from_json`.  The codec lives on saveable Outputs, so
    `decode` gives `none` also where `from_json` returns an Output that is not saveable (the code has no such test);
    on what this codec wrote that does not happen (`codec_roundtrip`), and `getOutputs_of_decodeStore` links a
    successful `decodeStore` to the model of `get_outputs`. -/
noncomputable def concreteCodec : Codec (SO φ) (Json φ) where
  encode s := (okVal (entryTree s.1) (entryTree_ok s.1 s.2)).reload
  decode j :=
    match fromJson ofInt j with
    | .ok o => if h : Saveable o then some ⟨o, h⟩ else none
    | .error _ => none

theorem saveLoad_eq_decode (s : SO φ) :
    saveLoad ofInt s.1 = fromJson ofInt ((concreteCodec ofInt).encode s) := by
  have h := okVal_spec (entryTree s.1) (entryTree_ok s.1 s.2)
  simp only [concreteCodec]
  generalize okVal (entryTree s.1) (entryTree_ok s.1 s.2) = t at h
  simp [saveLoad, h]

noncomputable def normS (s : SO φ) : SO φ :=
  ⟨okVal (saveLoad ofInt s.1) (by obtain ⟨o', h, _⟩ := saveLoad_ok ofInt s.1 s.2; exact ⟨o', h⟩),
   (saveLoad_fixed_point ofInt s.1 _ s.2 (okVal_spec _ _)).1⟩

theorem normS_spec (s : SO φ) : saveLoad ofInt s.1 = .ok (normS ofInt s).1 := okVal_spec _ _

/-- the codec hypothesis, proved: decoding what was encoded succeeds and gives the Output `normS s`, which has
    the gap array and the action array of `s` exactly and the stringified metadata -/
theorem codec_roundtrip (s : SO φ) :
    (concreteCodec ofInt).decode ((concreteCodec ofInt).encode s) = some (normS ofInt s) := by
  have h := saveLoad_eq_decode ofInt s
  rw [normS_spec ofInt s] at h
  show (match fromJson ofInt ((concreteCodec ofInt).encode s) with
    | .ok o => if h : Saveable o then some ⟨o, h⟩ else none
    | .error _ => none) = some (normS ofInt s)
  rw [← h]
  simp only [(normS ofInt s).2, dif_pos]

theorem normS_data (s : SO φ) : (normS ofInt s).1.data = s.1.data :=
  (saveLoad_fixed_point ofInt s.1 _ s.2 (normS_spec ofInt s)).2.2.1

theorem normS_actions (s : SO φ) : (normS ofInt s).1.actions = s.1.actions :=
  (saveLoad_fixed_point ofInt s.1 _ s.2 (normS_spec ofInt s)).2.2.2

/-- reading back is idempotent: on Outputs that were read back from a file the codec hypothesis of Props/C19.lean
    holds literally -/
theorem normS_idem (s : SO φ) : normS ofInt (normS ofInt s) = normS ofInt s := by
  apply Subtype.ext
  have h1 := (saveLoad_fixed_point ofInt s.1 _ s.2 (normS_spec ofInt s)).2.1
  have h2 := normS_spec ofInt (normS ofInt s)
  rw [h1] at h2
  simp only [Except.ok.injEq] at h2
  exact h2.symm

variable {ε β : Type}

/-- every entry replaced by what is read back for it -/
def mapStore (norm : ε → ε) (s : Store ε) : Store ε := s.map (fun p => (p.1, norm p.2))

theorem lookup_mapStore (norm : ε → ε) (s : Store ε) (m : String) :
    lookup (mapStore norm s) m = (lookup s m).map norm :=
  ICG.C19.lookup_map norm s m

theorem names_mapStore (norm : ε → ε) (s : Store ε) : names (mapStore norm s) = names s := by
  simp [mapStore, names]

/-- file round trip, concretely (no hypothesis on the codec): after ANY sequence of `save_json` calls with saveable
    Outputs, starting from the file of any store, `get_outputs_from_file` decodes every entry, and the store read is
    the store of `ICG.C19` (first save under a name wins, insertion order) with every entry replaced by its read-back
    form (`normS`: arrays exact, metadata stringified) -/
theorem file_roundtrip_concrete (s : Store (SO φ)) (l : List (String × SO φ)) :
    decodeStore (concreteCodec ofInt)
      (l.foldl (fun f p => saveFile (concreteCodec ofInt) f p.1 p.2) (encodeStore (concreteCodec ofInt) s)) =
    some (mapStore (normS ofInt) (saveAll s l)) :=
  ICG.C19.file_roundtrip_norm _ _ (codec_roundtrip ofInt) s l

theorem file_roundtrip_fresh (l : List (String × SO φ)) :
    decodeStore (concreteCodec ofInt) (l.foldl (fun f p => saveFile (concreteCodec ofInt) f p.1 p.2) []) =
    some (mapStore (normS ofInt) (saveAll [] l)) :=
  file_roundtrip_concrete ofInt [] l

/-- every run saved into a fresh file is read back as the first entry saved under its name: its gap array and
    action array exactly (shape, dtype, NaN positions, every cell), its metadata stringified; a name never saved is
    not in the file -/
theorem read_back_first_saved_concrete (l : List (String × SO φ)) (m : String) :
    ∃ t, decodeStore (concreteCodec ofInt) (l.foldl (fun f p => saveFile (concreteCodec ofInt) f p.1 p.2) []) = some t ∧
      lookup t m = (firstSaved l m).map (normS ofInt) ∧
      (∀ e, firstSaved l m = some e → ∃ e', lookup t m = some e' ∧ saveLoad ofInt e.1 = .ok e'.1 ∧
        e'.1.data = e.1.data ∧ e'.1.actions = e.1.actions) := by
  refine ⟨mapStore (normS ofInt) (saveAll [] l), file_roundtrip_fresh ofInt l, ?_, ?_⟩
  · rw [lookup_mapStore, ICG.C19.lookup_saveAll_empty]
  · intro e he
    refine ⟨normS ofInt e, ?_, normS_spec ofInt e, normS_data ofInt e, normS_actions ofInt e⟩
    rw [lookup_mapStore, ICG.C19.lookup_saveAll_empty, he]; rfl

/-- earlier entries unchanged, on the file: an entry readable after some saves reads back identically after any
    further saves (new names or existing names) -/
theorem earlier_entries_unchanged_concrete (l₁ l₂ : List (String × SO φ)) (m : String) (x : SO φ) :
    ∀ t₁, decodeStore (concreteCodec ofInt) (l₁.foldl (fun f p => saveFile (concreteCodec ofInt) f p.1 p.2) []) = some t₁ →
      lookup t₁ m = some x →
      ∃ t₂, decodeStore (concreteCodec ofInt)
          ((l₁ ++ l₂).foldl (fun f p => saveFile (concreteCodec ofInt) f p.1 p.2) []) = some t₂ ∧
        lookup t₂ m = some x := by
  intro t₁ h1 hx
  rw [file_roundtrip_fresh] at h1
  cases h1
  refine ⟨_, file_roundtrip_fresh ofInt (l₁ ++ l₂), ?_⟩
  · rw [lookup_mapStore] at hx ⊢
    cases h : lookup (saveAll [] l₁) m with
    | none => simp [h] at hx
    | some y =>
      rw [ICG.C19.earlier_entries_unchanged [] l₁ l₂ m y h]
      simpa [h] using hx

/-- saving under an existing name leaves the FILE CONTENT (the JSON value of every entry) exactly as it was -/
theorem save_existing_concrete (f : Store (Json φ)) (n : String) (e : SO φ) (h : n ∈ names f) :
    saveFile (concreteCodec ofInt) f n e = f :=
  ICG.C19.save_existing_of_mem f n _ h

/-- saving under a new name appends one entry to the file content and changes no earlier one -/
theorem save_new_concrete (f : Store (Json φ)) (n : String) (e : SO φ) (h : lookup f n = none) :
    saveFile (concreteCodec ofInt) f n e = f ++ [(n, (concreteCodec ofInt).encode e)] := by
  simp [saveFile, save, has, h]

theorem file_roundtrip_loaded (s : Store (SO φ)) (l : List (String × SO φ))
    (hs : ∀ p ∈ s, normS ofInt p.2 = p.2) (hl : ∀ p ∈ l, normS ofInt p.2 = p.2) :
    decodeStore (concreteCodec ofInt)
      (l.foldl (fun f p => saveFile (concreteCodec ofInt) f p.1 p.2) (encodeStore (concreteCodec ofInt) s)) =
    some (saveAll s l) := by
  rw [file_roundtrip_concrete]
  congr 1
  have hall : ∀ p ∈ saveAll s l, normS ofInt p.2 = p.2 := fun p hp =>
    (ICG.C19.mem_saveAll hp).elim (hs p) (hl p)
  unfold mapStore
  refine (List.map_congr_left (g := id) fun p hp => ?_).trans (List.map_id _)
  rw [hall p hp]
  rfl

theorem exLoadedSaveable : Saveable exLoaded :=
  (saveLoad_fixed_point exOfInt exOutput exLoaded exSaveable saveLoad_exOutput).1

/-- two saves under the same name into a fresh file: what is read back under that name is the FIRST Output, with its
    2 × 3 gap matrix (NaN, ±inf) and NaN-padded actions exactly and its metadata stringified (`exLoaded`) -/
example : ∃ t, decodeStore (concreteCodec exOfInt)
      ([("run", (⟨exOutput, exSaveable⟩ : SO Int)), ("other", ⟨exLoaded, exLoadedSaveable⟩),
        ("run", ⟨exLoaded, exLoadedSaveable⟩)].foldl (fun f p => saveFile (concreteCodec exOfInt) f p.1 p.2) []) = some t ∧
    ∃ e', lookup t "run" = some e' ∧ e'.1 = exLoaded := by
  obtain ⟨t, h1, _, h3⟩ := read_back_first_saved_concrete exOfInt
    [("run", (⟨exOutput, exSaveable⟩ : SO Int)), ("other", ⟨exLoaded, exLoadedSaveable⟩),
     ("run", ⟨exLoaded, exLoadedSaveable⟩)] "run"
  obtain ⟨e', h4, h5, _⟩ := h3 ⟨exOutput, exSaveable⟩ (by simp [firstSaved, lookup])
  rw [saveLoad_exOutput] at h5
  exact ⟨t, h1, e', h4, (Except.ok.inj h5).symm⟩

/-- `exLoaded` is its own read-back form: the literal codec hypothesis of Props/C19.lean holds for it -/
example : normS exOfInt ⟨exLoaded, exLoadedSaveable⟩ = ⟨exLoaded, exLoadedSaveable⟩ := by
  apply Subtype.ext
  have h := normS_spec exOfInt ⟨exLoaded, exLoadedSaveable⟩
  rw [saveLoad_exLoaded] at h
  exact (Except.ok.inj h).symm

theorem fromJson_of_decode {j : Json φ} {e : SO φ} (hd : (concreteCodec ofInt).decode j = some e) :
    fromJson ofInt j = .ok e.1 := by
  simp only [concreteCodec] at hd
  split at hd
  · rename_i o ho
    split at hd
    · cases hd; exact ho
    · cases hd
  · cases hd

/-- what `decodeStore` of the abstract model decodes is what the model of `get_outputs` returns -/
theorem getOutputs_of_decodeStore (f : Store (Json φ)) (t : Store (SO φ))
    (h : decodeStore (concreteCodec ofInt) f = some t) :
    getOutputs ofInt f = .ok (t.map (fun p => (p.1, p.2.1))) := by
  induction f generalizing t with
  | nil => cases h; rfl
  | cons p r ih =>
    obtain ⟨n, j⟩ := p
    simp only [decodeStore] at h
    split at h
    · rename_i e t' hd hr
      cases h
      simp [getOutputs, fromJson_of_decode ofInt hd, ih t' hr]
    · cases h

end store

end ICG.C19Codec

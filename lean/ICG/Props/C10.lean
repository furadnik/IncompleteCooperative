/-
  Property C10 — generators.
  "Every game generator selectable on the command line can be invoked for every player count from 3 upwards and
   returns a complete game with the requested number of players, value 0 for the empty coalition and float64
   values, which is superadditive - and additionally monotone non-increasing for the XOS, XS, OXS, K-budget and
   coverage families, whose consumers assume it. Apart from the documented exceptions that ignore the supplied
   random generator (the graph-weight-distribution family and the round-robin factory), identically seeded calls
   return identical games."

  Theorems about ICG.Model.Generators: every construction as a function of its draws, for every number of players;
  the exact admissibility condition on the draws is a hypothesis of each theorem.

  Determinism: the model's generators are pure functions of the draws (`deterministic` is `congrArg`).  Trusted: that a
  numpy `Generator` with the same seed yields the same draws, that its distributions stay in their documented ranges,
  the networkx graph generators (the stream `corr_generators` checks seed-determinism and the class predicates on the
  real output).  Completeness / length 2^n / float64 are facts about the real objects, checked by the stream's oracle.

  Registry key `factory_cheerleader`: `factoryCheerleaderKey` models the call with the drawn cheerleader left a numpy
  integer (AttributeError, `cheerleader_key_raises`); with the draw converted by `int(...)`, as generators.py does,
  the call is `factoryCheerleaderCall true` (`cheerleader_call_int`).
-/
import ICG.Model.Generators
import ICG.Spec.Bounds
import ICG.Lemmas.GenFacts
import Mathlib.Algebra.Order.Ring.Int
import Mathlib.Algebra.Order.Ring.Rat
import Mathlib.Algebra.Field.Rat

set_option linter.unusedSectionVars false

namespace ICG.C10
open ICG ICG.Norm ICG.Gen Finset

/-- same draws, same game: every generator of the model is a function -/
theorem deterministic {D G : Type} (gen : D → G) {d₁ d₂ : D} (h : d₁ = d₂) : gen d₁ = gen d₂ := congrArg gen h

/-! ## the factory family -/

section factory
variable {α : Type} [CommRing α] [LinearOrder α] [IsStrictOrderedRing α]

/-- Admissible draws: weights `≥ 0` (ones, or uniform on [0,10)); a value function that is non-decreasing on the
    non-negative numbers.  Not needed: superadditivity of `f`, `f 0 = 0` (`factory_one` and `factory_exp` give the
    owner alone the value 1), `owner < n`, `f ≥ 0` (that gives `factory_nonneg`). -/
theorem factory_SA (n owner : Nat) {w : Nat → α} {f : α → α} (hw : ∀ i, i < n → 0 ≤ w i)
    (hmono : ∀ x y, 0 ≤ x → 0 ≤ y → f x ≤ f (x + y)) :
    SA n (factory owner w f) := by
  have hw' := zeroAt_nonneg hw owner
  apply gated_SA (g := fun c => f (wsum (zeroAt w owner) c))
  intro a b ha hb hab _
  rw [wsum_or ha hb hab]
  exact hmono _ _ (wsum_nonneg ha hw') (wsum_nonneg hb hw')

theorem factory_empty (owner : Nat) (w : Nat → α) (f : α → α) : factory owner w f 0 = 0 := by
  simp [factory, hasPlayer_eq_testBit]

theorem factory_nonneg {n : Nat} (owner : Nat) {w : Nat → α} {f : α → α} (hw : ∀ i, i < n → 0 ≤ w i)
    (hf0 : ∀ x, 0 ≤ x → 0 ≤ f x) {c : Nat} (hc : c < 2 ^ n) : 0 ≤ factory owner w f c := by
  unfold factory
  split
  · exact hf0 _ (wsum_nonneg hc (zeroAt_nonneg hw owner))
  · exact le_refl _

/-- the identity (`factory`, `noisy_factory`) satisfies the hypotheses of `factory_nonneg` and `factory_SA` -/
theorem fnId_admissible : (∀ x : α, 0 ≤ x → 0 ≤ fnId x) ∧ (∀ x y : α, 0 ≤ x → 0 ≤ y → fnId x ≤ fnId (x + y)) :=
  ⟨fun _ h => h, fun _ _ _ hy => le_add_of_nonneg_right hy⟩

/-- the constant one (`factory_one`) satisfies the hypotheses of `factory_nonneg` and `factory_SA` -/
theorem fnOne_admissible : (∀ x : α, 0 ≤ x → 0 ≤ fnOne x) ∧ (∀ x y : α, 0 ≤ x → 0 ≤ y → fnOne x ≤ fnOne (x + y)) :=
  ⟨fun _ _ => zero_le_one, fun _ _ _ _ => le_refl _⟩

/-- the square (`factory_square`) satisfies the hypotheses of `factory_nonneg` and `factory_SA` -/
theorem fnSq_admissible : (∀ x : α, 0 ≤ x → 0 ≤ fnSq x) ∧ (∀ x y : α, 0 ≤ x → 0 ≤ y → fnSq x ≤ fnSq (x + y)) :=
  ⟨fun _ h => mul_nonneg h h, fun _ _ hx hy => mul_self_le_mul_self hx (le_add_of_nonneg_right hy)⟩

/-- every monotone non-negative function satisfies the hypotheses of `factory_nonneg` and `factory_SA`: what
    `factory_exp` needs of `exp`, which the model leaves abstract -/
theorem monotone_admissible {f : α → α} (hpos : ∀ x, 0 ≤ f x) (hm : ∀ x y, x ≤ y → f x ≤ f y) :
    (∀ x : α, 0 ≤ x → 0 ≤ f x) ∧ (∀ x y : α, 0 ≤ x → 0 ≤ y → f x ≤ f (x + y)) :=
  ⟨fun x _ => hpos x, fun _ _ _ hy => hm _ _ (le_add_of_nonneg_right hy)⟩

/-- the factory keys with identity, constant-one and square value function: unit or non-negative weights, any owner
    (for `exp`: `factory_SA` with `monotone_admissible`) -/
theorem factory_registry (n owner : Nat) {w : Nat → α} (hw : ∀ i, i < n → 0 ≤ w i) :
    SA n (factory owner w fnId) ∧ SA n (factory owner w fnOne) ∧ SA n (factory owner w fnSq) :=
  ⟨factory_SA n owner hw fnId_admissible.2, factory_SA n owner hw fnOne_admissible.2,
   factory_SA n owner hw fnSq_admissible.2⟩

/-- `predictible_factory` draws nothing: its owner is `(last + 1) % n < n` -/
theorem predictibleOwner_lt (last : Nat) {n : Nat} (hn : 0 < n) : predictibleOwner last n < n :=
  Nat.mod_lt _ hn

example : (allCoalitions 3).map (factory (α := Int) 1 (fun _ => 1) fnId) = [0, 0, 0, 1, 0, 0, 1, 2] := by decide +kernel
example : (allCoalitions 3).map (factory (α := Int) 0 (fun i => [2, 3, 4].getD i 0) fnSq) = [0, 0, 0, 9, 0, 16, 0, 49] := by
  decide +kernel
example : (allCoalitions 2).map (factory (α := Int) 1 (fun _ => 1) fnOne) = [0, 0, 1, 1] := by decide +kernel

end factory

/-! ## the cheerleader factory (integer valued) -/

section cheerleader

theorem one_le_size_of_testBit {c i : Nat} (h : c.testBit i = true) : 1 ≤ size c := by
  apply size_pos_of_ne_zero
  intro hc; subst hc; simp at h

/-- for every n, owner and cheerleader, even `cheer = owner`, which the rejection loop excludes -/
theorem cheerleader_SA (n owner cheer : Nat) : SA n (factoryCheerleader owner cheer) := by
  apply gated_SA (g := fun c => if hasPlayer c cheer then 3 * ((size c : Int) - 2) else (size c : Int) - 1)
  intro a b _ _ hab hao
  have h1 := one_le_size_of_testBit hao
  simp only [hasPlayer_eq_testBit, Nat.testBit_or, size_or_of_disjoint a b hab]
  cases hac : a.testBit cheer
  · cases hbc : b.testBit cheer
    · simp only [Bool.or_false, Bool.false_eq_true, if_false]; omega
    · have := one_le_size_of_testBit hbc
      simp only [Bool.or_true, Bool.false_eq_true, if_false, if_true]; omega
  · simp only [Bool.true_or, if_true]; omega

theorem cheerleader_empty (owner cheer : Nat) : factoryCheerleader owner cheer 0 = 0 := by
  simp [factoryCheerleader, hasPlayer_eq_testBit]

/-- with `cheer ≠ owner` (what the rejection loop guarantees) every value is non-negative -/
theorem cheerleader_nonneg {owner cheer : Nat} (hne : cheer ≠ owner) (c : Nat) :
    0 ≤ factoryCheerleader owner cheer c := by
  unfold factoryCheerleader
  simp only [hasPlayer_eq_testBit]
  cases ho : c.testBit owner <;> cases hc : c.testBit cheer <;>
    simp only [if_true, if_false, Bool.false_eq_true, le_refl]
  · have := one_le_size_of_testBit ho; omega
  · have := two_le_size ho hc (Ne.symm hne)
    omega

/-- `cheer = owner` would give the owner alone the value −3: why the rejection loop is there -/
theorem cheerleader_self_negative (owner : Nat) : factoryCheerleader owner owner (2 ^ owner) = -3 := by
  simp [factoryCheerleader, hasPlayer_eq_testBit, size_two_pow]

/-- the rejection loop returns a cheerleader different from the owner -/
theorem cheerPick_ne {owner : Nat} {draws : List Nat} {c : Nat} (h : cheerPick owner draws = some c) : c ≠ owner := by
  have := List.find?_some h
  simpa using this

/-- with the cheerleader left a numpy integer `cheerleader in coalition` raises, for every n, owner and draw -/
theorem cheerleader_key_raises (owner cheer : Nat) : factoryCheerleaderKey owner cheer = .error .attr := rfl

/-- the cheerleader a Python int: the `…_next` key, or `int(...)` around the draw -/
theorem cheerleader_call_int (n owner cheer : Nat) :
    ∃ v, factoryCheerleaderCall true owner cheer = .ok v ∧ SA n v ∧ v 0 = 0 :=
  ⟨_, rfl, cheerleader_SA n owner cheer, cheerleader_empty owner cheer⟩

theorem cheerleader_next (n owner : Nat) :
    ∃ v, factoryCheerleaderNext n owner = .ok v ∧ SA n v ∧ v 0 = 0 :=
  ⟨_, rfl, cheerleader_SA n owner _, cheerleader_empty owner _⟩

example : (allCoalitions 3).map (factoryCheerleader 0 1) = [0, 0, 0, 0, 0, 1, 0, 3] := by decide +kernel
example : cheerPick 1 [1, 1, 2, 0] = some 2 := by decide

end cheerleader

/-! ## K-budget (integer valued) -/

section budget

/-- for every `k`; the code draws `k ∈ [1, n)`, which needs `n ≥ 2` -/
theorem kBudget_SAM0 (n k : Nat) : SAM0 n (kBudget k) := by
  refine ⟨?_, ?_, ?_⟩
  · intro a b _ _ hab
    have hs := size_or_of_disjoint a b hab
    unfold kBudget
    rw [hs]
    push_cast
    omega
  · intro x c _ hx
    have := size_le_of_sub hx
    unfold kBudget
    omega
  · simp [kBudget, size_zero]

example : (allCoalitions 3).map (kBudget 2) = [0, -1, -1, -2, -1, -2, -2, -2] := by decide +kernel

end budget

/-! ## graph games -/

section graph
variable {α : Type} [CommRing α] [LinearOrder α] [IsStrictOrderedRing α]

theorem graphGame_eq {β : Type} [AddCommMonoid β] {n c : Nat} (hc : c < 2 ^ n) (m : Nat → Nat → β) :
    graphGame n m c = ∑ i ∈ (players c).toFinset, ∑ j ∈ (players c).toFinset, if i < j then m i j else 0 := by
  have hpol : ∀ i j, i < j → j < n → (GraphGame.ofMatrix n m).m i j = m i j := fun i j hij _ =>
    if_neg (fun h => Nat.lt_irrefl _ (Nat.lt_of_lt_of_le hij h.2.2))
  rw [graphGame, graphValue_congr hpol hc, listSum_pairs (fun i j => m i j) _ (players_pairwise c)]

/-- Admissible draws: weights above the diagonal `≥ 0` (uniform, triangular, beta, Poisson,
    0/1 adjacency); whatever is on or below the diagonal is polished away. -/
theorem graphGame_SA (n : Nat) {m : Nat → Nat → α} (hm : ∀ i j, i < j → j < n → 0 ≤ m i j) :
    SA n (graphGame n m) := by
  intro a b ha hb hab
  have hab' := or_lt_two_pow ha hb
  rw [graphGame_eq ha, graphGame_eq hb, graphGame_eq hab']
  obtain ⟨hu, hd⟩ := players_toFinset_or hab
  rw [hu]
  apply dsum_union_ge hd
  intro i _ j hj
  split
  · next hij =>
    rw [← hu, List.mem_toFinset, mem_players] at hj
    exact hm i j hij (lt_of_testBit hab' hj)
  · exact le_refl _

theorem graphGame_empty {β : Type} [Add β] [Zero β] (n : Nat) (m : Nat → Nat → β) : graphGame n m 0 = 0 :=
  graphValue_empty _

/-- `graph_cycle`: a 0/1 matrix -/
theorem cycle_SA (perm : List Nat) : SA perm.length (cycle (α := α) perm) := by
  apply graphGame_SA
  intro i j _ _
  unfold cycleMatrix
  dsimp only
  split
  · exact zero_le_one
  · exact le_refl _

theorem cycle_empty (perm : List Nat) : cycle (α := α) perm 0 = 0 := graphGame_empty _ _

example : (allCoalitions 3).map (graphGame (α := Int) 3 (fun r c => if c ≤ r then 9 else (r + 2 * c : Int))) =
    [0, 0, 0, 2, 0, 4, 5, 11] := by decide +kernel
example : (allCoalitions 4).map (cycle (α := Int) [2, 0, 1, 3]) = [0, 0, 0, 1, 0, 1, 0, 2, 0, 0, 1, 2, 1, 2, 2, 4] := by
  decide +kernel

end graph

/-! ## scaling, additive games, pointwise maxima, XS -/

section scaling
variable {α : Type} [Field α] [LinearOrder α] [IsStrictOrderedRing α]

theorem SA_mul {n : Nat} {v : Nat → α} (h : SA n v) {k : α} (hk : 0 ≤ k) : SA n (fun c => v c * k) := by
  intro a b ha hb hab
  show v a * k + v b * k ≤ v (a ||| b) * k
  rw [← add_mul]
  exact mul_le_mul_of_nonneg_right (h a b ha hb hab) hk

theorem MonoDec_mul {n : Nat} {v : Nat → α} (h : MonoDec n v) {k : α} (hk : 0 ≤ k) :
    MonoDec n (fun c => v c * k) := by
  intro x c hc hx
  exact mul_le_mul_of_nonneg_right (h x c hc hx) hk

/-- division by `d ≥ 0` is multiplication by `d⁻¹ ≥ 0` -/
theorem SAM0_div {n : Nat} {v : Nat → α} (h : SAM0 n v) {d : α} (hd : 0 ≤ d) : SAM0 n (fun c => v c / d) := by
  simp only [div_eq_mul_inv]
  exact ⟨SA_mul h.1 (inv_nonneg.mpr hd), MonoDec_mul h.2.1 (inv_nonneg.mpr hd),
    by show v 0 * d⁻¹ = 0; rw [h.2.2, zero_mul]⟩

theorem Cost_div {n : Nat} {u : Nat → α} (h : Cost n u) {d : α} (hd : 0 ≤ d) : Cost n (fun c => u c / d) where
  zero := by show u 0 / d = 0; rw [h.zero, zero_div]
  subadd a b ha hb hab := by
    show u (a ||| b) / d ≤ u a / d + u b / d
    rw [← add_div]
    exact div_le_div_of_nonneg_right (h.subadd a b ha hb hab) hd
  mono x c hc hx := div_le_div_of_nonneg_right (h.mono x c hc hx) hd

/-- `values / values[-1]` of a cost function: when it returns, the divisor was positive -/
theorem divByGrand_Cost [DecidableEq α] {n : Nat} {u u' : Nat → α} (h : Cost n u)
    (hok : divByGrand n u = .ok u') : Cost n u' ∧ u' (grand n) = 1 := by
  unfold divByGrand at hok
  split at hok
  · cases hok
  · next hne =>
    cases hok
    exact ⟨Cost_div h (h.nonneg (grand_lt n)), div_self hne⟩

theorem divByGrand_ok {β : Type} [Div β] [Zero β] [DecidableEq β] {n : Nat} {u : Nat → β} (hne : u (grand n) ≠ 0) :
    divByGrand n u = .ok (fun c => u c / u (grand n)) := by
  simp [divByGrand, hne]

end scaling

section additive
variable {α : Type} [CommRing α] [LinearOrder α] [IsStrictOrderedRing α]

/-- an additive game is superadditive (with equality), whatever the signs of the weights -/
theorem additive_SA (n : Nat) (w : Nat → α) : SA n (additive w) := by
  intro a b ha hb hab
  show wsum w a + wsum w b ≤ wsum w (a ||| b)
  rw [wsum_or ha hb hab]

theorem additive_Cost (n : Nat) {w : Nat → α} (hw : ∀ i, i < n → 0 ≤ w i) : Cost n (additive w) where
  zero := wsum_empty w
  subadd a b ha hb hab := by
    show wsum w (a ||| b) ≤ wsum w a + wsum w b
    rw [wsum_or ha hb hab]
  mono x c hc hx := by
    show wsum w x ≤ wsum w c
    have hor := sub_or_self hx
    have hx' : x < 2 ^ n := lt_of_le_of_lt (sub_le hx) hc
    have hcx : c - x < 2 ^ n := lt_of_le_of_lt (Nat.sub_le c x) hc
    have := wsum_or hx' hcx hor.2 w
    rw [hor.1] at this
    rw [this]
    exact le_add_of_nonneg_right (wsum_nonneg hcx hw)

/-- `np.max(…, axis=0)` -/
theorem pointwiseMax_spec {β : Type} [LinearOrder β] {games : List (Nat → β)} {M : Nat → β} (hok : pointwiseMax games = .ok M) :
    (∀ h ∈ games, ∀ c, h c ≤ M c) ∧ ∀ c, ∃ h ∈ games, M c = h c := by
  cases games with
  | nil => cases hok
  | cons g gs =>
    cases hok
    have hM : ∀ c, (gs.foldl (fun m h => max m (h c)) (g c)) = (gs.map (fun h => h c)).foldl max (g c) := by
      intro c; rw [List.foldl_map]
    constructor
    · intro h hh c
      show h c ≤ gs.foldl (fun m h => max m (h c)) (g c)
      rw [hM]
      rcases List.mem_cons.mp hh with rfl | hh
      · exact foldl_max_ge _ _
      · exact foldl_max_mem_ge _ _ _ (List.mem_map.mpr ⟨h, hh, rfl⟩)
    · intro c
      show ∃ h ∈ g :: gs, gs.foldl (fun m h => max m (h c)) (g c) = h c
      rw [hM]
      rcases foldl_max_mem (gs.map (fun h => h c)) (g c) with he | he
      · exact ⟨g, List.mem_cons_self, he⟩
      · obtain ⟨h, hh, hc⟩ := List.mem_map.mp he
        exact ⟨h, List.mem_cons_of_mem g hh, hc.symm⟩

theorem pointwiseMax_Cost {n : Nat} {games : List (Nat → α)} {M : Nat → α}
    (hok : pointwiseMax games = .ok M) (h : ∀ g ∈ games, Cost n g) : Cost n M :=
  Cost.sup h (pointwiseMax_spec hok).1 (pointwiseMax_spec hok).2

theorem additive_grand_pos {n : Nat} {w : Nat → α} (hw : ∀ i, i < n → 0 ≤ w i) (hp : ∃ i, i < n ∧ 0 < w i) :
    0 < additive w (grand n) := by
  obtain ⟨i, hi, hpi⟩ := hp
  show 0 < wsum w (grand n)
  rw [wsum_eq (grand_lt n), bsum_grand]
  have : w i ≤ ∑ j ∈ range n, w j :=
    Finset.single_le_sum (f := w) (fun j hj => hw j (Finset.mem_range.mp hj)) (Finset.mem_range.mpr hi)
  exact lt_of_lt_of_le hpi this

/-- `np.max(singletons[players], initial=0)` is a cost function for ANY singleton values (the `initial=0`
    makes it non-negative) -/
theorem xsCost (n : Nat) (s : Nat → α) : Cost n (fun c => (players c).foldl (fun m i => max m (s i)) 0) := by
  have hM : ∀ c, (players c).foldl (fun m i => max m (s i)) 0 = ((players c).map s).foldl max 0 := by
    intro c; rw [List.foldl_map]
  have hnn : ∀ c, 0 ≤ ((players c).map s).foldl max 0 := fun c => foldl_max_ge _ _
  have hge : ∀ c i, c.testBit i = true → s i ≤ ((players c).map s).foldl max 0 := by
    intro c i hi
    exact foldl_max_mem_ge _ _ _ (List.mem_map.mpr ⟨i, mem_players.mpr hi, rfl⟩)
  have hatt : ∀ c, ((players c).map s).foldl max 0 = 0 ∨
      ∃ i, c.testBit i = true ∧ ((players c).map s).foldl max 0 = s i := by
    intro c
    rcases foldl_max_mem ((players c).map s) 0 with he | he
    · exact Or.inl he
    · obtain ⟨i, hi, hc⟩ := List.mem_map.mp he
      exact Or.inr ⟨i, mem_players.mp hi, hc.symm⟩
  refine ⟨?_, ?_, ?_⟩
  · show (players 0).foldl _ 0 = 0
    rw [players_zero]; rfl
  · intro a b _ _ _
    simp only [hM]
    rcases hatt (a ||| b) with he | ⟨i, hi, he⟩
    · rw [he]; exact add_nonneg (hnn a) (hnn b)
    · rw [he]
      rw [Nat.testBit_or, Bool.or_eq_true] at hi
      rcases hi with hi | hi
      · exact le_add_of_le_of_nonneg (hge a i hi) (hnn b)
      · exact le_add_of_nonneg_of_le (hnn a) (hge b i hi)
  · intro x c _ hx
    simp only [hM]
    rcases hatt x with he | ⟨i, hi, he⟩
    · rw [he]; exact hnn c
    · rw [he]; exact hge c i (sub_testBit hx i hi)

/-- `xs`, and `xs2 / xs3 / xs6` through `xsUnitDemand`: for every vector of singleton values -/
theorem xs_SAM0 (n : Nat) (s : Nat → α) : SAM0 n (xs s) := (xsCost n s).neg_SAM0

theorem xsUnitDemand_SAM0 (n : Nat) (draws : List (Nat × α)) : SAM0 n (xsUnitDemand draws) :=
  xs_SAM0 n _

example : (allCoalitions 2).map (xs (α := Int) (fun i => [3, 5].getD i 0)) = [0, -3, -5, -5] := by decide +kernel
example : (allCoalitions 2).map (xsUnitDemand (α := Int) [(0, 2), (0, 1), (1, 4)]) = [0, -2, -4, -4] := by
  decide +kernel

end additive

/-! ## XOS -/

section xos
variable {α : Type} [Field α] [LinearOrder α] [IsStrictOrderedRing α] [DecidableEq α]

/-- the three stages of `xos` (`normalize_additive`, `np.max`, `normalize`): whenever the call returns, the game is
    the negation of a cost function, whose grand value is 1 when `normalize` is set -/
theorem xos_cost {n : Nat} {adds : List (Nat → α)} {nrm nadd : Bool} {v : Nat → α}
    (hw : ∀ w ∈ adds, ∀ i, i < n → 0 ≤ w i) (hok : xos n adds nrm nadd = .ok v) :
    ∃ u, Cost n u ∧ v = (fun c => - u c) ∧ (nrm = true → u (grand n) = 1) := by
  have h0 : ∀ g ∈ adds.map additive, Cost n g := by
    intro g hg
    obtain ⟨w, hw', rfl⟩ := List.mem_map.mp hg
    exact additive_Cost n (hw w hw')
  unfold xos at hok
  obtain ⟨games, h1, hok⟩ := bind_eq_ok hok
  obtain ⟨osx, h2, hok⟩ := bind_eq_ok hok
  obtain ⟨osx', h3, hok⟩ := bind_eq_ok hok
  have hg : ∀ g ∈ games, Cost n g := by
    unfold normalizeEach at h1
    cases nadd
    · cases h1; exact h0
    · intro g hg
      obtain ⟨g0, hg0, hdiv⟩ := mapM_ok_mem _ _ _ h1 g hg
      exact (divByGrand_Cost (h0 g0 hg0) hdiv).1
  have hosx : Cost n osx := pointwiseMax_Cost h2 hg
  cases hok
  unfold normalizeIf at h3
  cases nrm
  · cases h3
    exact ⟨osx, hosx, rfl, fun h => absurd h Bool.false_ne_true⟩
  · obtain ⟨hc, h1⟩ := divByGrand_Cost hosx h3
    exact ⟨osx', hc, rfl, fun _ => h1⟩

/-- `xos`, `xos_one`, `xos2/3/12` and the `…_norm_additive` variants.  Admissible draws: weights `≥ 0` (uniform on
    [0,1)).  Guards, made explicit by the model's `Except`: at least one additive game; with `normalize_additive` every
    additive game has a non-zero total; with `normalize` the maximum has a non-zero grand value — otherwise numpy
    divides by zero (`Err.nan`, `xos_zero_weights`). -/
theorem xos_SAM0 {n : Nat} {adds : List (Nat → α)} {nrm nadd : Bool} {v : Nat → α}
    (hw : ∀ w ∈ adds, ∀ i, i < n → 0 ≤ w i) (hok : xos n adds nrm nadd = .ok v) : SAM0 n v := by
  obtain ⟨u, hu, rfl, _⟩ := xos_cost hw hok
  exact hu.neg_SAM0

theorem xos_grand {n : Nat} {adds : List (Nat → α)} {nadd : Bool} {v : Nat → α}
    (hw : ∀ w ∈ adds, ∀ i, i < n → 0 ≤ w i) (hok : xos n adds true nadd = .ok v) : v (grand n) = -1 := by
  obtain ⟨u, _, rfl, h1⟩ := xos_cost hw hok
  show - u (grand n) = -1
  rw [h1 rfl]

/-- the guards of `xos` are met — the call returns, for every combination of the two normalisation flags —
    when at least one additive game is drawn and every drawn weight vector is non-negative with a positive entry
    (uniform draws on [0,1): all n entries positive except with probability 2⁻⁵³ each; n ≥ 1). -/
theorem xos_returns {n : Nat} {adds : List (Nat → α)} (nrm nadd : Bool) (hne : adds ≠ [])
    (hw : ∀ w ∈ adds, (∀ i, i < n → 0 ≤ w i) ∧ ∃ i, i < n ∧ 0 < w i) :
    ∃ v, xos n adds nrm nadd = .ok v ∧ SAM0 n v := by
  have hpos : ∀ g ∈ adds.map additive, Cost n g ∧ 0 < g (grand n) := by
    intro g hg
    obtain ⟨w, hw', rfl⟩ := List.mem_map.mp hg
    exact ⟨additive_Cost n (hw w hw').1, additive_grand_pos (hw w hw').1 (hw w hw').2⟩
  -- stage 1: `normalize_additive` divides by positive totals, which stay positive (they become 1)
  have h1 : ∃ games, normalizeEach n nadd (adds.map additive) = .ok games ∧ games ≠ [] ∧
      ∀ g ∈ games, Cost n g ∧ 0 < g (grand n) := by
    unfold normalizeEach
    cases nadd
    · exact ⟨_, rfl, fun h => hne (List.map_eq_nil_iff.mp h), hpos⟩
    · simp only [if_true]
      obtain ⟨l', hl', hlen⟩ := mapM_ok_of_forall (divByGrand n) (adds.map additive)
        (fun g hg => ⟨_, divByGrand_ok (ne_of_gt (hpos g hg).2)⟩)
      refine ⟨l', hl', ?_, ?_⟩
      · intro he
        rw [he, List.length_nil] at hlen
        exact hne (List.map_eq_nil_iff.mp (List.length_eq_zero_iff.mp hlen.symm))
      · intro g' hg'
        obtain ⟨g, hg, hdiv⟩ := mapM_ok_mem _ _ _ hl' g' hg'
        have := divByGrand_Cost (hpos g hg).1 hdiv
        exact ⟨this.1, by rw [this.2]; exact zero_lt_one⟩
  obtain ⟨games, hg1, hgne, hgames⟩ := h1
  -- stage 2: `np.max` of a non-empty array returns, and dominates its first row
  obtain ⟨g, gs, rfl⟩ := List.exists_cons_of_ne_nil hgne
  obtain ⟨osx, hosx⟩ : ∃ osx, pointwiseMax (g :: gs) = .ok osx := ⟨_, rfl⟩
  have hosxpos : 0 < osx (grand n) :=
    lt_of_lt_of_le (hgames g List.mem_cons_self).2 ((pointwiseMax_spec hosx).1 g List.mem_cons_self _)
  -- stage 3: `normalize` divides by a positive grand value
  obtain ⟨osx', hosx'⟩ : ∃ osx', normalizeIf n nrm osx = .ok osx' := by
    unfold normalizeIf
    cases nrm
    · exact ⟨_, rfl⟩
    · exact ⟨_, divByGrand_ok (ne_of_gt hosxpos)⟩
  have hret : xos n adds nrm nadd = .ok (fun c => - osx' c) := by
    simp only [xos, hg1, hosx, hosx', bind, Except.bind, pure, Except.pure]
  exact ⟨_, hret, xos_SAM0 (fun w hw' => (hw w hw').1) hret⟩

end xos

section xosexamples
/-- the call returns for concrete positive draws (two additive games on three players), both normalisations -/
def exAdds : List (Nat → ℚ) := [fun i => [1, 2, 3].getD i 0, fun i => [3, 2, 1].getD i 0]

example : (match xos 3 exAdds true false with
    | .ok v => (allCoalitions 3).map v
    | .error _ => []) = [0, -1/2, -1/3, -5/6, -1/2, -2/3, -5/6, -1] := by decide +kernel

example : (match xos 3 exAdds true true with | .ok v => (allCoalitions 3).map v | .error _ => []) =
    [0, -1/2, -1/3, -5/6, -1/2, -2/3, -5/6, -1] := by decide +kernel

/-- all-zero weights: numpy would divide 0 by 0; the model says so instead of returning a game -/
theorem xos_zero_weights : (match xos (α := ℚ) 3 [fun _ => 0] true false with | .ok _ => none | .error e => some e) =
    some Err.nan := by decide +kernel

/-- no additive game at all: `np.max` of an empty array raises -/
example : (match xos (α := ℚ) 3 [] true false with | .ok _ => none | .error e => some e) = some Err.value := by
  decide +kernel
end xosexamples

/-! ## `_apply_or` and OXS -/

section oxs
variable {α : Type} [CommRing α] [LinearOrder α] [IsStrictOrderedRing α]

/-- `_apply_or(v1, v2)` at `d` is the minimum of 0 (the `np.zeros` it starts from) and of `v1 S + v2 T` over the
    splits of `d` into disjoint `S`, `T`: it is below all of them and equal to one of them -/
theorem applyOr_spec {β : Type} [Add β] [Zero β] [LinearOrder β] (v1 v2 : Nat → β) (n d : Nat) :
    applyOr v1 v2 n d ≤ 0 ∧
    (∀ S T, S < 2 ^ n → T < 2 ^ n → S &&& T = 0 → S ||| T = d → applyOr v1 v2 n d ≤ v1 S + v2 T) ∧
    (applyOr v1 v2 n d = 0 ∨
      ∃ S T, S < 2 ^ n ∧ T < 2 ^ n ∧ S &&& T = 0 ∧ S ||| T = d ∧ applyOr v1 v2 n d = v1 S + v2 T) := by
  rw [applyOr_eq_loop]
  obtain ⟨h1, h2, h3⟩ := orLoop_spec v1 v2 (orPairs n) (fun _ => 0) d
  refine ⟨h1, fun S T hS hT hST hd => h2 (S, T) (mem_orPairs.mpr ⟨hS, hT, hST⟩) hd, ?_⟩
  rcases h3 with h3 | ⟨p, hp, hd, he⟩
  · exact Or.inl h3
  · obtain ⟨hS, hT, hST⟩ := mem_orPairs.mp hp
    exact Or.inr ⟨p.1, p.2, hS, hT, hST, hd, he⟩

/-- Superadditivity of the min-convolution: a split `(S, T)` that attains the value at `a ∪ b` restricts to a split
    of `a` and a split of `b`; the two restrictions are candidates there, and `v1 (S∩a) + v1 (S∩b) ≤ v1 S`,
    likewise for `v2`. -/
theorem applyOr_SA {n : Nat} {v1 v2 : Nat → α} (sa1 : SA n v1) (sa2 : SA n v2) : SA n (applyOr v1 v2 n) := by
  intro a b ha hb hab
  obtain ⟨la0, la, _⟩ := applyOr_spec v1 v2 n a
  obtain ⟨lb0, lb, _⟩ := applyOr_spec v1 v2 n b
  rcases (applyOr_spec v1 v2 n (a ||| b)).2.2 with he | ⟨S, T, hS, hT, hST, hd, he⟩
  · rw [he]; exact add_nonpos la0 lb0
  · rw [he]
    have ea := la (S &&& a) (T &&& a) (Nat.and_lt_two_pow S ha) (Nat.and_lt_two_pow T ha)
      (split_and_left hST) (split_or_left hd)
    have hd' : S ||| T = b ||| a := by rw [hd, Nat.or_comm]
    have eb := lb (S &&& b) (T &&& b) (Nat.and_lt_two_pow S hb) (Nat.and_lt_two_pow T hb)
      (split_and_left hST) (split_or_left hd')
    have s1 := sa1 (S &&& a) (S &&& b) (Nat.and_lt_two_pow S ha) (Nat.and_lt_two_pow S hb)
      (split_and_self hab)
    have s2 := sa2 (T &&& a) (T &&& b) (Nat.and_lt_two_pow T ha) (Nat.and_lt_two_pow T hb)
      (split_and_self hab)
    rw [split_or_self hd] at s1
    rw [split_or_self' hd] at s2
    exact le_trans (add_le_add ea eb) (by rw [add_add_add_comm]; exact add_le_add s1 s2)

/-- Monotonicity of the min-convolution needs it of the second game only: a split `(S, T)` that attains the value
    at `x ⊆ c` extends to the split `(S, T ∪ (c∖x))` of `c`, and `v2` does not increase from `T` to `T ∪ (c∖x)`. -/
theorem applyOr_MonoDec {n : Nat} (v1 : Nat → α) {v2 : Nat → α} (md2 : MonoDec n v2) :
    MonoDec n (applyOr v1 v2 n) := by
  intro x c hc hx
  obtain ⟨lc0, lc, _⟩ := applyOr_spec v1 v2 n c
  rcases (applyOr_spec v1 v2 n x).2.2 with he | ⟨S, T, hS, hT, hST, hd, he⟩
  · rw [he]; exact lc0
  · rw [he]
    have hx' : x < 2 ^ n := sub_lt_two_pow hx hc
    have hT' : T ||| (c ^^^ x) < 2 ^ n := or_lt_two_pow hT (Nat.xor_lt_two_pow hc hx')
    have e := lc S (T ||| (c ^^^ x)) hS hT' (extend_and hd hST hx) (extend_or hd hx)
    exact le_trans e (add_le_add (le_refl _) (md2 T (T ||| (c ^^^ x)) hT' (and_or_self _ _)))

theorem applyOr_empty {β : Type} [AddZeroClass β] [LinearOrder β] {n : Nat} {v1 v2 : Nat → β} (z1 : v1 0 = 0)
    (z2 : v2 0 = 0) : applyOr v1 v2 n 0 = 0 := by
  rcases (applyOr_spec v1 v2 n 0).2.2 with he | ⟨S, T, _, _, _, hd, he⟩
  · exact he
  · obtain ⟨rfl, rfl⟩ := Nat.or_eq_zero_iff.mp hd
    rw [he, z1, z2, add_zero]

theorem applyOr_SAM0 {n : Nat} {v1 v2 : Nat → α} (h1 : SAM0 n v1) (h2 : SAM0 n v2) :
    SAM0 n (applyOr v1 v2 n) :=
  ⟨applyOr_SA h1.1 h2.1, applyOr_MonoDec v1 h2.2.1, applyOr_empty h1.2.2 h2.2.2⟩

/-- each `_apply_or` step can only lower the running values: `(S, T) = (d, ∅)` is among the candidates -/
theorem applyOr_le_left {β : Type} [AddZeroClass β] [LinearOrder β] {n d : Nat} (v1 v2 : Nat → β) (hd : d < 2 ^ n)
    (h0 : v2 0 = 0) :
    applyOr v1 v2 n d ≤ v1 d := by
  have := (applyOr_spec v1 v2 n d).2.1 d 0 hd (Nat.two_pow_pos n) (Nat.and_zero d) (Nat.or_zero d)
  rwa [h0, add_zero] at this

/-- `oxs` pops the LAST drawn XS game and folds the others onto it in draw order -/
theorem oxsFoldFn_concat {β : Type} [Add β] [Min β] [Zero β] (n : Nat) (init : List (Nat → β))
    (last : Nat → β) :
    oxsFoldFn n (init ++ [last]) = .ok (init.foldl (fun acc other => applyOrFn acc.f other n) ⟨last⟩) := by
  unfold oxsFoldFn
  simp only [List.reverse_append, List.reverse_cons, List.reverse_nil, List.nil_append, List.singleton_append,
    List.reverse_reverse]

/-- the fold `oxs_values = _apply_or(oxs_values, other_xs)` -/
theorem applyOr_foldl {n : Nat} : ∀ (l : List (Nat → α)) (acc : Fn α), SAM0 n acc.f → (∀ x ∈ l, SAM0 n x) →
    SAM0 n (l.foldl (fun acc other => applyOrFn acc.f other n) acc).f ∧
      ∀ d, d < 2 ^ n → (l.foldl (fun acc other => applyOrFn acc.f other n) acc).f d ≤ acc.f d := by
  intro l
  induction l with
  | nil => exact fun acc ha _ => ⟨ha, fun _ _ => le_refl _⟩
  | cons y l ih =>
    intro acc ha hl
    have hy := hl y List.mem_cons_self
    obtain ⟨h1, h2⟩ := ih (applyOrFn acc.f y n) (applyOr_SAM0 ha hy) (fun x hx => hl x (List.mem_cons_of_mem y hx))
    exact ⟨h1, fun d hd => le_trans (h2 d hd) (applyOr_le_left acc.f y hd hy.2.2)⟩

theorem oxsFoldFn_SAM0 {n : Nat} {xsVals : List (Nat → α)} {o : Fn α} (hok : oxsFoldFn n xsVals = .ok o)
    (h : ∀ x ∈ xsVals, SAM0 n x) : SAM0 n o.f := by
  rcases List.eq_nil_or_concat xsVals with rfl | ⟨init, last, rfl⟩
  · cases hok
  · rw [List.concat_eq_append] at hok h
    rw [oxsFoldFn_concat] at hok
    cases hok
    exact (applyOr_foldl init ⟨last⟩ (h last (List.mem_append_right _ List.mem_cons_self))
      (fun x hx => h x (List.mem_append_left _ hx))).1
end oxs

section oxsnorm
variable {α : Type} [Field α] [LinearOrder α] [IsStrictOrderedRing α] [DecidableEq α]

/-- Whenever `oxs` returns (guards: at least one XS game — `pop()` of an empty list raises —, and with
    `normalize` a non-zero grand value — otherwise 0/0), the game built from ANY XS value vectors that are SAM is
    superadditive, monotone non-increasing and 0 at ∅; `-values / values[-1]` divides by a negative number. -/
theorem oxs_SAM0 {n : Nat} {xsVals : List (Nat → α)} {nrm : Bool} {v : Nat → α}
    (h : ∀ x ∈ xsVals, SAM0 n x) (hok : oxs n xsVals nrm = .ok v) : SAM0 n v := by
  unfold oxs at hok
  obtain ⟨o, h1, hok⟩ := bind_eq_ok hok
  have ho := oxsFoldFn_SAM0 h1 h
  cases nrm
  · simp only [Bool.false_eq_true, if_false, pure, Except.pure] at hok
    cases hok; exact ho
  · simp only [if_true] at hok
    split at hok
    · cases hok
    · next hne =>
      simp only [pure, Except.pure] at hok
      cases hok
      have hle : o.f (grand n) ≤ 0 := by
        have := ho.2.1 0 (grand n) (grand_lt n) (Nat.zero_and _)
        rwa [ho.2.2] at this
      have hpos : 0 ≤ - o.f (grand n) := neg_nonneg.mpr hle
      have e : (fun c => (- o.f c) / o.f (grand n)) = (fun c => o.f c / (- o.f (grand n))) := by
        funext c; rw [neg_div, div_neg]
      rw [e]
      exact SAM0_div ho hpos

theorem oxsOfSingles_SAM0 {n : Nat} {singles : List (Nat → α)} {nrm : Bool} {v : Nat → α}
    (hok : oxsOfSingles n singles nrm = .ok v) : SAM0 n v := by
  apply oxs_SAM0 _ hok
  intro x hx
  obtain ⟨s, _, rfl⟩ := List.mem_map.mp hx
  exact xs_SAM0 n s

/-- the guard of `oxs` is met — the call returns a SAM game — as soon as the LAST drawn XS game gives the grand
    coalition a negative value, i.e. one of its n drawn singleton values is positive (n ≥ 1) -/
theorem oxsOfSingles_returns {n : Nat} (init : List (Nat → α)) (last : Nat → α) (nrm : Bool)
    (hpos : ∃ i, i < n ∧ 0 < last i) :
    ∃ v, oxsOfSingles n (init ++ [last]) nrm = .ok v ∧ SAM0 n v := by
  obtain ⟨i, hi, hpi⟩ := hpos
  have hlast : xs last (grand n) < 0 := by
    have hmem : last i ∈ (players (grand n)).map last :=
      List.mem_map.mpr ⟨i, mem_players.mpr (by rw [testBit_grand]; exact decide_eq_true hi), rfl⟩
    have := foldl_max_mem_ge ((players (grand n)).map last) 0 _ hmem
    show - ((players (grand n)).foldl (fun m i => max m (last i)) 0) < 0
    rw [← List.foldl_map]
    exact neg_neg_of_pos (lt_of_lt_of_le hpi this)
  have hsam : ∀ x ∈ init.map xs, SAM0 n x := fun x hx => by
    obtain ⟨s, _, rfl⟩ := List.mem_map.mp hx; exact xs_SAM0 n s
  have ho := oxsFoldFn_concat n (init.map xs) (xs last)
  have hle := (applyOr_foldl (init.map xs) ⟨xs last⟩ (xs_SAM0 n last) hsam).2 _ (grand_lt n)
  have hne := ne_of_lt (lt_of_le_of_lt hle hlast)
  have hret : ∃ v, oxsOfSingles n (init ++ [last]) nrm = .ok v := by
    unfold oxsOfSingles oxs
    rw [List.map_append, List.map_singleton, ho]
    cases nrm
    · exact ⟨_, rfl⟩
    · simp only [bind, Except.bind, if_true, hne, if_false]
      exact ⟨_, rfl⟩
  obtain ⟨v, hv⟩ := hret
  exact ⟨v, hv, oxsOfSingles_SAM0 hv⟩

end oxsnorm

section oxsexamples
def exSingles : List (Nat → ℚ) := [fun i => [1, 2].getD i 0, fun i => [3, 1].getD i 0, fun i => [2, 2].getD i 0]

example : (match oxsOfSingles 2 exSingles true with | .ok v => (allCoalitions 2).map v | .error _ => []) =
    [0, -3/5, -2/5, -1] := by decide +kernel
example : (match oxsOfSingles 2 exSingles false with | .ok v => (allCoalitions 2).map v | .error _ => []) =
    [0, -3, -2, -5] := by decide +kernel
example : (allCoalitions 2).map (applyOr (α := Int) (fun c => [0, -1, -2, -2].getD c 0) (fun c => [0, -3, -1, -3].getD c 0) 2) =
    [0, -3, -2, -5] := by decide +kernel
example : (match oxsOfSingles (α := ℚ) 2 [] true with | .ok _ => none | .error e => some e) = some Err.index := by
  decide +kernel
end oxsexamples

/-! ## coverage (integer valued) -/

section coverage

/-- `−|⋃_{i∈S} A_i|`, for every family of sets -/
theorem coverageOf_SAM0 (n : Nat) (sets : Nat → List Nat) : SAM0 n (coverageOf sets) := by
  refine ⟨?_, ?_, ?_⟩
  · intro a b _ _ _
    unfold coverageOf
    rw [coverUnion_length, coverUnion_length, coverUnion_length, coverFinset_or]
    have := Finset.card_union_le (coverFinset sets a) (coverFinset sets b)
    omega
  · intro x c _ hx
    unfold coverageOf
    rw [coverUnion_length, coverUnion_length]
    have := Finset.card_le_card (coverFinset_mono sets hx)
    omega
  · rw [coverageOf, coverUnion, players_zero]; rfl

theorem coverage_SAM0 {n mult : Nat} {idx : List Nat} {v : Nat → Int} (hok : coverage n mult idx = .ok v) :
    SAM0 n v := by
  unfold coverage at hok
  split at hok
  · cases hok
  · split at hok
    · cases hok
    · split at hok
      · cases hok
        exact coverageOf_SAM0 n _
      · cases hok

/-- the guards of `covg_fn_generator` are met: with n indices into the list of non-empty subsets (what
    `generator.choice(len(powerset_list), n)` draws) the look-ups succeed, the in-loop assertion
    `uni or coalition.id == 0` holds, and the call returns a SAM game. -/
theorem coverage_returns {n mult : Nat} {idx : List Nat} (hlen : n ≤ idx.length)
    (hidx : ∀ k ∈ idx, k < (powersetList n mult).length) :
    ∃ v, coverage n mult idx = .ok v ∧ SAM0 n v := by
  obtain ⟨sets, hsets, hslen⟩ := mapM_ok_of_forall (lookupSet (powersetList n mult)) idx
    (fun k hk => ⟨_, lookupSet_ok (hidx k hk)⟩)
  -- `powerset_list` keeps the non-empty subsets only, so every player's set has an element …
  have hne : ∀ y ∈ sets, y ≠ [] := by
    intro y hy he
    obtain ⟨k, _, hk⟩ := mapM_ok_mem _ _ _ hsets y hy
    have := (List.mem_filter.mp (mem_of_lookupSet hk)).2
    rw [he] at this
    exact absurd this (by decide)
  -- … which any non-empty coalition's union then contains: the in-loop assertion holds
  have hall : (allCoalitions n).all (fun c => c == 0 || !(coverUnion (setOfList sets) c).isEmpty) = true := by
    rw [List.all_eq_true]
    intro c hc
    by_cases hz : c = 0
    · simp [hz]
    · obtain ⟨i, hi⟩ := Nat.exists_testBit_of_ne_zero hz
      have hin : i < sets.length := by
        have := lt_of_testBit (List.mem_range.mp hc) hi; omega
      obtain ⟨x, hx⟩ := List.exists_mem_of_ne_nil _ (hne sets[i] (List.getElem_mem hin))
      have hmem : x ∈ coverUnion (setOfList sets) c :=
        mem_coverUnion.mpr ⟨i, hi, by simp only [setOfList, List.getElem?_eq_getElem hin]; exact hx⟩
      simp [hz, List.ne_nil_of_mem hmem]
  have hret : coverage n mult idx = .ok (coverageOf (setOfList sets)) := by
    unfold coverage
    rw [if_neg (by omega), hsets]
    dsimp only
    rw [if_pos hall]
  exact ⟨_, hret, coverage_SAM0 hret⟩

example : (match coverage 3 2 [0, 7, 62] with | .ok v => (allCoalitions 3).map v | .error _ => []) =
    [0, -1, -2, -2, -6, -6, -6, -6] := by decide +kernel
example : (match coverage 3 2 [0, 7, 63] with | .ok _ => none | .error e => some e) = some Err.index := by
  decide +kernel

end coverage

end ICG.C10

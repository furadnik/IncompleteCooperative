/-
  Property C07, the l2 norm itself.

  `l2_norm` of the code is `np.sqrt(np.sum(widths ** 2))`.  The executable model stops at the square
  (`ICG.l2sq`, no computable square root over `Rat`), and `Props/C07Gaps` proves the square monotone,
  non-negative and zero on fully revealed games over every ordered field.  This file takes the square
  root: over the reals the norm itself,

      l2 n lo hi := √(l2sq n lo hi),

  is non-increasing under more knowledge (one lattice edge, any pair K ⊆ K', every reveal path), never
  negative, and zero once every value is revealed — for the three model computers.  What remains trusted
  is only that `np.sqrt` is the correctly rounded (hence monotone) real square root.
-/
import ICG.Props.C07Gaps
import Mathlib.Analysis.Real.Sqrt

namespace ICG.C07
open ICG Table ICG.SpecSA
open ICG.BoundsCommon

/-- `l2_norm`: the Euclidean norm of the width vector, over the reals -/
noncomputable def l2 (n : Nat) (lo hi : Nat → ℝ) : ℝ := Real.sqrt (l2sq n lo hi)

theorem l2_sq (n : Nat) (lo hi : Nat → ℝ) : l2 n lo hi * l2 n lo hi = l2sq n lo hi :=
  Real.mul_self_sqrt (GapMono.l2sq_nonneg n lo hi)

/-- **C07_gap_mono, l2.** -/
theorem mono_l2 (k : Computer) (t t' : Table ℝ) (v : Nat → ℝ) (hn : t'.n = t.n)
    (hle : KnownLe t.known t'.known) (hag : t.Agree v) (hag' : t'.Agree v) (hsa : SA t.n v)
    (hmd : k.NeedsMono → MonoDec t.n v) (hmin : MinInfo t.n t.known) :
    ∃ s s', k.run t = .ok s ∧ k.run t' = .ok s' ∧ l2 t.n s'.lo s'.hi ≤ l2 t.n s.lo s.hi := by
  obtain ⟨s, s', h1, h2, h3⟩ := mono_l2sq k t t' v hn hle hag hag' hsa hmd hmin
  exact ⟨s, s', h1, h2, Real.sqrt_le_sqrt h3⟩

/-- **C07_gap_nonneg, l2** — for arbitrary columns, so in particular after every compute. -/
theorem nonneg_l2 (n : Nat) (lo hi : Nat → ℝ) : 0 ≤ l2 n lo hi := Real.sqrt_nonneg _

/-- **C07_gap_zero_full, l2.** -/
theorem zero_full_l2 (k : Computer) (t : Table ℝ) (hinv : t.Inv) (h0 : t.lo 0 = 0)
    (hall : ∀ c, c < 2 ^ t.n → t.known c = true) :
    ∃ s, k.run t = .ok s ∧ l2 t.n s.lo s.hi = 0 := by
  obtain ⟨s, h1, h2, _⟩ := zero_full_l2sq_expl k t hinv h0 hall
  exact ⟨s, h1, by unfold l2; rw [h2, Real.sqrt_zero]⟩

/-- l2 = 0 exactly when every interval is a point (so "zero once everything is revealed" is sharp) -/
theorem l2_eq_zero_iff (n : Nat) (lo hi : Nat → ℝ) :
    l2 n lo hi = 0 ↔ ∀ c, c < 2 ^ n → lo c = hi c := by
  unfold l2
  rw [Real.sqrt_eq_zero (GapMono.l2sq_nonneg n lo hi), GapMono.l2sq_eq,
    Finset.sum_eq_zero_iff_of_nonneg (fun _ _ => mul_self_nonneg _)]
  constructor
  · intro h c hc
    exact (sub_eq_zero.mp (mul_self_eq_zero.mp (h c (Finset.mem_range.mpr hc)))).symm
  · intro h c hc
    rw [h c (Finset.mem_range.mp hc), sub_self, mul_zero]

/-- **C07_path, l2**: non-increasing along every reveal path. -/
theorem path_l2 (k : Computer) (v : Nat → ℝ) (cs : List Nat) {t : Table ℝ} {ts : List (Table ℝ)}
    (hf : Fresh k v t) (hsa : SA t.n v) (hmd : k.NeedsMono → MonoDec t.n v)
    (h : revealRun k v t cs = .ok ts) :
    (t :: ts).Pairwise (fun a b => l2 b.n b.lo b.hi ≤ l2 a.n a.lo a.hi) :=
  (path_l2sq k v cs hf hsa hmd h).imp (fun hab => Real.sqrt_le_sqrt hab)

/-! ### the hypotheses are satisfiable: the 3-player example game of `C07Gaps`, over the reals -/

noncomputable def exVr : Nat → ℝ := fun c => ((exV c : Int) : ℝ)

noncomputable def exTr (kn : Nat → Bool) : Table ℝ :=
  { n := 3, known := kn, lo := fun c => if kn c then exVr c else 99, hi := fun c => if kn c then exVr c else -99 }

theorem exTr_agree (kn : Nat → Bool) : (exTr kn).Agree exVr := by
  intro c _ hk
  have hk' : kn c = true := hk
  simp [exTr, hk']

theorem exVr_SA : SA 3 exVr := by
  have hq : SA 3 exVq := exVq_SA
  intro a b ha hb hab
  have := hq a b ha hb hab
  unfold exVr
  unfold exVq at this
  exact_mod_cast this

example : ∃ s s', sa (exTr exKnown) = .ok s ∧ sa (exTr exKnown') = .ok s' ∧
    l2 3 s'.lo s'.hi ≤ l2 3 s.lo s.hi :=
  mono_l2 .sa (exTr exKnown) (exTr exKnown') exVr rfl exKnown_le
    (exTr_agree _) (exTr_agree _) exVr_SA (fun h => h.elim) exKnown_minInfo

end ICG.C07

/-
  Property C09 — the reveal environment (icg_gym.py), theorems about ICG.Model.Env.

  "After any sequence of reset, step and unstep calls with valid actions: the known coalitions are exactly
   the minimal information plus the chosen ones and carry the hidden game's values; the action mask marks
   exactly the still-unknown explorable coalitions; the observation shows the normalised hidden value at
   known explorable positions and 0 elsewhere; the reward is the negated gap of freshly recomputed bounds
   (never positive, up to float rounding, for a game of the assumed class); info reports the id of the
   revealed coalition. done is true iff the step budget is used up, nothing is left to reveal, or all
   intervals are degenerate; reset draws a new hidden game and forgets everything but the minimal
   information."

  The bound computer `compute` and the gap function `gap` are parameters.  For the state theorems (`reach_inv` and
  what follows from `Inv`) only `ComputeOK` is assumed about `compute` (on tables with exact known rows it keeps `n`,
  the known flags and the known rows) and nothing about `gap`, except `0 ≤ gap` in the corollary "never positive".
  The progress section adds `ComputeTotal` and `GapTotal` (or `DefinedOn`): with them a valid action never raises, and
  step followed by unstep leads back to the same abstract state.  Then `Params.Minimal` and `reach_inv_real`: for the
  model's own computers `ComputeOK` is a theorem, so no hypothesis about `compute` is left.  The last section is a toy
  computer and gap with a concrete run, showing that the hypotheses can be met.  Float rounding is outside the theorems,
  and so are Python's negative action indices (the model implements them, see the examples at the end).

  Abstract state (`Spec`): hidden game, its normalised copy, the set of revealed explorable coalitions, the
  step counter.  `Inv` relates a model environment to it (`Holds`: its table holds exactly that knowledge); `Reach` is
  "reached from the constructor by reset / step / unstep with valid actions"; `reach_inv : Reach … e s → Inv … e s`.
  The initially-known list enters only through membership (`Params.ik` may be in any order, with
  duplicates): nothing depends on the iteration order of the Python `set`.
-/
import ICG.Lemmas.EnvUndo
import ICG.Lemmas.EnvReal
import Mathlib.Algebra.Order.Group.Defs

namespace ICG.C09
open ICG Table Env

variable {α : Type}

/-! ### the abstract state -/

/-- what is fixed at construction -/
structure Params where
  n : Nat
  ik : List Nat            -- initially known coalitions (any order, duplicates allowed)
  budget : Option Nat

/-- `explorable = [c in id order if c not in initially_known]` -/
def Params.explorable (P : Params) : List Nat := (allCoalitions P.n).filter (fun c => !P.ik.contains c)

/-- the constructor adds ∅ (and N); every initially known id is a row of the table -/
def Params.WF (P : Params) : Prop := 0 ∈ P.ik ∧ ∀ c ∈ P.ik, c < 2 ^ P.n

structure Spec (α : Type) where
  full : Nat → α
  norm : Nat → α
  revealed : Nat → Bool
  steps : Int

def Spec.init (full norm : Nat → α) : Spec α := ⟨full, norm, fun _ => false, 0⟩
def Spec.step (s : Spec α) (c : Nat) : Spec α :=
  { s with revealed := fun d => d == c || s.revealed d, steps := s.steps + 1 }
def Spec.unstep (s : Spec α) (c : Nat) : Spec α :=
  { s with revealed := fun d => d != c && s.revealed d, steps := s.steps - 1 }

/-- known = initial ∪ revealed -/
def Spec.knows (P : Params) (s : Spec α) (c : Nat) : Bool := P.ik.contains c || s.revealed c

/-- valid actions, decidable on the abstract state: `step a` needs a still-unknown explorable coalition,
    `unstep a` a revealed one -/
def validStep (P : Params) (s : Spec α) (a : Nat) : Bool :=
  match P.explorable[a]? with
  | some c => !s.revealed c
  | none => false

def validUnstep (P : Params) (s : Spec α) (a : Nat) : Bool :=
  match P.explorable[a]? with
  | some c => s.revealed c
  | none => false

theorem mem_explorable {P : Params} {c : Nat} : c ∈ P.explorable ↔ c < 2 ^ P.n ∧ c ∉ P.ik := by
  simp [Params.explorable, allCoalitions, List.mem_filter]

theorem Spec.unstep_step (s : Spec α) (c : Nat) (h : s.revealed c = false) : (s.step c).unstep c = s := by
  cases s with
  | mk full norm revealed steps =>
    simp only [Spec.step, Spec.unstep, Spec.mk.injEq, true_and]
    refine ⟨?_, by omega⟩
    funext d
    by_cases hd : d = c
    · subst hd
      have h' : revealed d = false := h
      simp [h']
    · have hbe : (d == c) = false := beq_eq_false_iff_ne.mpr hd
      have hbn : (d != c) = true := bne_iff_ne.mpr hd
      rw [hbe, hbn]; simp

/-- the environment `e` is in abstract state `s` -/
structure Inv (compute : Table α → Except Err (Table α)) (P : Params) (e : Env α) (s : Spec α) : Prop where
  full : e.full = s.full
  norm : e.norm = s.norm
  steps : e.steps = s.steps
  budget : e.budget = P.budget
  ik : e.initiallyKnown = P.ik
  ex : e.explorable = P.explorable
  n : e.table.n = P.n
  /-- the known coalitions are exactly the initial ones plus the revealed ones … -/
  known : ∀ c, e.table.known c = s.knows P c
  /-- … and carry the hidden game's values -/
  vals : ∀ c, e.table.known c = true → e.table.lo c = s.full c ∧ e.table.hi c = s.full c
  /-- the bounds are those of a fresh computation from exactly this knowledge -/
  fresh : Fresh compute e.table
  /-- only explorable coalitions are ever revealed -/
  sub : ∀ c, s.revealed c = true → c ∈ P.explorable

/-- the table `t` holds exactly the knowledge of the abstract state `s` (what `reset`, `step`, `unstep` hand to the
    bound computer) -/
structure Holds (P : Params) (s : Spec α) (t : Table α) : Prop where
  n : t.n = P.n
  known : ∀ c, t.known c = s.knows P c
  vals : ∀ c, t.known c = true → t.lo c = s.full c ∧ t.hi c = s.full c

namespace Holds
variable {P : Params} {s : Spec α} {t : Table α}

theorem exact (h : Holds P s t) : Exact t := fun c hc => by rw [(h.vals c hc).1, (h.vals c hc).2]

theorem ik (h : Holds P s t) {c : Nat} (hc : c ∈ P.ik) : t.known c = true := by
  rw [h.known c, Spec.knows, List.contains_iff_mem.mpr hc, Bool.true_or]

theorem sameKnowledge {t' : Table α} (h : Holds P s t) (h' : Holds P s t') : SameKnowledge t t' :=
  ⟨h.n.trans h'.n.symm, fun c => (h.known c).trans (h'.known c).symm, fun c hc =>
    have a := h.vals c hc
    have b := h'.vals c ((h'.known c).trans ((h.known c).symm.trans hc))
    ⟨a.1.trans b.1.symm, a.2.trans b.2.symm⟩⟩

theorem of_sameKnowledge {t' : Table α} (hsk : SameKnowledge t' t) (h : Holds P s t) : Holds P s t' :=
  ⟨hsk.n.trans h.n, fun c => (hsk.known c).trans (h.known c), fun c hc => by
    rw [(hsk.vals hc).1, (hsk.vals hc).2]
    exact h.vals c ((hsk.known c).symm.trans hc)⟩

theorem init [Zero α] (hP : P.WF) (f g : Nat → α) :
    Holds P (Spec.init f g) (Search.exactTable P.n f (fun c => P.ik.contains c)) := by
  have hK := Search.exactTable_known (n := P.n) (v := f) (K := fun c => P.ik.contains c)
    (List.contains_iff_mem.mpr hP.1)
  refine ⟨rfl, fun c => ?_, fun c hc => ?_⟩
  · rw [hK]; exact (Bool.or_false _).symm
  · rw [hK] at hc
    simp only [Search.exactTable, hc, if_true, Spec.init, and_self]

theorem putValue (h : Holds P s t) (c : Nat) : Holds P (s.step c) (t.putValue c (s.full c)) := by
  refine ⟨h.n, fun d => ?_, fun d hd => ?_⟩
  · by_cases hdc : d = c
    · subst hdc; simp [Table.putValue, Spec.knows, Spec.step]
    · simp [Table.putValue, Spec.knows, Spec.step, hdc, h.known d, beq_eq_false_iff_ne.mpr hdc]
  · by_cases hdc : d = c
    · subst hdc; simp [Table.putValue, Spec.step]
    · have hd' : t.known d = true := by simpa [Table.putValue, hdc] using hd
      simpa [Table.putValue, Spec.step, hdc] using h.vals d hd'

theorem clearRow [Zero α] (h : Holds P s t) {c : Nat} (hc : c ∉ P.ik) : Holds P (s.unstep c) (t.clearRow c) := by
  refine ⟨h.n, fun d => ?_, fun d hd => ?_⟩
  · by_cases hdc : d = c
    · subst hdc; simp [Table.clearRow, Spec.knows, Spec.unstep, hc]
    · simp [Table.clearRow, Spec.knows, Spec.unstep, hdc, h.known d, bne_iff_ne.mpr hdc]
  · by_cases hdc : d = c
    · subst hdc; simp [Table.clearRow] at hd
    · have hd' : t.known d = true := by simpa [Table.clearRow, hdc] using hd
      simpa [Table.clearRow, Spec.unstep, hdc] using h.vals d hd'

theorem computed {compute : Table α → Except Err (Table α)} (hok : ComputeOK compute) (h : Holds P s t)
    {t' : Table α} (hc : compute t = .ok t') : Holds P s t' ∧ Fresh compute t' := by
  refine ⟨⟨(hok.n h.exact hc).trans h.n, fun c => (hok.known h.exact hc c).trans (h.known c), fun c hk => ?_⟩,
    t, sameKnowledge_of_compute hok h.exact hc, h.exact, hc⟩
  have hk' : t.known c = true := by rw [← hok.known h.exact hc c]; exact hk
  rw [(hok.vals h.exact hc c hk').1, (hok.vals h.exact hc c hk').2]
  exact h.vals c hk'

end Holds

section
variable {compute : Table α → Except Err (Table α)} {gap : Table α → Except Err α}

theorem Inv.holds {P : Params} {e : Env α} {s : Spec α} (h : Inv compute P e s) : Holds P s e.table :=
  ⟨h.n, h.known, h.vals⟩

theorem Inv.of_computed (hok : ComputeOK compute) {P : Params} {e' : Env α} {s' : Spec α} {t1 : Table α}
    (hfull : e'.full = s'.full) (hnorm : e'.norm = s'.norm) (hsteps : e'.steps = s'.steps)
    (hb : e'.budget = P.budget) (hik : e'.initiallyKnown = P.ik) (hex : e'.explorable = P.explorable)
    (h1 : Holds P s' t1) (hc : compute t1 = .ok e'.table) (hsub : ∀ c, s'.revealed c = true → c ∈ P.explorable) :
    Inv compute P e' s' :=
  have H := h1.computed hok hc
  ⟨hfull, hnorm, hsteps, hb, hik, hex, H.1.n, H.1.known, H.1.vals, H.2, hsub⟩

theorem Inv.known_lt {P : Params} (hP : P.WF) {e : Env α} {s : Spec α} (h : Inv compute P e s) {c : Nat}
    (hc : e.table.known c = true) : c < 2 ^ P.n := by
  rw [h.known c] at hc
  simp only [Spec.knows, Bool.or_eq_true, List.contains_iff_mem] at hc
  rcases hc with hc | hc
  · exact hP.2 c hc
  · exact (mem_explorable.mp (h.sub c hc)).1

theorem Inv.known_explorable {P : Params} {e : Env α} {s : Spec α} (h : Inv compute P e s) {c : Nat}
    (hc : c ∈ P.explorable) : e.table.known c = s.revealed c := by
  have : P.ik.contains c = false :=
    Bool.eq_false_iff.mpr (fun hh => (mem_explorable.mp hc).2 (List.contains_iff_mem.mp hh))
  rw [h.known c, Spec.knows, this, Bool.false_or]

theorem Inv.action {P : Params} {e : Env α} {s : Spec α} (h : Inv compute P e s) {a c : Nat}
    (hc : P.explorable[a]? = some c) :
    e.explorable[a]? = some c ∧ c < 2 ^ e.table.n ∧ c ∉ P.ik ∧ e.table.known c = s.revealed c :=
  have hm := List.mem_of_getElem? hc
  ⟨h.ex ▸ hc, h.n ▸ (mem_explorable.mp hm).1, (mem_explorable.mp hm).2, h.known_explorable hm⟩

theorem validStep_iff {P : Params} {s : Spec α} {a : Nat} :
    validStep P s a = true ↔ ∃ c, P.explorable[a]? = some c ∧ s.revealed c = false := by
  unfold validStep
  cases P.explorable[a]? <;> simp

theorem validUnstep_iff {P : Params} {s : Spec α} {a : Nat} :
    validUnstep P s a = true ↔ ∃ c, P.explorable[a]? = some c ∧ s.revealed c = true := by
  unfold validUnstep
  cases P.explorable[a]? <;> simp

/-! ### reset -/

/-- `reset` (also the one inside the constructor) lands in the initial abstract state of the NEW game:
    everything but the initial knowledge is forgotten, the counter is 0, the bounds are fresh. -/
theorem reset_spec [Zero α] (hok : ComputeOK compute) {P : Params} (hP : P.WF) {e e' : Env α} {f g : Nat → α}
    {obs : List α} (hik : e.initiallyKnown = P.ik) (hex : e.explorable = P.explorable) (hn : e.table.n = P.n)
    (hb : e.budget = P.budget) (h : reset compute e f g = .ok (e', obs)) :
    Inv compute P e' (Spec.init f g) ∧ obs = e'.state := by
  obtain ⟨_, t2, hcomp, rfl, hobs⟩ := reset_inv compute h
  rw [hik, hn] at hcomp
  exact ⟨Inv.of_computed hok rfl rfl rfl hb hik hex (Holds.init hP f g) hcomp (fun c hc => by cases hc), hobs⟩

theorem Inv.reset [Zero α] (hok : ComputeOK compute) {P : Params} (hP : P.WF) {e e' : Env α} {s : Spec α}
    {f g : Nat → α} {obs : List α} (hinv : Inv compute P e s) (h : reset compute e f g = .ok (e', obs)) :
    Inv compute P e' (Spec.init f g) ∧ obs = e'.state :=
  reset_spec hok hP hinv.ik hinv.ex hinv.n hinv.budget h

/-! ### the constructor -/

theorem mkEnvWith_spec [Zero α] (hok : ComputeOK compute) {t0 : Table α} {ik : List Nat} {budget : Option Nat}
    {f g : Nat → α} {e : Env α} (h0 : 0 ∈ ik) (hik : ∀ c ∈ ik, c < 2 ^ t0.n)
    (h : mkEnvWith compute t0 ik budget f g = .ok e) :
    Inv compute ⟨t0.n, ik, budget⟩ e (Spec.init f g) ∧ e.explorable ≠ [] := by
  unfold mkEnvWith at h
  simp only at h
  split at h
  · simp at h
  · rename_i e1 obs hr
    split at h
    · simp at h
    · rename_i hne
      simp only [Except.ok.injEq] at h
      subst h
      have := reset_spec hok (P := ⟨t0.n, ik, budget⟩) ⟨h0, hik⟩ rfl rfl rfl rfl hr
      refine ⟨this.1, ?_⟩
      intro hnil
      exact hne (by rw [hnil]; rfl)

/-- `ICG_Gym(game, generator, initial, gap, budget)`: the known coalitions are `initial ∪ {∅, N}` whatever
    order the Python set iterates in (`sortedIds` is one such order; only membership is used) -/
theorem mkEnv_spec [Zero α] (hok : ComputeOK compute) {n : Nat} {initial : List Nat} {budget : Option Nat}
    {f g : Nat → α} {e : Env α} (hinit : ∀ c ∈ initial, c < 2 ^ n)
    (h : mkEnv compute n initial budget f g = .ok e) :
    Inv compute ⟨n, sortedIds (initial ++ [0, grand n]), budget⟩ e (Spec.init f g) ∧
      (∀ c, e.table.known c = true ↔ c ∈ initial ∨ c = 0 ∨ c = grand n) := by
  have h0 : 0 ∈ sortedIds (initial ++ [0, grand n]) := by simp [mem_sortedIds]
  have hpos : 0 < 2 ^ n := Nat.two_pow_pos n
  have hik : ∀ c ∈ sortedIds (initial ++ [0, grand n]), c < 2 ^ (Table.init (α := α) n).n := by
    intro c hc
    rw [mem_sortedIds] at hc
    simp only [List.mem_append, List.mem_cons, List.mem_nil_iff, or_false] at hc
    show c < 2 ^ n
    rcases hc with hc | rfl | rfl
    · exact hinit c hc
    · exact hpos
    · exact Nat.sub_lt hpos Nat.one_pos
  have := (mkEnvWith_spec hok h0 hik h).1
  refine ⟨this, fun c => ?_⟩
  rw [this.known c]
  simp [Spec.knows, Spec.init, mem_sortedIds]

/-! ### step and unstep with valid actions -/

/-- a successful `step a`: `a` points at an explorable coalition `c` not yet revealed, the new state is `s.step c` -/
theorem step_spec [Zero α] [Neg α] [Sub α] [DecidableEq α] (hok : ComputeOK compute) {P : Params} {e e' : Env α} {s : Spec α}
    {a : Nat} {out : StepOut α} (hinv : Inv compute P e s)
    (h : step compute gap e a = .ok (e', out)) :
    ∃ c, P.explorable[a]? = some c ∧ s.revealed c = false ∧ Inv compute P e' (s.step c) ∧
      out.chosen = c ∧ out.obs = e'.state ∧ e'.reward gap = .ok out.reward ∧ out.done = e'.done := by
  obtain ⟨c, t2, g, hc, _, hk, hcomp, hg, rfl, rfl⟩ := step_inv compute gap h
  rw [hinv.ex] at hc
  rw [hinv.full] at hcomp
  refine ⟨c, hc, (hinv.action hc).2.2.2 ▸ hk, ?_, rfl, rfl, reward_ok gap hg, rfl⟩
  refine Inv.of_computed hok hinv.full hinv.norm (congrArg (· + 1) hinv.steps) hinv.budget hinv.ik hinv.ex
    (hinv.holds.putValue c) hcomp (fun d hd => ?_)
  rcases (Bool.or_eq_true _ _).mp hd with hd | hd
  · exact beq_iff_eq.mp hd ▸ List.mem_of_getElem? hc
  · exact hinv.sub d hd

theorem unstep_spec [Zero α] [Neg α] [Sub α] [DecidableEq α] (hok : ComputeOK compute) {P : Params} {e e' : Env α} {s : Spec α}
    {a : Nat} {out : StepOut α} (hinv : Inv compute P e s)
    (h : unstep compute gap e a = .ok (e', out)) :
    ∃ c, P.explorable[a]? = some c ∧ s.revealed c = true ∧ Inv compute P e' (s.unstep c) ∧
      out.chosen = c ∧ out.obs = e'.state ∧ e'.reward gap = .ok out.reward ∧ out.done = e'.done := by
  obtain ⟨c, t2, g, hc, _, hk, hcomp, hg, rfl, rfl⟩ := unstep_inv compute gap h
  rw [hinv.ex] at hc
  obtain ⟨_, _, hnik, hkr⟩ := hinv.action hc
  refine ⟨c, hc, hkr ▸ hk, ?_, rfl, rfl, reward_ok gap hg, rfl⟩
  exact Inv.of_computed hok hinv.full hinv.norm (congrArg (· - 1) hinv.steps) hinv.budget hinv.ik hinv.ex
    (hinv.holds.clearRow hnik) hcomp (fun d hd => hinv.sub d ((Bool.and_eq_true _ _).mp hd).2)

/-! ### every sequence of reset / step / unstep with valid actions -/

/-- `Reach compute gap P e s`: the model environment `e` is reached from the constructor by a sequence of
    successful reset / step / unstep calls with valid actions, and `s` is the abstract state that sequence
    produces. -/
inductive Reach [Zero α] [Neg α] [Sub α] [DecidableEq α] (compute : Table α → Except Err (Table α)) (gap : Table α → Except Err α) (P : Params) :
    Env α → Spec α → Prop
  | init {t0 : Table α} {f g : Nat → α} {e : Env α} :
      t0.n = P.n → mkEnvWith compute t0 P.ik P.budget f g = .ok e → Reach compute gap P e (Spec.init f g)
  | reset {e e' : Env α} {s : Spec α} {f g : Nat → α} {obs : List α} :
      Reach compute gap P e s → Env.reset compute e f g = .ok (e', obs) → Reach compute gap P e' (Spec.init f g)
  | step {e e' : Env α} {s : Spec α} {a c : Nat} {out : StepOut α} :
      Reach compute gap P e s → validStep P s a = true → P.explorable[a]? = some c →
      Env.step compute gap e a = .ok (e', out) → Reach compute gap P e' (s.step c)
  | unstep {e e' : Env α} {s : Spec α} {a c : Nat} {out : StepOut α} :
      Reach compute gap P e s → validUnstep P s a = true → P.explorable[a]? = some c →
      Env.unstep compute gap e a = .ok (e', out) → Reach compute gap P e' (s.unstep c)

/-- **C09, main invariant**: after any such sequence the environment is in the abstract state. -/
theorem reach_inv [Zero α] [Neg α] [Sub α] [DecidableEq α] (hok : ComputeOK compute) {P : Params} (hP : P.WF) {e : Env α} {s : Spec α}
    (h : Reach compute gap P e s) : Inv compute P e s := by
  induction h with
  | @init t0 f g e hn hmk =>
    have := (mkEnvWith_spec hok hP.1 (by rw [hn]; exact hP.2) hmk).1
    rw [hn] at this
    exact this
  | reset _ hr ih => exact (Inv.reset hok hP ih hr).1
  | step _ _ hc hs ih =>
    obtain ⟨c', hc', _, hinv, _⟩ := step_spec hok ih hs
    rw [hc] at hc'
    cases hc'
    exact hinv
  | unstep _ _ hc hs ih =>
    obtain ⟨c', hc', _, hinv, _⟩ := unstep_spec hok ih hs
    rw [hc] at hc'
    cases hc'
    exact hinv

/-! ### what the invariant says about the observables -/

/-- the action mask marks exactly the still-unknown explorable coalitions -/
theorem mask_spec {P : Params} {e : Env α} {s : Spec α} (h : Inv compute P e s) :
    e.actionMasks = P.explorable.map (fun c => !s.revealed c) := by
  simp only [actionMasks, h.ex]
  exact List.map_congr_left fun c hc => by rw [h.known_explorable hc]

theorem mask_known {P : Params} {e : Env α} {s : Spec α} (h : Inv compute P e s) :
    e.actionMasks = P.explorable.map (fun c => !e.table.known c) := by
  simp only [actionMasks, h.ex]

/-- the observation shows the normalised hidden value at known explorable positions and 0 elsewhere -/
theorem state_spec [Zero α] {P : Params} {e : Env α} {s : Spec α} (h : Inv compute P e s) :
    e.state = P.explorable.map (fun c => if s.revealed c then s.norm c else 0) := by
  simp only [state, h.ex, h.norm]
  exact List.map_congr_left fun c hc => by rw [h.known_explorable hc]

theorem validActions_spec {P : Params} {e : Env α} {s : Spec α} (h : Inv compute P e s) (a : Nat) :
    a ∈ e.validActions ↔ validStep P s a = true := by
  simp only [validActions, List.mem_filter, List.mem_range, h.ex, validStep]
  cases hc : P.explorable[a]? with
  | none =>
    simp
  | some c =>
    have hlen : a < P.explorable.length := let ⟨hl, _⟩ := List.getElem?_eq_some_iff.mp hc; hl
    simp [hlen, h.known_explorable (List.mem_of_getElem? hc)]

/-- the reward is the negated gap of bounds freshly computed from a table that holds exactly the knowledge
    of the abstract state (initial ∪ revealed, with the hidden values) -/
theorem reward_spec [Neg α] {P : Params} {e : Env α} {s : Spec α} (h : Inv compute P e s) :
    ∃ t0 : Table α, t0.n = P.n ∧ (∀ c, t0.known c = s.knows P c) ∧
      (∀ c, t0.known c = true → t0.lo c = s.full c ∧ t0.hi c = s.full c) ∧
      compute t0 = .ok e.table ∧
      e.reward gap = (match gap e.table with | .ok g => .ok (-g) | .error err => .error err) := by
  obtain ⟨t0, hsk, _, hcomp⟩ := h.fresh
  have H := h.holds.of_sameKnowledge hsk
  exact ⟨t0, H.n, H.known, H.vals, hcomp, rfl⟩

/-- `done` ⇔ the step budget is used up ∨ nothing is left to reveal ∨ all intervals are degenerate -/
theorem done_spec [Sub α] [Zero α] [DecidableEq α] {P : Params} {e : Env α} {s : Spec α} (h : Inv compute P e s) :
    e.done = true ↔ (∃ b, P.budget = some b ∧ (b : Int) ≤ s.steps) ∨
      (∀ c ∈ P.explorable, s.revealed c = true) ∨ (∀ c, c < 2 ^ P.n → e.table.hi c - e.table.lo c = 0) := by
  have hmask : e.actionMasks.any id = false ↔ ∀ c ∈ P.explorable, s.revealed c = true := by
    rw [mask_spec h]
    simp [List.any_eq_false]
  have hdeg : allDegenerate e.table = true ↔ ∀ c, c < 2 ^ P.n → e.table.hi c - e.table.lo c = 0 := by
    simp only [allDegenerate, List.all_eq_true, List.mem_range, decide_eq_true_eq, Table.rows, h.n]
  simp only [done, Bool.or_eq_true, Bool.not_eq_true', hmask, hdeg, h.budget, h.steps]
  cases P.budget with
  | none => simp only [Bool.false_eq_true, false_or, reduceCtorEq, false_and, exists_false]
  | some b => simp only [decide_eq_true_eq, Option.some.injEq, exists_eq_left', or_assoc]

end

/-- never positive, for a gap function that is non-negative on every table (the norms; for exploitability see
    `Compose.reward_nonpos`) -/
theorem reward_nonpos [AddCommGroup α] [LinearOrder α] [IsOrderedAddMonoid α]
    {gap : Table α → Except Err α} (hgap : ∀ t g, gap t = .ok g → 0 ≤ g) (e : Env α) {r : α}
    (h : e.reward gap = .ok r) : r ≤ 0 := by
  unfold reward at h
  cases hg : gap e.table with
  | error err => simp [hg] at h
  | ok g =>
    simp only [hg, Except.ok.injEq] at h
    rw [← h]
    exact neg_nonpos.mpr (hgap _ _ hg)

/-! ### progress: with a total computer / gap, valid actions never raise -/

section progress
variable {compute : Table α → Except Err (Table α)} {gap : Table α → Except Err α}

/-- the computer accepts every table of the right size that knows the initial coalitions -/
def ComputeTotal (compute : Table α → Except Err (Table α)) (P : Params) : Prop :=
  ∀ t : Table α, t.n = P.n → (∀ c ∈ P.ik, t.known c = true) → ∃ t', compute t = .ok t'

/-- the gap function never raises (true of the norms, false of exploitability, which needs N known) -/
def GapTotal (gap : Table α → Except Err α) : Prop := ∀ t, ∃ g, gap t = .ok g

/-- computer and gap succeed on every table that holds some knowledge of the hidden game `v` -/
def DefinedOn (compute : Table α → Except Err (Table α)) (gap : Table α → Except Err α) (P : Params)
    (v : Nat → α) : Prop :=
  ∀ (s : Spec α) (t : Table α), s.full = v → Holds P s t → ∃ t' g, compute t = .ok t' ∧ gap t' = .ok g

theorem DefinedOn.of_total {P : Params} (htot : ComputeTotal compute P) (hgt : GapTotal gap) (v : Nat → α) :
    DefinedOn compute gap P v := fun _ t _ h =>
  let ⟨t', ht'⟩ := htot t h.n (fun _ hc => h.ik hc)
  let ⟨g, hg⟩ := hgt t'
  ⟨t', g, ht', hg⟩

section defined
variable [Zero α] [Neg α] [Sub α] [DecidableEq α] {P : Params} {e : Env α} {s : Spec α} {a : Nat}

theorem step_of_defined (hd : DefinedOn compute gap P s.full) (hinv : Inv compute P e s)
    (hv : validStep P s a = true) : ∃ e' out, step compute gap e a = .ok (e', out) := by
  obtain ⟨c, hc, hr⟩ := validStep_iff.mp hv
  obtain ⟨hce, hlt, _, hk⟩ := hinv.action hc
  obtain ⟨t2, g, ht2, hg⟩ := hd (s.step c) _ rfl (hinv.holds.putValue c)
  rw [← hinv.full] at ht2
  exact ⟨_, _, step_ok compute gap hce hlt (hk.trans hr) ht2 hg⟩

theorem unstep_of_defined (hd : DefinedOn compute gap P s.full) (hinv : Inv compute P e s)
    (hv : validUnstep P s a = true) : ∃ e' out, unstep compute gap e a = .ok (e', out) := by
  obtain ⟨c, hc, hr⟩ := validUnstep_iff.mp hv
  obtain ⟨hce, hlt, hnik, hk⟩ := hinv.action hc
  obtain ⟨t2, g, ht2, hg⟩ := hd (s.unstep c) _ rfl (hinv.holds.clearRow hnik)
  exact ⟨_, _, unstep_ok compute gap hce hlt (hk.trans hr) ht2 hg⟩

theorem roundtrip_of_defined (hok : ComputeOK compute) (hd : DefinedOn compute gap P s.full)
    (hinv : Inv compute P e s) (hv : validStep P s a = true) :
    ∃ e1 o1 e2 o2, step compute gap e a = .ok (e1, o1) ∧ unstep compute gap e1 a = .ok (e2, o2) ∧
      Inv compute P e2 s := by
  obtain ⟨e1, o1, h1⟩ := step_of_defined hd hinv hv
  obtain ⟨c, hc, hrev, hinv1, _⟩ := step_spec hok hinv h1
  have hv2 : validUnstep P (s.step c) a = true :=
    validUnstep_iff.mpr ⟨c, hc, by simp only [Spec.step, beq_self_eq_true, Bool.true_or]⟩
  obtain ⟨e2, o2, h2⟩ := unstep_of_defined (s := s.step c) hd hinv1 hv2
  obtain ⟨c', hc', _, hinv2, _⟩ := unstep_spec hok hinv1 h2
  rw [hc] at hc'
  cases hc'
  rw [s.unstep_step c hrev] at hinv2
  exact ⟨e1, o1, e2, o2, h1, h2, hinv2⟩

end defined

theorem step_succeeds [Zero α] [Neg α] [Sub α] [DecidableEq α] {P : Params} (htot : ComputeTotal compute P) (hgt : GapTotal gap)
    {e : Env α} {s : Spec α} {a : Nat} (hinv : Inv compute P e s) (hv : validStep P s a = true) :
    ∃ e' out, step compute gap e a = .ok (e', out) :=
  step_of_defined (DefinedOn.of_total htot hgt _) hinv hv

theorem unstep_succeeds [Zero α] [Neg α] [Sub α] [DecidableEq α] {P : Params} (htot : ComputeTotal compute P) (hgt : GapTotal gap)
    {e : Env α} {s : Spec α} {a : Nat} (hinv : Inv compute P e s) (hv : validUnstep P s a = true) :
    ∃ e' out, unstep compute gap e a = .ok (e', out) :=
  unstep_of_defined (DefinedOn.of_total htot hgt _) hinv hv

theorem reset_succeeds [Zero α] {P : Params} (htot : ComputeTotal compute P) (hP : P.WF)
    {e : Env α} {s : Spec α} (hinv : Inv compute P e s) (f g : Nat → α) :
    ∃ e' obs, reset compute e f g = .ok (e', obs) := by
  have hik' : ∀ c ∈ e.initiallyKnown, c < 2 ^ e.table.n := by
    rw [hinv.ik, hinv.n]; exact hP.2
  have H := Holds.init hP f g
  obtain ⟨t2, ht2⟩ := htot _ H.n (fun _ hc => H.ik hc)
  exact ⟨_, _, reset_ok compute hik' (by rw [hinv.ik, hinv.n]; exact ht2)⟩

theorem step_revealed_raises [Zero α] [Neg α] [Sub α] [DecidableEq α] {P : Params} {e : Env α} {s : Spec α} {a c : Nat}
    (hinv : Inv compute P e s) (hc : P.explorable[a]? = some c) (hr : s.revealed c = true) :
    step compute gap e a = .error (.assert, e) :=
  let ⟨hce, hlt, _, hk⟩ := hinv.action hc
  step_known_error compute gap hce hlt (hk.trans hr)

theorem unstep_unrevealed_raises [Zero α] [Neg α] [Sub α] [DecidableEq α] {P : Params} {e : Env α} {s : Spec α} {a c : Nat}
    (hinv : Inv compute P e s) (hc : P.explorable[a]? = some c) (hr : s.revealed c = false) :
    unstep compute gap e a = .error (.assert, e) :=
  let ⟨hce, hlt, _, hk⟩ := hinv.action hc
  unstep_unknown_error compute gap hce hlt (hk.trans hr)

end progress

/-! ### the model's own computers: no hypothesis about `compute` is left -/

/-- the initial knowledge contains the minimal information ∅, N and the singletons -/
def Params.Minimal (P : Params) : Prop := 0 ∈ P.ik ∧ 2 ^ P.n - 1 ∈ P.ik ∧ ∀ i, i < P.n → 2 ^ i ∈ P.ik

theorem Params.Minimal.minInfo {P : Params} (hmin : P.Minimal) {t : Table α} (hn : t.n = P.n)
    (hk : ∀ c ∈ P.ik, t.known c = true) : MinInfo t.n t.known := by
  rw [hn]
  exact ⟨hk 0 hmin.1, hk _ hmin.2.1, fun i hi => hk _ (hmin.2.2 i hi)⟩

section real
variable [Add α] [Sub α] [LinearOrder α]

theorem computer_computeTotal (k : Computer) {P : Params} (hmin : P.Minimal) :
    ComputeTotal (k.run : Table α → Except Err (Table α)) P :=
  fun t hn hk => computer_total k t (hmin.minInfo hn hk)

variable [Zero α] [Neg α]

/-- **C09 for the reference, the cached and the approximate computer** (`ComputeOK` is a theorem for them,
    `ICG.Env.computer_ok`): after any sequence of reset / step / unstep with valid actions the environment is in
    the abstract state. -/
theorem reach_inv_real (k : Computer) {gap : Table α → Except Err α} {P : Params} (hP : P.WF) {e : Env α}
    {s : Spec α} (h : Reach (k.run : Table α → Except Err (Table α)) gap P e s) : Inv k.run P e s :=
  reach_inv (computer_ok k) hP h

end real

/-! ### the hypotheses are satisfiable: a toy computer and gap, and a concrete environment -/

/-- a computer that puts `[0, w]` on every unknown row (keeps known rows) -/
def toyCompute [Zero α] (w : α) (t : Table α) : Except Err (Table α) :=
  .ok { t with lo := fun c => if t.known c then t.lo c else 0, hi := fun c => if t.known c then t.hi c else w }

theorem toyCompute_ok [Zero α] (w : α) : ComputeOK (toyCompute w) where
  n := by intro t t' _ h; cases h; rfl
  known := by intro t t' _ h c; cases h; rfl
  vals := by intro t t' _ h c hc; cases h; simp [hc]

theorem toyCompute_knowledgeOnly [Zero α] (w : α) : KnowledgeOnly (toyCompute w) where
  rows := by
    intro t1 t2 r1 r2 hsk _ _ h1 h2 c _
    cases h1; cases h2
    have hk := hsk.known c
    cases hkc : t1.known c with
    | false => rw [hkc] at hk; simp [hkc, ← hk]
    | true =>
      have := hsk.vals hkc
      rw [hkc] at hk
      simp [hkc, ← hk, this.1, this.2]

/-- the l1 gap: sum of the interval widths -/
def toyGap [Add α] [Sub α] [Zero α] (t : Table α) : Except Err α :=
  .ok (listSum ((List.range t.rows).map (fun c => t.hi c - t.lo c)))

/-- a hidden 3-player game and a stand-in for its normalised copy -/
def demoFull : Nat → Int := fun c => [0, 1, 2, 5, 1, 4, 6, 12].getD c 0
def demoNorm : Nat → Int := fun c => [0, 0, 0, 2, 0, 2, 3, 8].getD c 0

def demo : Except Err (List Nat × List Bool × List Int × Except Err Int × Bool) :=
  match mkEnv (toyCompute (100 : Int)) 3 [1, 2, 4, 4, 1] (some 2) demoFull demoNorm with
  | .error err => .error err
  | .ok e => .ok (e.explorable, e.actionMasks, e.state, e.reward toyGap, e.done)

example : demo = .ok ([3, 5, 6], [true, true, true], [0, 0, 0], .ok (-300), false) := by decide +kernel

/-- step 1 (coalition 5), step 0 (coalition 3): budget used up → done; unstep 1 -/
def demoRun : Option (Env Int × List (List Int × Int × Bool × Nat)) :=
  match mkEnv (toyCompute (100 : Int)) 3 [1, 2, 4] (some 2) demoFull demoNorm with
  | .error _ => none
  | .ok e =>
    match step (toyCompute 100) toyGap e 1 with
    | .error _ => none
    | .ok (e1, o1) =>
      match step (toyCompute 100) toyGap e1 0 with
      | .error _ => none
      | .ok (e2, o2) =>
        match unstep (toyCompute 100) toyGap e2 1 with
        | .error _ => none
        | .ok (e3, o3) =>
          some (e3, [(o1.obs, o1.reward, o1.done, o1.chosen), (o2.obs, o2.reward, o2.done, o2.chosen),
                     (o3.obs, o3.reward, o3.done, o3.chosen)])

example : demoRun.map (·.2) =
    some [([0, 2, 0], -200, false, 5), ([2, 2, 0], -100, true, 3), ([2, 0, 0], -200, false, 5)] := by decide +kernel

example : demoRun.map (fun p => (p.1.actionMasks, p.1.steps)) = some ([false, true, true], 1) := by
  decide +kernel

/-- action 3 of three positions: IndexError; undoing a coalition that was not revealed: the assertion; action `-1` is
    Python's last position and reveals coalition 6 -/
example : (match mkEnv (toyCompute (100 : Int)) 3 [1, 2, 4] none demoFull demoNorm with
    | .ok e => (match step (toyCompute 100) toyGap e 3 with | .error (err, _) => some err | _ => none,
                match unstep (toyCompute 100) toyGap e 0 with | .error (err, _) => some err | _ => none,
                match step (toyCompute 100) toyGap e (-1) with | .ok (_, o) => some o.chosen | _ => none)
    | .error _ => (none, none, none)) = (some Err.index, some Err.assert, some 6) := by decide +kernel

/-- nothing explorable: the constructor itself raises (gymnasium's `Discrete(0)` assertion) -/
example : (match mkEnv (toyCompute (100 : Int)) 2 [1, 2] none demoFull demoNorm with
    | .error err => some err | .ok _ => none) = some Err.assert := by decide +kernel

end ICG.C09

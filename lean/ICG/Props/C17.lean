/-
  Property C17 — an incomplete game object is a faithful map coalition ↦ (known?, lower, upper).
  Theorems about ICG.Model.Table (the model of incomplete_cooperative/game.py).

  "After any sequence of public value operations a coalition is known iff it was set or revealed and not
  since unset or bulk-reset; a known coalition has lower = upper = its value and bulk bound setters never
  alter it; the value of an unknown coalition is never returned as a value (error, None or NaN instead);
  the empty coalition starts known with value 0.  Copies are independent of the original, and negation
  swaps and negates the bounds, keeps knowledge and is an involution."

  `Spec α` is the abstract "known map" coalition ↦ value; `specStep` advances it WITHOUT looking at the table; `Rel` is
  the simulation relation.  A raising call leaves the table as it was, except `set_known_values`, which leaves the
  re-initialised table.  Every `n`, every value type with a `0`; only negation asks for `Neg α`.

  Scalar bound writes (`set_lower_bound` / `set_upper_bound`) write one cell without looking at the known flag; on a
  *known* row they break `lower = upper`.  The property is about histories of public *value* operations, so such a
  write is admitted only on a row that is unknown at that moment: `Op.admissible`.

  `Bulk` / `bulk` is a second reading of how `Table.setValues` / `setBounds` parse their arguments, tied to the model by
  `rfl`.  `neg_neg`, `__add__` and `__eq__` (`add`, `eqv`) are in Props/C17Alg.

  Copies: a table is a value, so independence of copies holds by construction; the aliasing question exists only in
  the Python object and is checked there (harness/corr_table.py).
-/
import ICG.Model.Table

namespace ICG.C17
open ICG Table

variable {α : Type}

theorem fresh_known [Zero α] (n c : Nat) : (Table.init (α := α) n).known c = true ↔ c = 0 := by
  simp [Table.init]

theorem fresh_value [Zero α] (n : Nat) :
    (Table.init (α := α) n).lo 0 = 0 ∧ (Table.init (α := α) n).hi 0 = 0 := by
  simp [Table.init]

example : (Table.init (α := Int) 3).getKnownValues = [some 0, none, none, none, none, none, none, none] := by
  decide

theorem neg_known [Neg α] (t : Table α) : t.neg.known = t.known ∧ t.neg.n = t.n := ⟨rfl, rfl⟩

theorem neg_bounds [Neg α] (t : Table α) (c : Nat) :
    t.neg.lo c = - t.hi c ∧ t.neg.hi c = - t.lo c := ⟨rfl, rfl⟩

example : ((Table.init (α := Int) 2).putValue 3 5).neg.neg.lo 3 = 5 := by decide

/-- the public value operations of `IncompleteCooperativeGame` (arguments as in the model) -/
inductive Op (α : Type) where
  | set (v : α) (c : Nat)                                       -- set_value
  | unset (c : Nat)                                             -- unset_value
  | reveal (v : α) (c : Nat)                                    -- reveal_value
  | unreveal (c : Nat)                                          -- unreveal_value
  | setValues (vals : List α) (cs : Option (List Nat))          -- set_values(values[, coalitions])
  | setKnownValues (vals : List α) (cs : Option (List Nat))     -- set_known_values: bulk reset, then bulk set
  | setBounds (upper : Bool) (vals : List α) (cs : Option (List Nat))   -- set_upper_bounds / set_lower_bounds
  | setLowerBound (v : α) (c : Nat)                             -- set_lower_bound (admitted on unknown rows only)
  | setUpperBound (v : α) (c : Nat)                             -- set_upper_bound (admitted on unknown rows only)

/-- a raising call leaves the object as it was -/
def keep (t : Table α) : Except Err (Table α) → Table α
  | .ok t' => t'
  | .error _ => t

def applyOp [Zero α] (t : Table α) : Op α → Table α
  | .set v c => keep t (t.setValue v c)
  | .unset c => keep t (t.unsetValue c)
  | .reveal v c => keep t (t.reveal v c)
  | .unreveal c => keep t (t.unreveal c)
  | .setValues vals cs => keep t (t.setValues vals cs)
  | .setKnownValues vals cs =>
    match t.setKnownValues vals cs with
    | .ok t' => t'
    | .error (_, t0) => t0
  | .setBounds up vals cs => keep t (t.setBounds up vals cs)
  | .setLowerBound v c => keep t (t.setLowerBound v c)
  | .setUpperBound v c => keep t (t.setUpperBound v c)

def run [Zero α] (t : Table α) (ops : List (Op α)) : Table α := ops.foldl applyOp t

/-! ### the abstract spec: the known map -/

abbrev Spec (α : Type) := Nat → Option α

def Spec.put (s : Spec α) (c : Nat) (o : Option α) : Spec α := fun d => if d = c then o else s d

def specInit [Zero α] : Spec α := fun c => if c = 0 then some 0 else none

/-- bulk set on the spec; `none` = the call raises: the `np.fromiter` iterator is shorter than the value
    count, an index is ≥ 2^n, or (without coalitions) the value vector has length ≠ 2^n and ≠ 1.
    A longer iterator is truncated; repeated coalitions: the last write wins. -/
def specSetValues (n : Nat) (s : Spec α) (vals : List α) : Option (List Nat) → Option (Spec α)
  | some ids =>
    if ids.length < vals.length then none
    else if (ids.take vals.length).all (· < 2 ^ n) then
      some (((ids.take vals.length).zip vals).foldl (fun s (p : Nat × α) => s.put p.1 (some p.2)) s)
    else none
  | none =>
    if vals.length = 2 ^ n then some (fun d => if h : d < vals.length then some vals[d] else s d)
    else match vals with
      | [v] => some (fun d => if d < 2 ^ n then some v else s d)
      | _ => none

def specStep [Zero α] (n : Nat) (s : Spec α) : Op α → Spec α
  | .set v c => if c < 2 ^ n then s.put c (some v) else s
  | .unset c => if c < 2 ^ n then s.put c none else s
  | .reveal v c => if c < 2 ^ n then (if (s c).isSome then s else s.put c (some v)) else s
  | .unreveal c => if c < 2 ^ n then (if (s c).isSome then s.put c none else s) else s
  | .setValues vals cs => (specSetValues n s vals cs).getD s
  | .setKnownValues vals cs => (specSetValues n specInit vals cs).getD specInit
  | .setBounds _ _ _ => s
  | .setLowerBound _ _ => s
  | .setUpperBound _ _ => s

def specRun [Zero α] (n : Nat) (s : Spec α) (ops : List (Op α)) : Spec α := ops.foldl (specStep n) s

/-- side condition of the histories: a scalar bound write targets a row that is unknown at that moment
    (or an id outside the game, where the call raises and nothing happens) -/
def Op.admissible (n : Nat) (s : Spec α) : Op α → Bool
  | .setLowerBound _ c => decide (2 ^ n ≤ c) || (s c).isNone
  | .setUpperBound _ c => decide (2 ^ n ≤ c) || (s c).isNone
  | _ => true

def admissibleHist [Zero α] (n : Nat) (s : Spec α) : List (Op α) → Bool
  | [] => true
  | op :: ops => op.admissible n s && admissibleHist n (specStep n s op) ops

/-- the simulation relation: on the rows of the game the known flag is "the spec has a value", and a known
    row holds that value in both bound cells -/
def Rel (t : Table α) (s : Spec α) : Prop :=
  ∀ c, c < 2 ^ t.n → (t.known c = (s c).isSome) ∧ ∀ v, s c = some v → t.lo c = v ∧ t.hi c = v

theorem rel_init [Zero α] (n : Nat) : Rel (Table.init (α := α) n) specInit := by
  intro c _
  by_cases h : c = 0 <;> simp [Table.init, specInit, h]

theorem Spec.put_same (s : Spec α) (c : Nat) (o : Option α) : s.put c o c = o := if_pos rfl
theorem Spec.put_other (s : Spec α) {c d : Nat} (h : d ≠ c) (o : Option α) : s.put c o d = s d := if_neg h

/-- `t'` is `t` except in row `c`: the shape of the four single-row writes -/
def RowOnly (c : Nat) (t t' : Table α) : Prop :=
  t'.n = t.n ∧ ∀ d, d ≠ c → t'.known d = t.known d ∧ t'.lo d = t.lo d ∧ t'.hi d = t.hi d

theorem rowOnly_putValue [Zero α] (t : Table α) (c : Nat) (v : α) : RowOnly c t (t.putValue c v) :=
  ⟨rfl, fun d hd => by simp [Table.putValue, hd]⟩
theorem rowOnly_clearRow [Zero α] (t : Table α) (c : Nat) : RowOnly c t (t.clearRow c) :=
  ⟨rfl, fun d hd => by simp [Table.clearRow, hd]⟩
theorem rowOnly_putLo (t : Table α) (c : Nat) (v : α) : RowOnly c t (t.putLo c v) :=
  ⟨rfl, fun d hd => by simp [Table.putLo, hd]⟩
theorem rowOnly_putHi (t : Table α) (c : Nat) (v : α) : RowOnly c t (t.putHi c v) :=
  ⟨rfl, fun d hd => by simp [Table.putHi, hd]⟩

/-- the rows a bulk call writes and with what: the listed coalitions paired with the values, the whole game row by
    row, or one value broadcast to every row -/
inductive Bulk (α : Type) where
  | listed (ps : List (Nat × α))
  | whole (vals : List α)
  | const (v : α)

/-- how `set_values`, `set_upper_bounds` and `set_lower_bounds` read their arguments on a game of `N` rows, `k` being
    what they then do: `np.fromiter(ids, int, len(values))` raises ValueError for a short iterator and drops a
    surplus, an id ≥ N is an IndexError; without coalitions the value vector has length N or is broadcast from
    length 1 -/
def bulk {β : Type} (N : Nat) (vals : List α) (k : Bulk α → β) : Option (List Nat) → Except Err β
  | some ids => do
    let idx ← fromiter ids vals.length
    if idx.all (· < N) then .ok (k (.listed (idx.zip vals))) else .error .index
  | none =>
    if vals.length = N then .ok (k (.whole vals))
    else match vals with
      | [v] => .ok (k (.const v))
      | _ => .error .value

def Bulk.Valid (N : Nat) : Bulk α → Prop
  | .listed ps => ∀ p ∈ ps, p.1 < N
  | .whole vals => vals.length = N
  | .const _ => True

def Bulk.Of (vals : List α) : Option (List Nat) → Bulk α → Prop
  | some ids, .listed ps => ps = (ids.take vals.length).zip vals
  | none, .whole vs => vs = vals
  | none, .const x => vals = [x]
  | _, _ => False

/-- the one case analysis of a bulk call, for every continuation at once -/
theorem bulk_cases (N : Nat) (vals : List α) (cs : Option (List Nat)) :
    (∃ b, b.Valid N ∧ b.Of vals cs ∧ ∀ {γ : Type} (k' : Bulk α → γ), bulk N vals k' cs = .ok (k' b)) ∨
    (∃ e, ∀ {γ : Type} (k' : Bulk α → γ), bulk N vals k' cs = .error e) := by
  cases cs with
  | some ids =>
    by_cases hl : ids.length < vals.length
    · exact Or.inr ⟨.value, fun k' => by simp only [bulk, Table.fromiter, hl, if_true]; rfl⟩
    · by_cases hall : (ids.take vals.length).all (· < N) = true
      · refine Or.inl ⟨.listed ((ids.take vals.length).zip vals), fun p hp => ?_, rfl, fun k' => ?_⟩
        · exact of_decide_eq_true (List.all_eq_true.mp hall p.1 (List.of_mem_zip hp).1)
        · simp only [bulk, Table.fromiter, hl, if_false, bind, Except.bind, hall, if_true]
      · exact Or.inr ⟨.index, fun k' => by
          simp only [bulk, Table.fromiter, hl, if_false, bind, Except.bind, hall]; rfl⟩
  | none =>
    by_cases hl : vals.length = N
    · exact Or.inl ⟨.whole vals, hl, rfl, fun k' => by simp only [bulk, hl, if_true]⟩
    · rcases vals with _ | ⟨v, _ | ⟨w, l⟩⟩
      · exact Or.inr ⟨.value, fun k' => by simp only [bulk, hl, if_false]⟩
      · exact Or.inl ⟨.const v, trivial, rfl, fun k' => by simp only [bulk, hl, if_false]⟩
      · exact Or.inr ⟨.value, fun k' => by simp only [bulk, hl, if_false]⟩

def Bulk.putValues [Zero α] (t : Table α) : Bulk α → Table α
  | .listed ps => ps.foldl (fun t (p : Nat × α) => t.putValue p.1 p.2) t
  | .whole vals =>
    { t with known := fun d => if d < t.rows then true else t.known d,
             lo := fun d => if h : d < vals.length then vals[d] else t.lo d,
             hi := fun d => if h : d < vals.length then vals[d] else t.hi d }
  | .const v =>
    { t with known := fun d => if d < t.rows then true else t.known d,
             lo := fun d => if d < t.rows then v else t.lo d,
             hi := fun d => if d < t.rows then v else t.hi d }

def Bulk.putSpec (N : Nat) (s : Spec α) : Bulk α → Spec α
  | .listed ps => ps.foldl (fun s (p : Nat × α) => s.put p.1 (some p.2)) s
  | .whole vals => fun d => if h : d < vals.length then some vals[d] else s d
  | .const v => fun d => if d < N then some v else s d

/-- a bound cell is copied only where the row was unknown when the call started (`t`, not the running `t'`) -/
def Bulk.putBounds (t : Table α) (upper : Bool) : Bulk α → Table α
  | .listed ps => ps.foldl (fun t' (p : Nat × α) =>
      if t.known p.1 then t' else if upper then t'.putHi p.1 p.2 else t'.putLo p.1 p.2) t
  | .whole vals => (List.range t.rows).foldl (fun t' c =>
      if t.known c then t' else
        match vals[c]? with
        | some v => if upper then t'.putHi c v else t'.putLo c v
        | none => t') t
  | .const v => (List.range t.rows).foldl (fun t' c =>
      if t.known c then t' else if upper then t'.putHi c v else t'.putLo c v) t

theorem setValues_eq [Zero α] (t : Table α) (vals : List α) (cs : Option (List Nat)) :
    t.setValues vals cs = bulk t.rows vals (Bulk.putValues t) cs := by
  cases cs <;> rfl

theorem setBounds_eq (t : Table α) (upper : Bool) (vals : List α) (cs : Option (List Nat)) :
    t.setBounds upper vals cs = bulk t.rows vals (Bulk.putBounds t upper) cs := by
  cases cs <;> rfl

theorem specSetValues_eq (n : Nat) (s : Spec α) (vals : List α) (cs : Option (List Nat)) :
    specSetValues n s vals cs = (bulk (2 ^ n) vals (Bulk.putSpec (2 ^ n) s) cs).toOption := by
  -- both sides test the same conditions in the same order; `show` lays them side by side
  cases cs with
  | some ids =>
    show (if ids.length < vals.length then none else _) =
      Except.toOption ((if ids.length < vals.length then Except.error Err.value else .ok (ids.take vals.length)) >>= _)
    by_cases hl : ids.length < vals.length
    · rw [if_pos hl, if_pos hl]; rfl
    · rw [if_neg hl, if_neg hl]
      show (if _ then _ else _) = Except.toOption (if _ then _ else _)
      split <;> rfl
  | none =>
    show (if vals.length = 2 ^ n then _ else _) = Except.toOption (if vals.length = 2 ^ n then _ else _)
    split
    · rfl
    · rcases vals with _ | ⟨v, _ | ⟨w, l⟩⟩ <;> rfl

theorem specSetValues_some {n : Nat} {s s' : Spec α} {vals : List α} {cs : Option (List Nat)}
    (h : specSetValues n s vals cs = some s') :
    ∃ b : Bulk α, b.Valid (2 ^ n) ∧ b.Of vals cs ∧ s' = b.putSpec (2 ^ n) s := by
  rw [specSetValues_eq] at h
  rcases bulk_cases (2 ^ n) vals cs with ⟨b, hv, ho, hb⟩ | ⟨e, he⟩
  · rw [hb] at h; exact ⟨b, hv, ho, (Option.some.inj (h : some _ = some s')).symm⟩
  · rw [he] at h; cases h

theorem rel_put {t t' : Table α} {s : Spec α} (h : Rel t s) {c : Nat} (hr : RowOnly c t t') {o : Option α}
    (hk : t'.known c = o.isSome) (hv : ∀ v, o = some v → t'.lo c = v ∧ t'.hi c = v) : Rel t' (s.put c o) := by
  intro d hd
  by_cases hdc : d = c
  · subst hdc
    simp only [Spec.put, if_true]
    exact ⟨hk, hv⟩
  · obtain ⟨a, b, e⟩ := hr.2 d hdc
    simp only [Spec.put, if_neg hdc]
    rw [a, b, e]
    exact h d (hr.1 ▸ hd)

theorem rel_putValue [Zero α] {t : Table α} {s : Spec α} (h : Rel t s) (c : Nat) (v : α) :
    Rel (t.putValue c v) (s.put c (some v)) :=
  rel_put h (rowOnly_putValue t c v) (by simp [Table.putValue]) (by simp [Table.putValue])

theorem rel_clearRow [Zero α] {t : Table α} {s : Spec α} (h : Rel t s) (c : Nat) :
    Rel (t.clearRow c) (s.put c none) :=
  rel_put h (rowOnly_clearRow t c) (by simp [Table.clearRow]) (fun _ hv => by cases hv)

theorem rel_foldl_putValue [Zero α] : ∀ (l : List (Nat × α)) {t : Table α} {s : Spec α}, Rel t s →
    Rel (l.foldl (fun t (p : Nat × α) => t.putValue p.1 p.2) t)
        (l.foldl (fun s (p : Nat × α) => s.put p.1 (some p.2)) s)
  | [], _, _, h => h
  | p :: l, _, _, h => rel_foldl_putValue l (rel_putValue h p.1 p.2)

theorem rel_putBulk [Zero α] {t : Table α} {s : Spec α} (h : Rel t s) {b : Bulk α} (hv : b.Valid (2 ^ t.n)) :
    Rel (b.putValues t) (b.putSpec (2 ^ t.n) s) := by
  cases b with
  | listed ps => exact rel_foldl_putValue ps h
  | whole vals =>
    intro d hd
    have hd' : d < vals.length := hv ▸ hd
    simp only [Bulk.putValues, Bulk.putSpec, if_pos (show d < t.rows from hd), dif_pos hd', Option.isSome_some,
      Option.some.injEq, true_and]
    exact fun v hv => ⟨hv, hv⟩
  | const v =>
    intro d hd
    have hd : d < 2 ^ t.n := hd
    simp only [Bulk.putValues, Bulk.putSpec, if_pos (show d < t.rows from hd), if_pos hd, Option.isSome_some,
      Option.some.injEq, true_and]
    exact fun v hv => ⟨hv, hv⟩

/-- `set_values` refines its spec: the table after the call (kept when the call raises) is related to the spec after
    `specSetValues` (kept when that gives `none`) -/
theorem setValues_spec [Zero α] {t : Table α} {s : Spec α} (h : Rel t s) (vals : List α) (cs : Option (List Nat)) :
    Rel (keep t (t.setValues vals cs)) ((specSetValues t.n s vals cs).getD s) := by
  rw [specSetValues_eq, setValues_eq]
  rcases bulk_cases (2 ^ t.n) vals cs with ⟨b, hv, _, hb⟩ | ⟨e, he⟩
  · rw [hb, show bulk t.rows vals _ cs = _ from hb _]; exact rel_putBulk h hv
  · rw [he, show bulk t.rows vals _ cs = _ from he _]; exact h

/-! ### frames: what an operation cannot touch -/

/-- `t'` has the player count of `t` and the same rows outside the game (ids ≥ 2^n) -/
def Outside (t t' : Table α) : Prop :=
  t'.n = t.n ∧ ∀ c, 2 ^ t.n ≤ c → t'.known c = t.known c ∧ t'.lo c = t.lo c ∧ t'.hi c = t.hi c

/-- what a bound write may change: not `n`, not a flag, not a cell of a known row, no row outside the game -/
def BoundsFrame (t t' : Table α) : Prop :=
  t'.n = t.n ∧ t'.known = t.known ∧
    ∀ c, (t.known c = true ∨ 2 ^ t.n ≤ c) → t'.lo c = t.lo c ∧ t'.hi c = t.hi c

theorem Outside.refl (t : Table α) : Outside t t := ⟨rfl, fun _ _ => ⟨rfl, rfl, rfl⟩⟩
theorem BoundsFrame.refl (t : Table α) : BoundsFrame t t := ⟨rfl, rfl, fun _ _ => ⟨rfl, rfl⟩⟩

theorem BoundsFrame.outside {t t' : Table α} (h : BoundsFrame t t') : Outside t t' :=
  ⟨h.1, fun c hc => ⟨by rw [h.2.1], h.2.2 c (Or.inr hc)⟩⟩

theorem foldl_inv {β σ : Type} (P : σ → Prop) (f : σ → β → σ) :
    ∀ (l : List β), (∀ s b, b ∈ l → P s → P (f s b)) → ∀ s0, P s0 → P (l.foldl f s0)
  | [], _, _, h0 => h0
  | b :: l, h, s0, h0 =>
    foldl_inv P f l (fun s b' hb => h s b' (List.mem_cons_of_mem _ hb)) (f s0 b)
      (h s0 b List.mem_cons_self h0)

theorem Outside.row {t t' t'' : Table α} (h : Outside t t') {c : Nat} (hc : c < 2 ^ t.n)
    (hr : RowOnly c t' t'') : Outside t t'' :=
  ⟨hr.1.trans h.1, fun d hd => by
    obtain ⟨a, b, e⟩ := hr.2 d (Nat.ne_of_gt (Nat.lt_of_lt_of_le hc hd))
    rw [a, b, e]; exact h.2 d hd⟩

theorem boundsFrame_write {t t' : Table α} (h : BoundsFrame t t') (upper : Bool) {c : Nat}
    (hk : t.known c = false) (hc : c < 2 ^ t.n) (v : α) :
    BoundsFrame t (if upper then t'.putHi c v else t'.putLo c v) := by
  have key : ∀ t'', RowOnly c t' t'' → t''.known = t'.known → BoundsFrame t t'' := fun t'' hr hkn =>
    ⟨hr.1.trans h.1, hkn.trans h.2.1, fun d hd => by
      have hne : d ≠ c := by
        rintro rfl
        rcases hd with hd | hd
        · rw [hk] at hd; cases hd
        · exact absurd hc (Nat.not_lt.2 hd)
      obtain ⟨_, b, e⟩ := hr.2 d hne
      rw [b, e]; exact h.2.2 d hd⟩
  cases upper
  · exact key _ (rowOnly_putLo t' c v) rfl
  · exact key _ (rowOnly_putHi t' c v) rfl

theorem boundsFrame_step {t t' : Table α} (h : BoundsFrame t t') (upper : Bool) {c : Nat} (hc : c < 2 ^ t.n) (v : α) :
    BoundsFrame t (if t.known c = true then t' else if upper then t'.putHi c v else t'.putLo c v) := by
  cases hk : t.known c
  · exact boundsFrame_write h upper hk hc v
  · exact h

theorem setBounds_frame {t t' : Table α} {upper : Bool} {vals : List α} {cs : Option (List Nat)}
    (h : t.setBounds upper vals cs = .ok t') : BoundsFrame t t' := by
  rw [setBounds_eq] at h
  rcases bulk_cases t.rows vals cs with ⟨b, hv, _, hb⟩ | ⟨e, he⟩
  case inr => rw [he] at h; cases h
  rw [hb] at h
  cases h
  cases b with
  | listed ps =>
    exact foldl_inv (BoundsFrame t) _ _ (fun _ p hp ht'' => boundsFrame_step ht'' upper (hv p hp) p.2) t (.refl t)
  | whole vals =>
    refine foldl_inv (BoundsFrame t) _ _ (fun t'' c hc ht'' => ?_) t (.refl t)
    cases hvc : vals[c]? with
    | none => simpa [hvc] using ht''
    | some v => simpa [hvc] using boundsFrame_step ht'' upper (List.mem_range.mp hc) v
  | const v =>
    exact foldl_inv (BoundsFrame t) _ _
      (fun _ c hc ht'' => boundsFrame_step ht'' upper (List.mem_range.mp hc) v) t (.refl t)

theorem rel_of_boundsFrame {t t' : Table α} {s : Spec α} (h : Rel t s) (hf : BoundsFrame t t') : Rel t' s := by
  obtain ⟨h1, h2, h3⟩ := hf
  intro c hc
  rw [h1] at hc
  obtain ⟨hk, hv⟩ := h c hc
  refine ⟨by rw [h2]; exact hk, fun v hs => ?_⟩
  have hkc : t.known c = true := by rw [hk, hs]; rfl
  obtain ⟨hl, hh⟩ := h3 c (Or.inl hkc)
  rw [hl, hh]; exact hv v hs

theorem setValues_outside [Zero α] (t : Table α) (vals : List α) (cs : Option (List Nat)) :
    Outside t (keep t (t.setValues vals cs)) := by
  rw [setValues_eq]
  rcases bulk_cases t.rows vals cs with ⟨b, hv, _, hb⟩ | ⟨e, he⟩
  case inr => rw [he]; exact .refl t
  rw [hb]
  cases b with
  | listed ps =>
    exact foldl_inv (Outside t) _ ps
      (fun t'' p hp ht'' => ht''.row (hv p hp) (rowOnly_putValue t'' p.1 p.2)) t (.refl t)
  | whole vals =>
    refine ⟨rfl, fun d hd => ?_⟩
    have h1 : ¬ d < t.rows := Nat.not_lt.2 hd
    have h2 : ¬ d < vals.length := hv ▸ h1
    exact ⟨if_neg h1, dif_neg h2, dif_neg h2⟩
  | const v =>
    refine ⟨rfl, fun d hd => ?_⟩
    have h1 : ¬ d < t.rows := Nat.not_lt.2 hd
    exact ⟨if_neg h1, if_neg h1, if_neg h1⟩

theorem keep_ite (t : Table α) (p : Prop) [Decidable p] (a b : Except Err (Table α)) :
    keep t (if p then a else b) = if p then keep t a else keep t b := by
  split <;> rfl

theorem ite_ind {σ : Type} {P : σ → Prop} {p : Prop} [Decidable p] {a b : σ} (ha : p → P a) (hb : ¬ p → P b) :
    P (if p then a else b) := by
  split
  · exact ha ‹_›
  · exact hb ‹_›

theorem keep_cases (t : Table α) (r : Except Err (Table α)) :
    (∃ t', r = .ok t' ∧ keep t r = t') ∨ (∃ e, r = .error e ∧ keep t r = t) := by
  cases r with
  | ok t' => exact Or.inl ⟨t', rfl, rfl⟩
  | error e => exact Or.inr ⟨e, rfl, rfl⟩

/-! The scalar operations are `keep t (if guard then .ok (one row written) else .error _)`: written out, they
have the `if`-shape of `specStep`. -/

theorem applyOp_set [Zero α] (t : Table α) (v : α) (c : Nat) :
    applyOp t (.set v c) = if c < 2 ^ t.n then t.putValue c v else t := by
  exact keep_ite t _ _ _
theorem applyOp_unset [Zero α] (t : Table α) (c : Nat) :
    applyOp t (.unset c) = if c < 2 ^ t.n then t.clearRow c else t := by
  exact keep_ite t _ _ _
theorem applyOp_reveal [Zero α] (t : Table α) (v : α) (c : Nat) :
    applyOp t (.reveal v c) = if c < 2 ^ t.n then (if t.known c then t else t.putValue c v) else t := by
  show keep t (if c < t.rows then _ else _) = _
  rw [keep_ite, keep_ite]; rfl
theorem applyOp_unreveal [Zero α] (t : Table α) (c : Nat) :
    applyOp t (.unreveal c) = if c < 2 ^ t.n then (if t.known c then t.clearRow c else t) else t := by
  show keep t (if c < t.rows then _ else _) = _
  rw [keep_ite, keep_ite]; rfl
theorem applyOp_setLowerBound [Zero α] (t : Table α) (v : α) (c : Nat) :
    applyOp t (.setLowerBound v c) = if c < 2 ^ t.n then t.putLo c v else t := by
  exact keep_ite t _ _ _
theorem applyOp_setUpperBound [Zero α] (t : Table α) (v : α) (c : Nat) :
    applyOp t (.setUpperBound v c) = if c < 2 ^ t.n then t.putHi c v else t := by
  exact keep_ite t _ _ _

/-- `set_known_values` is `set_values` on a new game, and a raising call leaves the new game behind -/
theorem applyOp_setKnownValues [Zero α] (t : Table α) (vals : List α) (cs : Option (List Nat)) :
    applyOp t (.setKnownValues vals cs) = keep (Table.init t.n) ((Table.init t.n).setValues vals cs) := by
  simp only [applyOp, Table.setKnownValues]
  cases Table.setValues (Table.init (α := α) t.n) vals cs <;> rfl

/-- the table whose outside rows an operation keeps: the bulk reset starts from a new game -/
def Op.base [Zero α] (t : Table α) : Op α → Table α
  | .setKnownValues _ _ => Table.init t.n
  | _ => t

theorem applyOp_frame [Zero α] (t : Table α) (op : Op α) : Outside (op.base t) (applyOp t op) := by
  have r := Outside.refl t
  cases op with
  | set v c => rw [applyOp_set]; exact ite_ind (fun hc => r.row hc (rowOnly_putValue t c v)) (fun _ => r)
  | unset c => rw [applyOp_unset]; exact ite_ind (fun hc => r.row hc (rowOnly_clearRow t c)) (fun _ => r)
  | reveal v c =>
    rw [applyOp_reveal]
    exact ite_ind (fun hc => ite_ind (fun _ => r) (fun _ => r.row hc (rowOnly_putValue t c v))) (fun _ => r)
  | unreveal c =>
    rw [applyOp_unreveal]
    exact ite_ind (fun hc => ite_ind (fun _ => r.row hc (rowOnly_clearRow t c)) (fun _ => r)) (fun _ => r)
  | setLowerBound v c =>
    rw [applyOp_setLowerBound]; exact ite_ind (fun hc => r.row hc (rowOnly_putLo t c v)) (fun _ => r)
  | setUpperBound v c =>
    rw [applyOp_setUpperBound]; exact ite_ind (fun hc => r.row hc (rowOnly_putHi t c v)) (fun _ => r)
  | setValues vals cs => exact setValues_outside t vals cs
  | setKnownValues vals cs => rw [applyOp_setKnownValues]; exact setValues_outside _ vals cs
  | setBounds up vals cs =>
    show Outside t (keep t _)
    rcases keep_cases t (t.setBounds up vals cs) with ⟨t', ht', hk⟩ | ⟨e, _, hk⟩
    · rw [hk]; exact (setBounds_frame ht').outside
    · rw [hk]; exact r

theorem applyOp_n [Zero α] (t : Table α) (op : Op α) : (applyOp t op).n = t.n := by
  have h := (applyOp_frame t op).1
  cases op <;> exact h

theorem unknown_of_admissible {t : Table α} {s : Spec α} (h : Rel t s) {c : Nat} (hc : c < 2 ^ t.n)
    (ha : (decide (2 ^ t.n ≤ c) || (s c).isNone) = true) : t.known c = false := by
  rw [Bool.or_eq_true, decide_eq_true_eq] at ha
  rw [(h c hc).1]
  rcases ha with ha | ha
  · exact absurd hc (Nat.not_lt.2 ha)
  · cases hsc : s c with
    | none => rfl
    | some v => rw [hsc] at ha; cases ha

theorem rel_ite {p : Prop} [Decidable p] {a a' : Table α} {b b' : Spec α} (hp : p → Rel a b) (hn : ¬ p → Rel a' b') :
    Rel (if p then a else a') (if p then b else b') := by
  split
  · exact hp ‹_›
  · exact hn ‹_›

/-- every admissible operation — returning or raising — takes related
    (table, spec) to related (table, spec) and keeps the player count. -/
theorem refines [Zero α] {t : Table α} {s : Spec α} (h : Rel t s) (op : Op α)
    (hadm : op.admissible t.n s = true) :
    (applyOp t op).n = t.n ∧ Rel (applyOp t op) (specStep t.n s op) := by
  refine ⟨applyOp_n t op, ?_⟩
  cases op with
  | set v c => rw [applyOp_set]; exact rel_ite (fun _ => rel_putValue h c v) (fun _ => h)
  | unset c => rw [applyOp_unset]; exact rel_ite (fun _ => rel_clearRow h c) (fun _ => h)
  | reveal v c =>
    rw [applyOp_reveal]
    refine rel_ite (fun hc => ?_) (fun _ => h)
    rw [(h c hc).1]
    exact rel_ite (fun _ => h) (fun _ => rel_putValue h c v)
  | unreveal c =>
    rw [applyOp_unreveal]
    refine rel_ite (fun hc => ?_) (fun _ => h)
    rw [(h c hc).1]
    exact rel_ite (fun _ => rel_clearRow h c) (fun _ => h)
  | setValues vals cs => exact setValues_spec h vals cs
  | setKnownValues vals cs => rw [applyOp_setKnownValues]; exact setValues_spec (rel_init t.n) vals cs
  | setBounds up vals cs =>
    show Rel (keep t _) s
    rcases keep_cases t (t.setBounds up vals cs) with ⟨t', ht', hk⟩ | ⟨e, _, hk⟩
    · rw [hk]; exact rel_of_boundsFrame h (setBounds_frame ht')
    · rw [hk]; exact h
  | setLowerBound v c =>
    rw [applyOp_setLowerBound]
    exact ite_ind (P := (Rel · s))
      (fun hc => rel_of_boundsFrame h (boundsFrame_write (.refl t) false (unknown_of_admissible h hc hadm) hc v)) (fun _ => h)
  | setUpperBound v c =>
    rw [applyOp_setUpperBound]
    exact ite_ind (P := (Rel · s))
      (fun hc => rel_of_boundsFrame h (boundsFrame_write (.refl t) true (unknown_of_admissible h hc hadm) hc v)) (fun _ => h)

theorem run_nil [Zero α] (t : Table α) : run t [] = t := rfl
theorem run_cons [Zero α] (t : Table α) (op : Op α) (ops : List (Op α)) :
    run t (op :: ops) = run (applyOp t op) ops := rfl
theorem specRun_cons [Zero α] (n : Nat) (s : Spec α) (op : Op α) (ops : List (Op α)) :
    specRun n s (op :: ops) = specRun n (specStep n s op) ops := rfl

theorem refines_run [Zero α] : ∀ (ops : List (Op α)) {t : Table α} {s : Spec α}, Rel t s →
    admissibleHist t.n s ops = true →
    (run t ops).n = t.n ∧ Rel (run t ops) (specRun t.n s ops)
  | [], _, _, h, _ => ⟨rfl, h⟩
  | op :: ops, t, s, h, hadm => by
    simp only [admissibleHist, Bool.and_eq_true] at hadm
    obtain ⟨hn, hr⟩ := refines h op hadm.1
    have ih := refines_run ops hr (by rw [hn]; exact hadm.2)
    rw [hn] at ih
    exact ih

def game [Zero α] (n : Nat) (ops : List (Op α)) : Table α := run (Table.init n) ops

def knownSpec [Zero α] (n : Nat) (ops : List (Op α)) : Spec α := specRun n specInit ops

theorem game_rel [Zero α] (n : Nat) (ops : List (Op α)) (hadm : admissibleHist n (specInit (α := α)) ops = true) :
    (game n ops).n = n ∧ Rel (game n ops) (knownSpec n ops) :=
  refines_run ops (rel_init n) hadm

/-- after any history of public value operations on a new game a coalition is known
    iff the history (set / revealed and not since unset / bulk-reset: `knownSpec`) says so. -/
theorem known_iff_history [Zero α] (n : Nat) (ops : List (Op α))
    (hadm : admissibleHist n (specInit (α := α)) ops = true) (c : Nat) (hc : c < 2 ^ n) :
    (game n ops).known c = true ↔ (knownSpec n ops c).isSome = true := by
  obtain ⟨hn, hr⟩ := game_rel n ops hadm
  rw [(hr c (by rw [hn]; exact hc)).1]

/-- a known coalition has lower = upper = its value (the value the history gave it last) -/
theorem known_has_value [Zero α] (n : Nat) (ops : List (Op α))
    (hadm : admissibleHist n (specInit (α := α)) ops = true) (c : Nat) (hc : c < 2 ^ n)
    (hk : (game n ops).known c = true) :
    ∃ v, knownSpec n ops c = some v ∧ (game n ops).lo c = v ∧ (game n ops).hi c = v := by
  obtain ⟨hn, hr⟩ := game_rel n ops hadm
  obtain ⟨h1, h2⟩ := hr c (by rw [hn]; exact hc)
  rw [h1] at hk
  obtain ⟨v, hv⟩ := Option.isSome_iff_exists.mp hk
  exact ⟨v, hv, h2 v hv⟩

/-- bulk bound setters never alter a known coalition: all three cells of every known row (and every flag,
    and `n`) are what they were — for every table, not only reachable ones. -/
theorem bounds_setters_keep_known (t t' : Table α) (upper : Bool) (vals : List α) (cs : Option (List Nat))
    (h : t.setBounds upper vals cs = .ok t') :
    t'.n = t.n ∧ t'.known = t.known ∧ ∀ c, t.known c = true → t'.lo c = t.lo c ∧ t'.hi c = t.hi c :=
  let hf := setBounds_frame h
  ⟨hf.1, hf.2.1, fun c hc => hf.2.2 c (Or.inl hc)⟩

theorem run_n [Zero α] : ∀ (ops : List (Op α)) (t : Table α), (run t ops).n = t.n
  | [], _ => rfl
  | op :: ops, t => by rw [run_cons, run_n ops, applyOp_n]

/-- rows outside the game are blank: unknown, both cells 0 (what `_init_values` leaves, functionally) -/
def Blank [Zero α] (t : Table α) : Prop :=
  ∀ c, 2 ^ t.n ≤ c → t.known c = false ∧ t.lo c = 0 ∧ t.hi c = 0

theorem blank_init [Zero α] (n : Nat) : Blank (Table.init (α := α) n) := by
  intro c hc
  have : c ≠ 0 := Nat.ne_of_gt (Nat.lt_of_lt_of_le (Nat.two_pow_pos n) hc)
  simp [Table.init, this]

theorem blank_of_outside [Zero α] {t t' : Table α} (hb : Blank t) (ho : Outside t t') : Blank t' := by
  intro c hc
  rw [ho.1] at hc
  obtain ⟨h1, h2, h3⟩ := ho.2 c hc
  obtain ⟨b1, b2, b3⟩ := hb c hc
  exact ⟨by rw [h1, b1], by rw [h2, b2], by rw [h3, b3]⟩

theorem applyOp_blank [Zero α] {t : Table α} (hb : Blank t) (op : Op α) : Blank (applyOp t op) := by
  refine blank_of_outside ?_ (applyOp_frame t op)
  cases op with
  | setKnownValues => exact blank_init t.n
  | _ => exact hb

theorem run_blank [Zero α] : ∀ (ops : List (Op α)) {t : Table α}, Blank t → Blank (run t ops)
  | [], _, hb => hb
  | op :: ops, _, hb => run_blank ops (applyOp_blank hb op)

theorem game_outside [Zero α] (n : Nat) (ops : List (Op α)) :
    (game n ops).n = n ∧ ∀ c, 2 ^ n ≤ c →
      (game n ops).known c = false ∧ (game n ops).lo c = 0 ∧ (game n ops).hi c = 0 := by
  have hn : (game (α := α) n ops).n = n := run_n ops _
  exact ⟨hn, fun c hc => run_blank ops (blank_init n) c (hn.symm ▸ hc)⟩

/-! ### getters: the value of an unknown coalition is never returned as a value -/

theorem spec_of_known {t : Table α} {s : Spec α} (h : Rel t s) {c : Nat} (hc : c < 2 ^ t.n)
    (hk : t.known c = true) : s c = some (t.lo c) ∧ s c = some (t.hi c) := by
  obtain ⟨h1, h2⟩ := h c hc
  rw [h1] at hk
  obtain ⟨v, hv⟩ := Option.isSome_iff_exists.mp hk
  obtain ⟨hl, hh⟩ := h2 v hv
  rw [hl, hh]; exact ⟨hv, hv⟩

theorem spec_of_unknown {t : Table α} {s : Spec α} (h : Rel t s) {c : Nat} (hc : c < 2 ^ t.n)
    (hk : t.known c = false) : s c = none := by
  have := (h c hc).1
  rw [hk] at this
  cases hs : s c with
  | none => rfl
  | some v => rw [hs] at this; cases this

/-- `get_value`: the spec's value for a known coalition, `ValueError` for an unknown one, `IndexError`
    outside the game — never a number for an unknown coalition -/
theorem getValue_spec {t : Table α} {s : Spec α} (h : Rel t s) (c : Nat) :
    t.getValue c =
      if c < 2 ^ t.n then (match s c with | some v => .ok v | none => .error .value) else .error .index := by
  have hrows : t.rows = 2 ^ t.n := rfl
  by_cases hc : c < 2 ^ t.n
  · cases hk : t.known c
    · simp [Table.getValue, hrows, hc, hk, spec_of_unknown h hc hk]
    · simp [Table.getValue, hrows, hc, hk, (spec_of_known h hc hk).1]
  · simp [Table.getValue, hrows, hc]

/-- `get_known_value`: exactly the spec (`None` for an unknown coalition) -/
theorem getKnownValue_spec {t : Table α} {s : Spec α} (h : Rel t s) (c : Nat) :
    t.getKnownValue c = if c < 2 ^ t.n then .ok (s c) else .error .index := by
  have hrows : t.rows = 2 ^ t.n := rfl
  by_cases hc : c < 2 ^ t.n
  · cases hk : t.known c
    · simp [Table.getKnownValue, hrows, hc, hk, spec_of_unknown h hc hk]
    · simp [Table.getKnownValue, hrows, hc, hk, (spec_of_known h hc hk).1]
  · simp [Table.getKnownValue, hrows, hc]

/-- `get_known_values()`: the spec, row by row (NaN = `none` at unknown coalitions) -/
theorem getKnownValues_spec {t : Table α} {s : Spec α} (h : Rel t s) :
    t.getKnownValues = (List.range (2 ^ t.n)).map s := by
  simp only [Table.getKnownValues, Table.rows]
  apply List.map_congr_left
  intro c hc
  have hc' : c < 2 ^ t.n := List.mem_range.mp hc
  cases hk : t.known c
  · simp [spec_of_unknown h hc' hk]
  · simp [(spec_of_known h hc' hk).2]

theorem all_known_iff {t : Table α} {s : Spec α} (h : Rel t s) (l : List Nat) (hl : ∀ c ∈ l, c < 2 ^ t.n) :
    l.all t.known = true ↔ ∀ c ∈ l, (s c).isSome = true := by
  rw [List.all_eq_true]
  exact forall₂_congr fun c hc => by rw [(h c (hl c hc)).1]

/-- the common tail of `get_values` with and without coalitions: the upper column of the requested rows, or
    `ValueError` when one of them is unknown -/
def readAll (t : Table α) (l : List Nat) : Except Err (List α) :=
  if l.all t.known then .ok (l.map t.hi) else .error .value

theorem getValues_none_eq (t : Table α) : t.getValues none = readAll t (List.range t.rows) := rfl

theorem getValues_some_eq {t : Table α} {ids : List Nat} (hl : ∀ c ∈ ids, c < 2 ^ t.n) :
    t.getValues (some ids) = readAll t ids :=
  if_pos (List.all_eq_true.mpr fun c hc => decide_eq_true (hl c hc))

theorem readAll_ok_iff {t : Table α} {s : Spec α} (h : Rel t s) (l : List Nat)
    (hl : ∀ c ∈ l, c < 2 ^ t.n) (vs : List α) : readAll t l = .ok vs ↔ l.map s = vs.map some := by
  unfold readAll
  by_cases hall : l.all t.known = true
  · rw [if_pos hall]
    have hmap : l.map s = (l.map t.hi).map some := by
      rw [List.map_map]
      exact List.map_congr_left fun c hc =>
        (spec_of_known h (hl c hc) (List.all_eq_true.mp hall c hc)).2
    rw [hmap, List.map_inj_right fun _ _ => Option.some.inj]
    exact ⟨Except.ok.inj, fun h => congrArg Except.ok h⟩
  · rw [if_neg hall]
    refine ⟨fun heq => (nomatch heq), fun heq => absurd ((all_known_iff h l hl).2 fun c hc => ?_) hall⟩
    obtain ⟨v, _, hv⟩ := List.mem_map.mp (heq ▸ List.mem_map_of_mem hc : s c ∈ vs.map some)
    rw [← hv]; rfl

theorem readAll_unknown {t : Table α} {s : Spec α} (h : Rel t s) (l : List Nat)
    (hl : ∀ c ∈ l, c < 2 ^ t.n) {c : Nat} (hc : c ∈ l) (hs : s c = none) : readAll t l = .error .value :=
  if_neg fun hall => by
    have := (all_known_iff h l hl).1 hall c hc
    rw [hs] at this; cases this

theorem getValues_some_spec {t : Table α} {s : Spec α} (h : Rel t s) (ids : List Nat)
    (hl : ∀ c ∈ ids, c < 2 ^ t.n) (vs : List α) :
    t.getValues (some ids) = .ok vs ↔ ids.map s = vs.map some := by
  rw [getValues_some_eq hl]
  exact readAll_ok_iff h ids hl vs

theorem getValues_some_unknown {t : Table α} {s : Spec α} (h : Rel t s) (ids : List Nat)
    (hl : ∀ c ∈ ids, c < 2 ^ t.n) (c : Nat) (hc : c ∈ ids) (hs : s c = none) :
    t.getValues (some ids) = .error .value := by
  rw [getValues_some_eq hl]
  exact readAll_unknown h ids hl hc hs

theorem getValues_none_spec {t : Table α} {s : Spec α} (h : Rel t s) (vs : List α) :
    t.getValues none = .ok vs ↔ (List.range (2 ^ t.n)).map s = vs.map some :=
  readAll_ok_iff h (List.range t.rows) (fun _ hc => List.mem_range.mp hc) vs

theorem getValues_none_unknown {t : Table α} {s : Spec α} (h : Rel t s) (c : Nat) (hc : c < 2 ^ t.n)
    (hs : s c = none) : t.getValues none = .error .value :=
  readAll_unknown h (List.range t.rows) (fun _ hc => List.mem_range.mp hc) (List.mem_range.mpr hc) hs

/-- the negated game knows the same coalitions, with negated values -/
theorem rel_neg [Neg α] {t : Table α} {s : Spec α} (h : Rel t s) :
    Rel t.neg (fun c => (s c).map Neg.neg) := by
  intro c hc
  obtain ⟨h1, h2⟩ := h c hc
  refine ⟨by simp only [Option.isSome_map]; exact h1, fun v hv => ?_⟩
  obtain ⟨w, hw, rfl⟩ := Option.map_eq_some_iff.mp hv
  obtain ⟨hl, hh⟩ := h2 w hw
  exact ⟨by show - t.hi c = - w; rw [hh], by show - t.lo c = - w; rw [hl]⟩

/-! ### the spec in the property's words -/

section words
variable [Zero α] (n : Nat) (s : Spec α)

theorem specStep_set (v : α) (c : Nat) :
    specStep n s (.set v c) = if c < 2 ^ n then s.put c (some v) else s := rfl
theorem specStep_unset (c : Nat) : specStep n s (.unset c) = if c < 2 ^ n then s.put c none else s := rfl
theorem specStep_reveal (v : α) (c : Nat) :
    specStep n s (.reveal v c) = if c < 2 ^ n then (if (s c).isSome then s else s.put c (some v)) else s := rfl
theorem specStep_unreveal (c : Nat) :
    specStep n s (.unreveal c) = if c < 2 ^ n then (if (s c).isSome then s.put c none else s) else s := rfl

theorem specStep_set_same {c : Nat} (hc : c < 2 ^ n) (v : α) : specStep n s (.set v c) c = some v := by
  rw [specStep_set, if_pos hc, Spec.put_same]
theorem specStep_set_other {c d : Nat} (h : d ≠ c) (v : α) : specStep n s (.set v c) d = s d := by
  rw [specStep_set]
  split
  · exact Spec.put_other s h _
  · rfl
theorem specStep_unset_same {c : Nat} (hc : c < 2 ^ n) : specStep n s (.unset c) c = none := by
  rw [specStep_unset, if_pos hc, Spec.put_same]
theorem specStep_unset_other {c d : Nat} (h : d ≠ c) : specStep n s (.unset c) d = s d := by
  rw [specStep_unset]
  split
  · exact Spec.put_other s h _
  · rfl
theorem specStep_reveal_unknown {c : Nat} (hc : c < 2 ^ n) (hs : s c = none) (v : α) :
    specStep n s (.reveal v c) c = some v := by
  rw [specStep_reveal, if_pos hc, hs, Option.isSome_none, if_neg Bool.false_ne_true, Spec.put_same]
theorem specStep_reveal_known {c : Nat} (hs : (s c).isSome = true) (v : α) : specStep n s (.reveal v c) = s := by
  rw [specStep_reveal, if_pos hs, ite_self]
theorem specStep_unreveal_known {c : Nat} (hc : c < 2 ^ n) (hs : (s c).isSome = true) :
    specStep n s (.unreveal c) c = none := by
  rw [specStep_unreveal, if_pos hc, if_pos hs, Spec.put_same]
theorem specStep_unreveal_unknown {c : Nat} (hs : s c = none) : specStep n s (.unreveal c) = s := by
  rw [specStep_unreveal, hs, Option.isSome_none, if_neg Bool.false_ne_true, ite_self]
theorem specStep_bounds (up : Bool) (vals : List α) (cs : Option (List Nat)) :
    specStep n s (.setBounds up vals cs) = s := rfl
theorem specStep_scalar_bounds (v : α) (c : Nat) :
    specStep n s (.setLowerBound v c) = s ∧ specStep n s (.setUpperBound v c) = s := ⟨rfl, rfl⟩
theorem specStep_reset (vals : List α) (cs : Option (List Nat)) :
    specStep n s (.setKnownValues vals cs) = specStep n specInit (.setValues vals cs) := rfl
theorem specStep_setAll {vals : List α} (hlen : vals.length = 2 ^ n) {c : Nat} (hc : c < 2 ^ n) :
    specStep n s (.setValues vals none) c = vals[c]? := by
  simp [specStep, specSetValues, hlen, hc]
theorem specStep_setListed_other (vals : List α) (ids : List Nat) {d : Nat} (hd : d ∉ ids) :
    specStep n s (.setValues vals (some ids)) d = s d := by
  simp only [specStep, specSetValues]
  split
  · rfl
  · split
    · simp only [Option.getD_some]
      have hd' : ∀ p ∈ (ids.take vals.length).zip vals, d ≠ p.1 := by
        intro p hp heq
        exact hd (heq ▸ List.mem_of_mem_take (List.of_mem_zip hp).1)
      exact foldl_inv (fun s' : Spec α => s' d = s d) _ _
        (fun s' p hp hs' => by simp only [Spec.put, if_neg (hd' p hp)]; exact hs') s rfl
    · rfl

end words

deriving instance DecidableEq for Except

/-- set, reveal, a raising reveal, a bulk bound write, a scalar bound write on an unknown row, unset,
    a listed bulk set with a repeated coalition and a surplus id, a raising bulk set (short iterator),
    an out-of-range set -/
def demo : List (Op Int) :=
  [.set 5 3, .reveal 2 1, .reveal 9 1, .setBounds true [7, 7, 7, 7] none, .setLowerBound 1 2, .unset 3,
   .setValues [4, 6] (some [2, 2, 1]), .setValues [1, 1] (some [3]), .set 8 4]

example : admissibleHist 2 specInit demo = true := by decide
example : (List.range 4).map (knownSpec 2 demo) = [some 0, some 2, some 6, none] := by decide
example : (game 2 demo).getKnownValues = [some 0, some 2, some 6, none] := by decide
example : (game 2 demo).getLowerBounds = [0, 2, 6, 0] ∧ (game 2 demo).getUpperBounds = [0, 2, 6, 0] := by decide
example : (game 2 demo).getValue 3 = .error .value ∧ (game 2 demo).getValue 2 = .ok 6 := by decide
/-- the bulk reset forgets everything, also when it raises (index 9 is outside the game) -/
example : (game 2 (demo ++ [.setKnownValues [1] (some [9])])).getKnownValues = [some 0, none, none, none] := by
  decide
example : (game 2 (demo ++ [.setKnownValues [1, 3] (some [3, 1])])).getKnownValues
    = [some 0, some 3, none, some 1] := by decide
/-- the side condition matters: a scalar bound write on a known row breaks `lower = upper` -/
example : (game 2 [.set 5 3, .setLowerBound 1 3]).getLowerBounds = [0, 0, 0, 1] ∧
    (game 2 [.set 5 3, .setLowerBound 1 3]).getUpperBounds = [0, 0, 0, 5] ∧
    admissibleHist 2 specInit ([.set 5 3, .setLowerBound 1 3] : List (Op Int)) = false := by decide

end ICG.C17

/-
  ICG.Props.FloatErrorNormalize — the "(to float rounding)" part of property C15.

  ICG.Props.C15 proves, in exact arithmetic, that `_normalize_icg` leaves the closed form `normVal` (singletons 0,
  values in [0,1], grand coalition 1, superadditive) and that `denormalize_game` restores the game.  The code
  runs in float64.  Here the closed forms are re-run with ROUNDED operations and the distance to the exact closed
  forms is bounded.  (The in-place table code is not modelled again: `C15.subtraction_phase`,
  `C15.normalizeIcg_closed`, `C15.denormalize_spec` connect it to the closed forms; the rounded closed forms below
  perform, coalition by coalition, exactly the operations the loops perform on that coalition's row, in the
  loops' order.)

  Setting.  Values live in an ordered field `α`.  `add' sub' mul' div' : α → α → α` are ARBITRARY functions
  obeying the STANDARD MODEL of floating point arithmetic (no overflow / underflow), unit round-off `u`:

      op' a b = (a ∘ b)·(1 + ε), |ε| ≤ u      written      |op' a b − (a ∘ b)| ≤ u·|a ∘ b|        (`RelAdd` …)

  (`div'` only for a non-zero divisor; float64: `u = 2^-53`).  No algebraic law is assumed of them.

  Rounded closed forms (what the code computes for ONE coalition `c`):
    wApprox sub' v c        `values[c] -= v{i}` for the players `i` of `c` IN INCREASING ORDER (`_normalize_icg`
                            loops over the singletons in player order and, for each, over the coalitions that
                            contain it; the singleton's own row is read BEFORE its pass and is untouched by the
                            earlier passes, so the subtrahend is the original `v{i}`)
    normApprox … c          `div' (wApprox c) (wApprox N)`: the scaling branch
    normApproxB additive …  the whole branch structure, the outcome `additive` of the `np.isclose` test being a
                            PARAMETER: that test is itself evaluated on rounded quantities (`surplus + Σ` and `Σ`
                            as `_get_norminfo` / `np.sum` round them).  Every error theorem ASSUMES it fell on the
                            scaling side (`additive = false`) and shows that the second guard
                            `if not grand_coalition_value` (row `N` after the loops = 0) then does not fire.  The
                            rounded test itself is not modelled: `scaling_side_of_margin` only says when a rounded
                            comparison agrees with the exact one, GIVEN error bounds on its two sides.
    surplusApprox …         the recorded surplus `v(N) −' Σ'_i v{i}` of `_get_norminfo` (left-to-right sum; numpy
                            sums fewer than 8 numbers left to right and longer arrays in a blocked pairwise order,
                            which obeys the same kind of bound — `roundtrip_error` therefore takes the recorded
                            surplus `g` with ANY error bound `eg`)
    denormApprox … x c      `value = x; value *= g; for i in c.players: value += singleton_values[i]`

  With `mag v c = |v c| + Σ_{i∈c} |v{i}|`, `w = closedW v`, `W = w(N)`: the rounded surplus share of `c` is within
  `((1+u)^|c| − 1)·mag v c` of `w c` (`wApprox_error`); singletons normalise to EXACTLY 0 and the grand coalition to
  within `u` of 1; for a superadditive game every rounded normal value is within an explicit `slack` of the exact one,
  hence in `[−slack, 1 + slack]` (`normApprox_unit`, `normalize_property_rounded`); the rounded round trip returns `v c`
  within an explicit bound (`roundtrip_error`: no superadditivity; `roundtrip_error_SA` / `_code`: uniform) that is at
  most `71·(n+1)·u·M` when `(n+1)·u ≤ 1/2` and `4(n+1)·u·M ≤ W` (`roundtrip_error_linear`); with exact operations
  (`u = 0`) the rounded forms are the exact ones and every bound is 0.  The last section is a concrete 3-player
  instance over ℚ (`u = 1/1000`).
-/
import ICG.Props.C15
import ICG.Lemmas.FloatErrorNormalizeCore
import Mathlib.Algebra.Order.Field.Rat
import Mathlib.Tactic.NormNum
import Mathlib.Tactic.Ring
import Mathlib.Tactic.Linarith

namespace ICG.ApproxNormalize
open ICG ICG.Norm ICG.C15 ICG.Rounding Finset


section defs
variable {α : Type}

/-- what `_normalize_icg`'s subtraction loops leave in row `c`: `v c`, less the singleton values of the players
    of `c`, one after the other in increasing player order, each subtraction rounded -/
def wApprox (sub' : α → α → α) (v : Nat → α) (c : Nat) : α :=
  (players c).foldl (fun x i => sub' x (v (singleton i))) (v c)

/-- the scaling branch: `upper_bounds /= grand_coalition_value` on row `c` -/
def normApprox (sub' div' : α → α → α) (n : Nat) (v : Nat → α) (c : Nat) : α :=
  div' (wApprox sub' v c) (wApprox sub' v (grand n))

/-- the branch structure of `_normalize_icg`; `additive` is the outcome of the (rounded) `np.isclose` test.  The second
    guard, `if not grand_coalition_value`, reads row `N` after the subtraction loops (`wApprox N`), not the surplus
    that `_get_norminfo` recorded (`surplusApprox`): the two are rounded differently. -/
def normApproxB [Zero α] [DecidableEq α] (additive : Bool) (sub' div' : α → α → α) (n : Nat) (v : Nat → α)
    (c : Nat) : α :=
  if additive then 0
  else if wApprox sub' v (grand n) = 0 then wApprox sub' v c
  else normApprox sub' div' n v c

/-- `np.sum` as a left-to-right loop from 0 -/
def sumApprox [Zero α] (add' : α → α → α) (l : List α) : α := l.foldl add' 0

/-- the surplus `_get_norminfo` records: `get_value(N) − np.sum(singleton_values)` -/
def surplusApprox [Zero α] (add' sub' : α → α → α) (n : Nat) (v : Nat → α) : α :=
  sub' (v (grand n)) (sumApprox add' ((List.range n).map (fun i => v (singleton i))))

/-- `denormalize_game` on row `c` holding `x`: `value = x; value *= g; for i in c.players: value += s[i]` -/
def denormApprox (add' mul' : α → α → α) (g : α) (s : Nat → α) (x : α) (c : Nat) : α :=
  (players c).foldl (fun y i => add' y (s i)) (mul' x g)

end defs

variable {α : Type} [Field α] [LinearOrder α] [IsStrictOrderedRing α]


def RelAdd (add' : α → α → α) (u : α) : Prop := ∀ a b, |add' a b - (a + b)| ≤ u * |a + b|
def RelSub (sub' : α → α → α) (u : α) : Prop := ∀ a b, |sub' a b - (a - b)| ≤ u * |a - b|
def RelMul (mul' : α → α → α) (u : α) : Prop := ∀ a b, |mul' a b - a * b| ≤ u * |a * b|
/-- only for a non-zero divisor: `x / 0` is never evaluated by the code and nothing is assumed about `div' x 0` -/
def RelDiv (div' : α → α → α) (u : α) : Prop := ∀ a b, b ≠ 0 → |div' a b - a / b| ≤ u * |a / b|

/-- the magnitude of the operands met on row `c`: `|v c| + Σ_{i∈c} |v{i}|` -/
def mag (v : Nat → α) (c : Nat) : α := |v c| + ((players c).map (fun i => |v (singleton i)|)).sum

/-- the error bound of the rounded surplus share of `c` -/
def errW (u : α) (v : Nat → α) (c : Nat) : α := ((1 + u) ^ size c - 1) * mag v c

/-- the error bound of the rounded normal value of `c` (scaling branch), `q = w c / W` -/
def normErr (u : α) (n : Nat) (v : Nat → α) (c : Nat) : α :=
  u * |closedW v c / closedW v (grand n)| +
    (1 + u) * ((errW u v c + |closedW v c / closedW v (grand n)| * errW u v (grand n)) /
      (|closedW v (grand n)| - errW u v (grand n)))

/-- the error bound of the round trip on row `c` when the recorded surplus is within `eg` of `W`.  The additions of the
    de-normalisation start from `w c`, not from `v c`: their magnitude is `|w c| + Σ_{i∈c}|v{i}|`, not `mag v c`. -/
def rtBound (u : α) (n : Nat) (v : Nat → α) (eg : α) (c : Nat) : α :=
  rtShape u ((1 + u) ^ size c) |closedW v c| (normErr u n v c) |closedW v (grand n)| eg
    |closedW v c / closedW v (grand n)| (|closedW v c| + ((players c).map (fun i => |v (singleton i)|)).sum)

/-- the slack of the unit interval: `u + 2(1+u)·η/(1 − η)`, `η = ((1+u)^n − 1)·ρ`, `ρ = M / W` -/
def slack (u : α) (n : Nat) (ρ : α) : α :=
  u + 2 * (1 + u) * (((1 + u) ^ n - 1) * ρ) / (1 - ((1 + u) ^ n - 1) * ρ)

/-! ### the operand magnitude, and the error of the rounded surplus share -/

theorem mag_nonneg (v : Nat → α) (c : Nat) : 0 ≤ mag v c :=
  add_nonneg (abs_nonneg _) (sum_abs_nonneg _ _)

theorem errW_nonneg {u : α} (hu : 0 ≤ u) (v : Nat → α) (c : Nat) : 0 ≤ errW u v c :=
  mul_nonneg (growth_sub_one_nonneg hu _) (mag_nonneg v c)

theorem abs_closedW_le_mag (v : Nat → α) (c : Nat) : |closedW v c| ≤ mag v c := by
  unfold closedW mag
  rw [listSum_eq_sum]
  have h := list_abs_sum_le ((players c).map (fun i => v (singleton i)))
  rw [List.map_map] at h
  exact (abs_sub _ _).trans (add_le_add le_rfl h)

theorem magBound_nonneg {n : Nat} {v : Nat → α} {M : α} (hM : ∀ c, c < 2 ^ n → mag v c ≤ M) : 0 ≤ M :=
  (mag_nonneg v 0).trans (hM 0 (Nat.two_pow_pos n))

omit [IsStrictOrderedRing α] in
theorem errW_zero (v : Nat → α) (c : Nat) : errW 0 v c = 0 := by
  unfold errW; rw [growth_zero, zero_mul]

theorem sum_players_grand {β : Type} [AddCommMonoid β] (n : Nat) (f : Nat → β) :
    ((players (grand n)).map f).sum = ((List.range n).map f).sum := by
  rw [← listSum_eq_sum, ← listSum_eq_sum, listSum_players (grand_lt n), bsum_grand, listSum_range_map]

/-- one rounded subtraction per player of `c`, from the exact `v c` (`foldl_sub_error`) -/
theorem wApprox_error {sub' : α → α → α} {u : α} (hu : 0 ≤ u) (hsub : RelSub sub' u) (v : Nat → α) (c : Nat) :
    |wApprox sub' v c - closedW v c| ≤ errW u v c := by
  have h := foldl_sub_error hu hsub ((players c).map (fun i => v (singleton i))) (v c)
  rw [List.foldl_map, List.length_map, ← size_eq_length_players, List.map_map] at h
  unfold wApprox closedW errW mag
  rw [listSum_eq_sum]
  exact h

/-! ### exact operations: the rounded forms ARE the exact ones -/

theorem relAdd_exact : RelAdd (α := α) (· + ·) 0 := fun a b => abs_sub_self_le_zero_mul (a + b)
theorem relSub_exact : RelSub (α := α) (· - ·) 0 := fun a b => abs_sub_self_le_zero_mul (a - b)
theorem relMul_exact : RelMul (α := α) (· * ·) 0 := fun a b => abs_sub_self_le_zero_mul (a * b)
theorem relDiv_exact : RelDiv (α := α) (· / ·) 0 := fun a b _ => abs_sub_self_le_zero_mul (a / b)

theorem wApprox_exact (v : Nat → α) (c : Nat) : wApprox (· - ·) v c = closedW v c := by
  have h := wApprox_error (le_refl (0 : α)) relSub_exact v c
  rw [errW_zero] at h
  exact eq_of_abs_sub_le_zero h

theorem denormApprox_exact (g : α) (s : Nat → α) (x : α) (c : Nat) :
    denormApprox (· + ·) (· * ·) g s x c = x * g + listSum ((players c).map s) := by
  have h := foldl_add_error (le_refl (0 : α)) relAdd_exact ((players c).map s) (x * g) (x * g)
  rw [growth_zero, zero_mul, sub_self, abs_zero, mul_zero, add_zero, List.foldl_map] at h
  unfold denormApprox
  rw [listSum_eq_sum]
  exact eq_of_abs_sub_le_zero h

section exact
variable [DecidableLE α]

/-- With the exact operations the rounded closed forms are the exact closed forms of
    ICG.Model.Normalize: `closedW`, `w / W`, `normVal` (with the exact guard), and `x·g + Σ_{i∈c} s i`
    (`C15.denormalize_spec`). -/
theorem approx_exact (n : Nat) (v : Nat → α) (c : Nat) :
    wApprox (· - ·) v c = closedW v c ∧
      normApprox (· - ·) (· / ·) n v c = closedW v c / closedW v (grand n) ∧
      (∀ rtol, normApproxB (closedAdditive n rtol v) (· - ·) (· / ·) n v c = normVal n rtol v c) ∧
      (∀ (g : α) (s : Nat → α) (x : α),
        denormApprox (· + ·) (· * ·) g s x c = x * g + listSum ((players c).map s)) := by
  refine ⟨wApprox_exact v c, ?_, ?_, fun g s x => denormApprox_exact g s x c⟩
  · unfold normApprox; rw [wApprox_exact, wApprox_exact]
  · intro rtol
    unfold normApproxB normVal normApprox
    rw [wApprox_exact, wApprox_exact]

end exact

/-! ### singletons, the empty coalition, the grand coalition -/

section special
variable {sub' div' : α → α → α} {u : α}

omit [Field α] [LinearOrder α] [IsStrictOrderedRing α] in
theorem wApprox_singleton (sub' : α → α → α) (v : Nat → α) (i : Nat) :
    wApprox sub' v (2 ^ i) = sub' (v (2 ^ i)) (v (2 ^ i)) := by
  simp [wApprox, players_two_pow, singleton]

/-- the row of a singleton is `sub' x x`, which the relative model forces to be EXACTLY 0 -/
theorem wApprox_singleton_zero (hsub : RelSub sub' u) (v : Nat → α) (i : Nat) : wApprox sub' v (2 ^ i) = 0 := by
  rw [wApprox_singleton]
  exact eq_zero_of_rel (hsub _ _) (sub_self _)

omit [Field α] [LinearOrder α] [IsStrictOrderedRing α] in
/-- the row of ∅ is never touched -/
theorem wApprox_empty (sub' : α → α → α) (v : Nat → α) : wApprox sub' v 0 = v 0 := by
  simp [wApprox, players, playersFrom]

theorem normApprox_singleton (hsub : RelSub sub' u) (div' : α → α → α) (n : Nat) (v : Nat → α) (i : Nat) :
    normApprox sub' div' n v (2 ^ i) = div' 0 (wApprox sub' v (grand n)) := by
  unfold normApprox; rw [wApprox_singleton_zero hsub]

/-- `div' 0 _` is EXACTLY 0 whenever the division is performed (rounded surplus ≠ 0) -/
theorem normApprox_singleton_zero (hsub : RelSub sub' u) (hdiv : RelDiv div' u) (n : Nat) (v : Nat → α)
    (hW : wApprox sub' v (grand n) ≠ 0) (i : Nat) : normApprox sub' div' n v (2 ^ i) = 0 := by
  rw [normApprox_singleton hsub]
  exact eq_zero_of_rel (hdiv _ _ hW) (zero_div _)

theorem normApprox_empty_zero (hdiv : RelDiv div' u) (n : Nat) {v : Nat → α} (h0 : v 0 = 0)
    (hW : wApprox sub' v (grand n) ≠ 0) : normApprox sub' div' n v 0 = 0 := by
  unfold normApprox; rw [wApprox_empty, h0]
  exact eq_zero_of_rel (hdiv _ _ hW) (zero_div _)

/-- the grand coalition: `div' x x` is within `u` of 1 -/
theorem normApprox_grand (hdiv : RelDiv div' u) (n : Nat) (v : Nat → α) (hW : wApprox sub' v (grand n) ≠ 0) :
    |normApprox sub' div' n v (grand n) - 1| ≤ u := by
  have h := hdiv (wApprox sub' v (grand n)) _ hW
  rw [div_self hW, abs_one, mul_one] at h
  exact h

omit [IsStrictOrderedRing α] in
theorem normApproxB_scale (div' : α → α → α) (n : Nat) (v : Nat → α) (hW : wApprox sub' v (grand n) ≠ 0)
    (c : Nat) : normApproxB false sub' div' n v c = normApprox sub' div' n v c := by
  simp [normApproxB, hW]

omit [IsStrictOrderedRing α] in
/-- on the additive side zeros are stored, rounding or not -/
theorem normApproxB_additive (sub' div' : α → α → α) (n : Nat) (v : Nat → α) (c : Nat) :
    normApproxB true sub' div' n v c = 0 := by
  simp [normApproxB]

end special

/-! ### the branch decision

`additive = bool(np.isclose(surplus + Σ, Σ, rtol=1e-9, atol=0))` is `d' ≤ t'` for the rounded `d' ≈ |w(N)|`
(it is `|(surplus' +' Σ') −' Σ'|`, where cancellation makes the ABSOLUTE error of `d'` of the order `u·(|v(N)| + Σ|v{i}|)`)
and the rounded `t' ≈ rtol·|Σ_i v{i}|`.  If the exact quantities are apart by more than the two errors `e1`, `e2` (taken
as given: they are not derived from the rounding model here), the rounded test agrees with the exact one: -/

theorem scaling_side_of_margin {d' t' absW thr e1 e2 : α} (hd : |d' - absW| ≤ e1) (ht : |t' - thr| ≤ e2)
    (hmargin : thr + e1 + e2 < absW) : decide (d' ≤ t') = false := by
  have h1 := abs_le.mp hd
  have h2 := abs_le.mp ht
  simp only [decide_eq_false_iff_not, not_le]
  linarith only [h1.1, h2.2, hmargin]

theorem additive_side_of_margin {d' t' absW thr e1 e2 : α} (hd : |d' - absW| ≤ e1) (ht : |t' - thr| ≤ e2)
    (hmargin : absW + e1 + e2 ≤ thr) : decide (d' ≤ t') = true := by
  have h1 := abs_le.mp hd
  have h2 := abs_le.mp ht
  simp only [decide_eq_true_eq]
  linarith only [h1.2, h2.1, hmargin]


section norm
variable {sub' div' : α → α → α} {u : α}

/-- If the rounding error of the surplus is smaller than the surplus
    (`errW N < |W|`: the game is not additive up to rounding), the rounded surplus is not 0 — the code's second
    guard does not fire and the division is performed — and the rounded normal value of ANY coalition is within
    `u·|q| + (1+u)·(errW c + |q|·errW N)/(|W| − errW N)` of `q = w c / W`.  No superadditivity is used. -/
theorem normApprox_error (hu : 0 ≤ u) (hsub : RelSub sub' u) (hdiv : RelDiv div' u) (n : Nat) (v : Nat → α)
    (hmargin : errW u v (grand n) < |closedW v (grand n)|) (c : Nat) :
    wApprox sub' v (grand n) ≠ 0 ∧
      |normApprox sub' div' n v c - closedW v c / closedW v (grand n)| ≤ normErr u n v c :=
  div_rel_error hu hdiv (wApprox_error hu hsub v c) (wApprox_error hu hsub v (grand n)) hmargin

/-- `u + (1+u)·2E/(W − E)` in ratio form: with `E = θ·M` it is `u + 2(1+u)·η/(1 − η)`, `η = θ·M/W` -/
theorem slack_ratio (u θ M W : α) (hW : W ≠ 0) :
    u + (1 + u) * (2 * (θ * M) / (W - θ * M)) = u + 2 * (1 + u) * (θ * (M / W)) / (1 - θ * (M / W)) := by
  have h : W - θ * M = W * (1 - θ * (M / W)) := by
    rw [mul_sub, mul_one, mul_left_comm, mul_div_cancel₀ _ hW]
  rw [h, ← div_div]
  ring

end norm

/-! ### superadditive games: the unit interval, up to an explicit slack -/

section SAgames
variable {sub' div' : α → α → α} {u : α} {n : Nat} {v : Nat → α}

theorem errW_le_uniform (hu : 0 ≤ u) {M : α} (hM : ∀ c, c < 2 ^ n → mag v c ≤ M) {c : Nat} (hc : c < 2 ^ n) :
    errW u v c ≤ ((1 + u) ^ n - 1) * M :=
  mul_le_mul (sub_le_sub_right (growth_mono hu (size_le n c hc)) 1) (hM c hc) (mag_nonneg v c)
    (growth_sub_one_nonneg hu n)

theorem quotient_unit (h : SA n v) (h0 : v 0 = 0) (hW : 0 < closedW v (grand n)) {c : Nat} (hc : c < 2 ^ n) :
    0 ≤ closedW v c / closedW v (grand n) ∧ closedW v c / closedW v (grand n) ≤ 1 :=
  ⟨div_nonneg (closedW_nonneg h h0 c hc) hW.le, (div_le_one hW).mpr (closedW_le_grand h h0 hc)⟩

/-- the first stage of a superadditive game. Magnitudes `≤ M`, and `E` with `((1+u)^n − 1)·M ≤ E < W` bounds the
    rounding of every surplus share: the surplus is not lost (`errW N < |W|`), and since `0 ≤ q ≤ 1` the error bound
    of every rounded normal value is at most `u + (1+u)·2E/(W − E)`. -/
theorem normErr_le_SA (hu : 0 ≤ u) (h : SA n v) (h0 : v 0 = 0) {M : α} (hM : ∀ c, c < 2 ^ n → mag v c ≤ M)
    {E : α} (hE : ((1 + u) ^ n - 1) * M ≤ E) (hEW : E < closedW v (grand n)) {c : Nat} (hc : c < 2 ^ n) :
    errW u v (grand n) < |closedW v (grand n)| ∧
      normErr u n v c ≤ u + (1 + u) * (2 * E / (closedW v (grand n) - E)) := by
  have hE0 : 0 ≤ E := (mul_nonneg (growth_sub_one_nonneg hu n) (magBound_nonneg hM)).trans hE
  have hW : 0 < closedW v (grand n) := hE0.trans_lt hEW
  have hEN := (errW_le_uniform hu hM (grand_lt n)).trans hE
  obtain ⟨hq0, hq1⟩ := quotient_unit h h0 hW hc
  unfold normErr
  rw [abs_of_pos hW, abs_of_nonneg hq0]
  exact ⟨hEN.trans_lt hEW, divErr_le hu hq1 ((errW_le_uniform hu hM hc).trans hE) (errW_nonneg hu v _) hEN hEW⟩

/-- A superadditive game with `v ∅ = 0` whose operand magnitudes are bounded by `M`,
    with surplus `W > 0` and `η = ((1+u)^n − 1)·(M/W) < 1`: the rounded surplus is not 0, and every rounded normal
    value is within `slack u n (M/W) = u + 2(1+u)·η/(1 − η)` of the exact one, hence inside
    `[−slack, 1 + slack]`. -/
theorem normApprox_unit (hu : 0 ≤ u) (hsub : RelSub sub' u) (hdiv : RelDiv div' u) (h : SA n v) (h0 : v 0 = 0)
    {M : α} (hM : ∀ c, c < 2 ^ n → mag v c ≤ M) (hW : 0 < closedW v (grand n))
    (hη : ((1 + u) ^ n - 1) * (M / closedW v (grand n)) < 1) {c : Nat} (hc : c < 2 ^ n) :
    wApprox sub' v (grand n) ≠ 0 ∧
      |normApprox sub' div' n v c - closedW v c / closedW v (grand n)| ≤ slack u n (M / closedW v (grand n)) ∧
      -slack u n (M / closedW v (grand n)) ≤ normApprox sub' div' n v c ∧
      normApprox sub' div' n v c ≤ 1 + slack u n (M / closedW v (grand n)) := by
  have hEW : ((1 + u) ^ n - 1) * M < closedW v (grand n) := by
    rwa [← mul_div_assoc, div_lt_one hW] at hη
  obtain ⟨hmargin, hle⟩ := normErr_le_SA hu h h0 hM le_rfl hEW hc
  obtain ⟨hne, herr⟩ := normApprox_error hu hsub hdiv n v hmargin c
  have hfin : |normApprox sub' div' n v c - closedW v c / closedW v (grand n)| ≤
      slack u n (M / closedW v (grand n)) := by
    unfold slack
    rw [← slack_ratio u _ M _ hW.ne']
    exact herr.trans hle
  obtain ⟨hq0, hq1⟩ := quotient_unit h h0 hW hc
  have := abs_le.mp hfin
  exact ⟨hne, hfin, by linear_combination this.1 + hq0, by linear_combination this.2 + hq1⟩

section withGuard
variable [DecidableLE α]

/-- C15's first sentence, with rounding (scaling side). A superadditive game with `v ∅ = 0`, outside the
    tolerance window (`rtol·|Σ_i v{i}| < W`, so the exact normal form is `w/W`), the rounded `isclose` test having
    fallen on the scaling side (`additive = false`; see `scaling_side_of_margin`), magnitudes `≤ M` and
    `η = ((1+u)^n − 1)·M/W < 1`.  Then, for what the rounded code stores (`normApproxB false`):
    the rounded surplus is non-zero, so the division is performed; every singleton is EXACTLY 0; every value is within
    `slack` of the exact normal value `normVal`, hence in `[−slack, 1+slack]`; the grand coalition is within `u`
    of 1; and the result is superadditive up to `3·slack`. -/
theorem normalize_property_rounded (hu : 0 ≤ u) (hsub : RelSub sub' u) (hdiv : RelDiv div' u) (h : SA n v)
    (h0 : v 0 = 0) {rtol : α} (hr : 0 ≤ rtol)
    (hout : rtol * |∑ i ∈ range n, v (2 ^ i)| < closedW v (grand n))
    {M : α} (hM : ∀ c, c < 2 ^ n → mag v c ≤ M)
    (hη : ((1 + u) ^ n - 1) * (M / closedW v (grand n)) < 1) :
    wApprox sub' v (grand n) ≠ 0 ∧
      (∀ i, i < n → normApproxB false sub' div' n v (2 ^ i) = 0) ∧
      (∀ c, c < 2 ^ n →
        |normApproxB false sub' div' n v c - normVal n rtol v c| ≤ slack u n (M / closedW v (grand n)) ∧
        -slack u n (M / closedW v (grand n)) ≤ normApproxB false sub' div' n v c ∧
        normApproxB false sub' div' n v c ≤ 1 + slack u n (M / closedW v (grand n))) ∧
      |normApproxB false sub' div' n v (grand n) - 1| ≤ u ∧
      (∀ a b, a < 2 ^ n → b < 2 ^ n → a &&& b = 0 →
        normApproxB false sub' div' n v a + normApproxB false sub' div' n v b ≤
          normApproxB false sub' div' n v (a ||| b) + 3 * slack u n (M / closedW v (grand n))) := by
  have hW : 0 < closedW v (grand n) := lt_of_le_of_lt (mul_nonneg hr (abs_nonneg _)) hout
  have hne : wApprox sub' v (grand n) ≠ 0 :=
    (normApprox_unit hu hsub hdiv h h0 hM hW hη (grand_lt n)).1
  have hB := normApproxB_scale div' n v hne
  have hval := normVal_above (rtol := rtol) hout hW.ne'
  refine ⟨hne, fun i _ => ?_, fun c hc => ?_, ?_, fun a b ha hb hab => ?_⟩
  · rw [hB]; exact normApprox_singleton_zero hsub hdiv n v hne i
  · rw [hB, hval]; exact (normApprox_unit hu hsub hdiv h h0 hM hW hη hc).2
  · rw [hB]; exact normApprox_grand hdiv n v hne
  · -- each of the three values is within `slack` of its exact normal value, and those are superadditive
    have key : ∀ c, c < 2 ^ n → |normApprox sub' div' n v c - normVal n rtol v c| ≤
        slack u n (M / closedW v (grand n)) := fun c hc => by
      rw [hval]; exact (normApprox_unit hu hsub hdiv h h0 hM hW hη hc).2.1
    have hsa := normVal_SA (rtol := rtol) h h0 a b ha hb hab
    have h1 := abs_le.mp (key a ha)
    have h2 := abs_le.mp (key b hb)
    have h3 := abs_le.mp (key _ (or_lt_two_pow ha hb))
    rw [hB, hB, hB]
    linear_combination hsa + h1.2 + h2.2 + h3.1

end withGuard

end SAgames

/-! ### the recorded surplus, and the round trip -/

section roundtrip
variable {add' sub' mul' div' : α → α → α} {u : α}

/-- the surplus `_get_norminfo` records: a left-to-right rounded sum and one rounded subtraction -/
theorem surplusApprox_error (hu : 0 ≤ u) (hadd : RelAdd add' u) (hsub : RelSub sub' u) (n : Nat) (v : Nat → α) :
    |surplusApprox add' sub' n v - closedW v (grand n)| ≤ ((1 + u) ^ (n + 1) - 1) * mag v (grand n) := by
  have h := sub_foldl_add_error hu hadd hsub ((List.range n).map (fun i => v (singleton i))) (v (grand n))
  rw [List.length_map, List.length_range, List.map_map] at h
  unfold surplusApprox sumApprox closedW mag
  rw [listSum_eq_sum, sum_players_grand, sum_players_grand]
  exact h

theorem surplusApprox_exact (n : Nat) (v : Nat → α) : surplusApprox (· + ·) (· - ·) n v = closedW v (grand n) := by
  have h := surplusApprox_error (le_refl (0 : α)) relAdd_exact relSub_exact n v
  rw [growth_zero, zero_mul] at h
  exact eq_of_abs_sub_le_zero h

/-- Normalise row `c` in rounded arithmetic (scaling side, `errW N < |W|`), then
    de-normalise it with a recorded surplus `g` that is within `eg` of `W` and the (exactly stored) singleton values:
    the result is within `rtBound u n v eg c` of the original `v c`.  No superadditivity is used.
    (Part of `rtBound` is the rounding of the two independently computed surpluses, `wApprox N` and `g`, carried into
    row `c` by the factor `q = w c / W`.) -/
theorem roundtrip_error (hu : 0 ≤ u) (hadd : RelAdd add' u) (hsub : RelSub sub' u) (hmul : RelMul mul' u)
    (hdiv : RelDiv div' u) (n : Nat) (v : Nat → α) (hmargin : errW u v (grand n) < |closedW v (grand n)|)
    {g eg : α} (hg : |g - closedW v (grand n)| ≤ eg) (c : Nat) :
    |denormApprox add' mul' g (fun i => v (singleton i)) (normApprox sub' div' n v c) c - v c| ≤
      rtBound u n v eg c := by
  obtain ⟨_, hq⟩ := normApprox_error hu hsub hdiv n v hmargin c
  have hWne : closedW v (grand n) ≠ 0 := abs_pos.mp ((errW_nonneg hu v _).trans_lt hmargin)
  -- the product `x·g` against `q·W = w c`, then the sum `w c + Σ_{i∈c} v{i} = v c`
  have hm := mul_rel_error hu hmul hq hg
  rw [div_mul_cancel₀ _ hWne] at hm
  have hf := foldl_add_error hu hadd ((players c).map (fun i => v (singleton i)))
    (mul' (normApprox sub' div' n v c) g) (closedW v c)
  have hv : closedW v c + ((players c).map (fun i => v (singleton i))).sum = v c := by
    unfold closedW; rw [listSum_eq_sum]; ring
  rw [List.foldl_map, List.length_map, ← size_eq_length_players, List.map_map, hv] at hf
  exact hf.trans (add_le_add (mul_le_mul_of_nonneg_left hm (le_trans zero_le_one (one_le_growth hu _))) le_rfl)

end roundtrip

/-! ### the round trip of a superadditive game: uniform and first-order bounds -/

section roundtripSA
variable {add' sub' mul' div' : α → α → α} {u : α} {n : Nat} {v : Nat → α}

theorem rtBound_le_SA (hu : 0 ≤ u) (h : SA n v) (h0 : v 0 = 0) {M : α} (hM : ∀ c, c < 2 ^ n → mag v c ≤ M)
    {E : α} (hE : ((1 + u) ^ n - 1) * M ≤ E) (hEW : E < closedW v (grand n)) {c : Nat} (hc : c < 2 ^ n) :
    rtBound u n v E c ≤ rtBoundSA u n M (closedW v (grand n)) E := by
  have hE0 : 0 ≤ E := (mul_nonneg (growth_sub_one_nonneg hu n) (magBound_nonneg hM)).trans hE
  have hW : 0 < closedW v (grand n) := hE0.trans_lt hEW
  obtain ⟨hq0, hq1⟩ := quotient_unit h h0 hW hc
  have hA0 := closedW_nonneg h h0 c hc
  have hAW := closedW_le_grand h h0 hc
  have hS0 := sum_abs_nonneg (fun i => v (singleton i)) (players c)
  have hS : ((players c).map (fun i => |v (singleton i)|)).sum ≤ M :=
    (le_add_of_nonneg_left (abs_nonneg (v c))).trans (hM c hc)
  have hsl0 : 0 ≤ u + (1 + u) * (2 * E / (closedW v (grand n) - E)) :=
    add_nonneg hu (mul_nonneg (add_nonneg zero_le_one hu)
      (div_nonneg (mul_nonneg zero_le_two hE0) (sub_nonneg.mpr hEW.le)))
  unfold rtBound rtBoundSA
  rw [abs_of_nonneg hq0, abs_of_nonneg hA0, abs_of_pos hW]
  exact rtShape_mono hu (one_le_growth hu _) (growth_mono hu (size_le n c hc)) hAW hW.le
    (normErr_le_SA hu h h0 hM hE hEW hc).2 hsl0 hW.le hE0 hq1 zero_le_one (add_nonneg hA0 hS0) (add_le_add hAW hS)

/-- Superadditive game with `v ∅ = 0`, magnitudes `≤ M`; `E` bounds the rounding of
    every surplus involved (`((1+u)^n − 1)·M ≤ E`, recorded surplus within `E` of `W`) and `E < W`.  Then
    de-normalising the rounded normal form restores every value up to `rtBoundSA u n M W E`. -/
theorem roundtrip_error_SA (hu : 0 ≤ u) (hadd : RelAdd add' u) (hsub : RelSub sub' u) (hmul : RelMul mul' u)
    (hdiv : RelDiv div' u) (h : SA n v) (h0 : v 0 = 0) {M : α} (hM : ∀ c, c < 2 ^ n → mag v c ≤ M)
    {E : α} (hE : ((1 + u) ^ n - 1) * M ≤ E) (hEW : E < closedW v (grand n))
    {g : α} (hg : |g - closedW v (grand n)| ≤ E) {c : Nat} (hc : c < 2 ^ n) :
    |denormApprox add' mul' g (fun i => v (singleton i)) (normApprox sub' div' n v c) c - v c| ≤
      rtBoundSA u n M (closedW v (grand n)) E :=
  (roundtrip_error hu hadd hsub hmul hdiv n v (normErr_le_SA hu h h0 hM hE hEW hc).1 hg c).trans
    (rtBound_le_SA hu h h0 hM hE hEW hc)

/-- The same with the recorded surplus computed the way `_get_norminfo` computes it
    (`surplusApprox`): `E = ((1+u)^(n+1) − 1)·M`. -/
theorem roundtrip_error_code (hu : 0 ≤ u) (hadd : RelAdd add' u) (hsub : RelSub sub' u) (hmul : RelMul mul' u)
    (hdiv : RelDiv div' u) (h : SA n v) (h0 : v 0 = 0) {M : α} (hM : ∀ c, c < 2 ^ n → mag v c ≤ M)
    (hEW : ((1 + u) ^ (n + 1) - 1) * M < closedW v (grand n)) {c : Nat} (hc : c < 2 ^ n) :
    |denormApprox add' mul' (surplusApprox add' sub' n v) (fun i => v (singleton i))
        (normApprox sub' div' n v c) c - v c| ≤
      rtBoundSA u n M (closedW v (grand n)) (((1 + u) ^ (n + 1) - 1) * M) :=
  roundtrip_error_SA hu hadd hsub hmul hdiv h h0 hM
    (mul_le_mul_of_nonneg_right (sub_le_sub_right (growth_mono hu (Nat.le_succ n)) 1) (magBound_nonneg hM)) hEW
    ((surplusApprox_error hu hadd hsub n v).trans
      (mul_le_mul_of_nonneg_left (hM _ (grand_lt n)) (growth_sub_one_nonneg hu _))) hc

/-- "restores the original values to float rounding".  Superadditive game with
    `v ∅ = 0`, magnitudes `≤ M`, `(n+1)·u ≤ 1/2`, and the surplus not lost in the rounding: `4(n+1)·u·M ≤ W`.
    Then the whole rounded round trip (normalise, record the surplus, de-normalise) returns every value within
    `71·(n+1)·u·M` of the original: an absolute error LINEAR in the unit round-off `u`, relative to the largest
    operand magnitude `M`.  (The constant is not sharp.) -/
theorem roundtrip_error_linear (hu : 0 ≤ u) (hadd : RelAdd add' u) (hsub : RelSub sub' u) (hmul : RelMul mul' u)
    (hdiv : RelDiv div' u) (h : SA n v) (h0 : v 0 = 0) {M : α} (hM : ∀ c, c < 2 ^ n → mag v c ≤ M)
    (hx : ((n + 1 : ℕ) : α) * u ≤ 1 / 2) (hW : 0 < closedW v (grand n))
    (hL : 4 * (((n + 1 : ℕ) : α) * u) * M ≤ closedW v (grand n)) {c : Nat} (hc : c < 2 ^ n) :
    |denormApprox add' mul' (surplusApprox add' sub' n v) (fun i => v (singleton i))
        (normApprox sub' div' n v c) c - v c| ≤ 71 * (((n + 1 : ℕ) : α) * u) * M := by
  have hM0 := magBound_nonneg hM
  have hWM : closedW v (grand n) ≤ M :=
    ((le_abs_self _).trans (abs_closedW_le_mag v _)).trans (hM _ (grand_lt n))
  -- `E = ((1+u)^(n+1) − 1)·M ≤ 2(n+1)·u·M ≤ W/2 < W`
  have hE : ((1 + u) ^ (n + 1) - 1) * M ≤ 2 * (((n + 1 : ℕ) : α) * u) * M :=
    mul_le_mul_of_nonneg_right (growth_sub_one_le_linear hu (n + 1) hx) hM0
  exact (roundtrip_error_code hu hadd hsub hmul hdiv h h0 hM (by linear_combination hE + (1 / 2 : α) * hL + (1 / 2 : α) * hW) hc).trans
    (rtBoundSA_le_linear n hu hx hW hWM (mul_nonneg (growth_sub_one_nonneg hu _) hM0) hE hL)

end roundtripSA

/-! ### `u = 0`: every bound vanishes, so the theorems specialise to the exact ones -/

section vanish

omit [IsStrictOrderedRing α] in
theorem normErr_zero (n : Nat) (v : Nat → α) (c : Nat) : normErr 0 n v c = 0 := by
  unfold normErr; simp [errW_zero]

omit [LinearOrder α] [IsStrictOrderedRing α] in
theorem slack_zero (n : Nat) (ρ : α) : slack 0 n ρ = 0 := by simp [slack]

omit [IsStrictOrderedRing α] in
theorem rtBound_zero (n : Nat) (v : Nat → α) (c : Nat) : rtBound 0 n v 0 c = 0 := by
  simp [rtBound, rtShape, normErr_zero]

/-- so `roundtrip_error` with the exact operations IS the exact round trip of C15 (`denormalize_normalize`):
    `w c / W · W + Σ_{i∈c} v{i} = v c` whenever `W ≠ 0` -/
theorem roundtrip_exact (n : Nat) (v : Nat → α) (hW : closedW v (grand n) ≠ 0) (c : Nat) :
    denormApprox (· + ·) (· * ·) (closedW v (grand n)) (fun i => v (singleton i))
      (normApprox (· - ·) (· / ·) n v c) c = v c := by
  have hmargin : errW 0 v (grand n) < |closedW v (grand n)| := by rw [errW_zero]; exact abs_pos.mpr hW
  have h := roundtrip_error (le_refl (0 : α)) relAdd_exact relSub_exact relMul_exact relDiv_exact n v hmargin
    (g := closedW v (grand n)) (eg := 0) (by simp) c
  rw [rtBound_zero] at h
  exact eq_of_abs_sub_le_zero h

end vanish

/-! ### a concrete instance over ℚ: the hypotheses are satisfiable, rounding really happens, the bounds hold

The 3-player superadditive game `v = [0, 1, 2, 5, 3, 6, 7, 12]` (`w = [0,0,0,2,0,2,2,6]`, normal form
`[0,0,0,1/3,0,1/3,1/3,1]`), unit round-off `u = 1/1000`; every subtraction and multiplication rounds UP by one
relative unit, every division and addition rounds DOWN by one relative unit. -/

namespace Ex

def v3 : Nat → ℚ := fun c => [0, 1, 2, 5, 3, 6, 7, 12].getD c 0
def u3 : ℚ := 1 / 1000
def subR (a b : ℚ) : ℚ := (a - b) * (1 + u3)
def divR (a b : ℚ) : ℚ := a / b * (1 - u3)
def mulR (a b : ℚ) : ℚ := a * b * (1 + u3)
def addR (a b : ℚ) : ℚ := (a + b) * (1 - u3)

theorem u3_nonneg : 0 ≤ u3 := by decide +kernel

theorem subR_rel : RelSub subR u3 := fun a b => abs_mul_one_add_sub_self_le u3_nonneg (a - b)
theorem mulR_rel : RelMul mulR u3 := fun a b => abs_mul_one_add_sub_self_le u3_nonneg (a * b)
theorem divR_rel : RelDiv divR u3 := fun a b _ => abs_mul_one_sub_sub_self_le u3_nonneg (a / b)
theorem addR_rel : RelAdd addR u3 := fun a b => abs_mul_one_sub_sub_self_le u3_nonneg (a + b)

theorem v3_SA : SA 3 v3 := by
  have h : ∀ a, a < 2 ^ 3 → ∀ b, b < 2 ^ 3 → a &&& b = 0 → v3 a + v3 b ≤ v3 (a ||| b) := by decide +kernel
  exact fun a b ha hb => h a ha b hb

theorem v3_empty : v3 0 = 0 := by decide +kernel

/-- the exact surplus shares and the exact surplus `W = 6` -/
theorem v3_closedW : (List.range 8).map (closedW v3) = [0, 0, 0, 2, 0, 2, 2, 6] := by decide +kernel
theorem v3_surplus_pos : 0 < closedW v3 (grand 3) := by decide +kernel

/-- operand magnitudes `|v c| + Σ_{i∈c}|v{i}|` are at most `M = 18` (attained at `N`: 12 + 6) -/
theorem v3_mag : ∀ c, c < 2 ^ 3 → mag v3 c ≤ 18 := by decide +kernel

/-- `η = ((1+u)^3 − 1)·(18/6) < 1` -/
theorem v3_eta : ((1 + u3) ^ 3 - 1) * (18 / closedW v3 (grand 3)) < 1 := by
  decide +kernel

/-- outside the tolerance window of the code's own `rtol = 1e-9`: `1e-9·6 < 6` -/
theorem v3_out : defaultRtol * |∑ i ∈ range 3, v3 (2 ^ i)| < closedW v3 (grand 3) := by decide +kernel

theorem v3_margin : errW u3 v3 (grand 3) < |closedW v3 (grand 3)| := by decide +kernel

end Ex

/-- rounding really happens: the rounded surplus shares are exactly 0 at ∅ and at the singletons, too large elsewhere -/
example : (List.range 8).map (fun c => decide (wApprox Ex.subR Ex.v3 c = closedW Ex.v3 c)) =
    [true, true, true, false, true, false, false, false] := by decide +kernel

example : (List.range 8).map (wApprox Ex.subR Ex.v3) =
    [0, 0, 0, 501501 / 250000, 0, 401401 / 200000, 401401 / 200000, 6026031011 / 1000000000] ∧
    (List.range 8).map (closedW Ex.v3) = [0, 0, 0, 2, 0, 2, 2, 6] := by decide +kernel

/-- the rounded normal values; the exact ones are `1/3` at the pairs and `1` at `N` -/
example : (List.range 8).map (normApprox Ex.subR Ex.divR 3 Ex.v3) =
    [0, 0, 0, 54108 / 162703, 0, 54135 / 162703, 54135 / 162703, 999 / 1000] := by decide +kernel

/-- `v(N) = 12` comes back as `11.98797…` -/
example : denormApprox Ex.addR Ex.mulR (surplusApprox Ex.addR Ex.subR 3 Ex.v3) (fun i => Ex.v3 (singleton i))
    (normApprox Ex.subR Ex.divR 3 Ex.v3 7) 7 = 11987974024036956995018993001 / 1000000000000000000000000000 := by
  decide +kernel

example : (List.range 8).map (fun c => decide (denormApprox Ex.addR Ex.mulR (surplusApprox Ex.addR Ex.subR 3 Ex.v3)
      (fun i => Ex.v3 (singleton i)) (normApprox Ex.subR Ex.divR 3 Ex.v3 c) c = Ex.v3 c)) =
    [true, false, false, false, false, false, false, false] := by decide +kernel

example : surplusApprox Ex.addR Ex.subR 3 Ex.v3 ≠ closedW Ex.v3 (grand 3) ∧
    surplusApprox Ex.addR Ex.subR 3 Ex.v3 ≠ wApprox Ex.subR Ex.v3 (grand 3) := by decide +kernel

/-- this and the next three examples check the bounds by evaluation, independently of the theorems: `wApprox_error`,
    the unit interval with `slack`, the grand coalition within `u` of 1, the linear round-trip bound `71·(n+1)·u·M` -/
example : ∀ c, c < 2 ^ 3 → |wApprox Ex.subR Ex.v3 c - closedW Ex.v3 c| ≤ errW Ex.u3 Ex.v3 c := by decide +kernel

example : ∀ c, c < 2 ^ 3 →
    |normApprox Ex.subR Ex.divR 3 Ex.v3 c - closedW Ex.v3 c / closedW Ex.v3 (grand 3)| ≤ slack Ex.u3 3 (18 / 6) ∧
      -slack Ex.u3 3 (18 / 6) ≤ normApprox Ex.subR Ex.divR 3 Ex.v3 c ∧
      normApprox Ex.subR Ex.divR 3 Ex.v3 c ≤ 1 + slack Ex.u3 3 (18 / 6) := by decide +kernel

example : slack Ex.u3 3 (18 / 6) < 1 / 50 ∧ |normApprox Ex.subR Ex.divR 3 Ex.v3 (grand 3) - 1| ≤ Ex.u3 := by
  decide +kernel

example : ∀ c, c < 2 ^ 3 →
    |denormApprox Ex.addR Ex.mulR (surplusApprox Ex.addR Ex.subR 3 Ex.v3) (fun i => Ex.v3 (singleton i))
        (normApprox Ex.subR Ex.divR 3 Ex.v3 c) c - Ex.v3 c| ≤ rtBoundSA Ex.u3 3 18 6 (((1 + Ex.u3) ^ (3 + 1) - 1) * 18) ∧
      rtBoundSA Ex.u3 3 18 6 (((1 + Ex.u3) ^ (3 + 1) - 1) * 18) ≤ 71 * (((3 + 1 : ℕ) : ℚ) * Ex.u3) * 18 := by
  decide +kernel

/-! the hypotheses of the main theorems are satisfiable: they are applied to the instance -/

example (c : Nat) : |wApprox Ex.subR Ex.v3 c - closedW Ex.v3 c| ≤ ((1 + Ex.u3) ^ size c - 1) * mag Ex.v3 c :=
  wApprox_error Ex.u3_nonneg Ex.subR_rel Ex.v3 c

example (c : Nat) : wApprox Ex.subR Ex.v3 (grand 3) ≠ 0 ∧
    |normApprox Ex.subR Ex.divR 3 Ex.v3 c - closedW Ex.v3 c / closedW Ex.v3 (grand 3)| ≤ normErr Ex.u3 3 Ex.v3 c :=
  normApprox_error Ex.u3_nonneg Ex.subR_rel Ex.divR_rel 3 Ex.v3 Ex.v3_margin c

example (i : Nat) : normApprox Ex.subR Ex.divR 3 Ex.v3 (2 ^ i) = 0 :=
  normApprox_singleton_zero Ex.subR_rel Ex.divR_rel 3 Ex.v3
    (normApprox_error Ex.u3_nonneg Ex.subR_rel Ex.divR_rel 3 Ex.v3 Ex.v3_margin 0).1 i

example {c : Nat} (hc : c < 2 ^ 3) : wApprox Ex.subR Ex.v3 (grand 3) ≠ 0 ∧
    |normApprox Ex.subR Ex.divR 3 Ex.v3 c - closedW Ex.v3 c / closedW Ex.v3 (grand 3)| ≤
      slack Ex.u3 3 (18 / closedW Ex.v3 (grand 3)) ∧
    -slack Ex.u3 3 (18 / closedW Ex.v3 (grand 3)) ≤ normApprox Ex.subR Ex.divR 3 Ex.v3 c ∧
    normApprox Ex.subR Ex.divR 3 Ex.v3 c ≤ 1 + slack Ex.u3 3 (18 / closedW Ex.v3 (grand 3)) :=
  normApprox_unit Ex.u3_nonneg Ex.subR_rel Ex.divR_rel Ex.v3_SA Ex.v3_empty Ex.v3_mag
    Ex.v3_surplus_pos Ex.v3_eta hc

example : wApprox Ex.subR Ex.v3 (grand 3) ≠ 0 ∧
    (∀ i, i < 3 → normApproxB false Ex.subR Ex.divR 3 Ex.v3 (2 ^ i) = 0) ∧
    (∀ c, c < 2 ^ 3 →
      |normApproxB false Ex.subR Ex.divR 3 Ex.v3 c - normVal 3 defaultRtol Ex.v3 c| ≤
        slack Ex.u3 3 (18 / closedW Ex.v3 (grand 3)) ∧
      -slack Ex.u3 3 (18 / closedW Ex.v3 (grand 3)) ≤ normApproxB false Ex.subR Ex.divR 3 Ex.v3 c ∧
      normApproxB false Ex.subR Ex.divR 3 Ex.v3 c ≤ 1 + slack Ex.u3 3 (18 / closedW Ex.v3 (grand 3))) ∧
    |normApproxB false Ex.subR Ex.divR 3 Ex.v3 (grand 3) - 1| ≤ Ex.u3 ∧
    (∀ a b, a < 2 ^ 3 → b < 2 ^ 3 → a &&& b = 0 →
      normApproxB false Ex.subR Ex.divR 3 Ex.v3 a + normApproxB false Ex.subR Ex.divR 3 Ex.v3 b ≤
        normApproxB false Ex.subR Ex.divR 3 Ex.v3 (a ||| b) + 3 * slack Ex.u3 3 (18 / closedW Ex.v3 (grand 3))) :=
  normalize_property_rounded Ex.u3_nonneg Ex.subR_rel Ex.divR_rel Ex.v3_SA Ex.v3_empty C15.defaultRtol_nonneg
    Ex.v3_out Ex.v3_mag Ex.v3_eta

/-- the rounded `isclose` test falls on the scaling side when the margin is there: rounded `|w(N)|` within `1/10`
    of 6, rounded threshold within `1/10` of `1e-9·6` -/
example (d' t' : ℚ) (hd : |d' - 6| ≤ 1 / 10) (ht : |t' - defaultRtol * 6| ≤ 1 / 10) : decide (d' ≤ t') = false :=
  scaling_side_of_margin hd ht (by decide +kernel)

example (c : Nat) :
    |denormApprox Ex.addR Ex.mulR (surplusApprox Ex.addR Ex.subR 3 Ex.v3) (fun i => Ex.v3 (singleton i))
        (normApprox Ex.subR Ex.divR 3 Ex.v3 c) c - Ex.v3 c| ≤
      rtBound Ex.u3 3 Ex.v3 (((1 + Ex.u3) ^ (3 + 1) - 1) * mag Ex.v3 (grand 3)) c :=
  roundtrip_error Ex.u3_nonneg Ex.addR_rel Ex.subR_rel Ex.mulR_rel Ex.divR_rel 3 Ex.v3 Ex.v3_margin
    (surplusApprox_error Ex.u3_nonneg Ex.addR_rel Ex.subR_rel 3 Ex.v3) c

example {c : Nat} (hc : c < 2 ^ 3) :
    |denormApprox Ex.addR Ex.mulR (surplusApprox Ex.addR Ex.subR 3 Ex.v3) (fun i => Ex.v3 (singleton i))
        (normApprox Ex.subR Ex.divR 3 Ex.v3 c) c - Ex.v3 c| ≤
      rtBoundSA Ex.u3 3 18 (closedW Ex.v3 (grand 3)) (((1 + Ex.u3) ^ (3 + 1) - 1) * 18) :=
  roundtrip_error_code Ex.u3_nonneg Ex.addR_rel Ex.subR_rel Ex.mulR_rel Ex.divR_rel Ex.v3_SA Ex.v3_empty
    Ex.v3_mag (by decide +kernel) hc

example {c : Nat} (hc : c < 2 ^ 3) :
    |denormApprox Ex.addR Ex.mulR (closedW Ex.v3 (grand 3)) (fun i => Ex.v3 (singleton i))
        (normApprox Ex.subR Ex.divR 3 Ex.v3 c) c - Ex.v3 c| ≤
      rtBoundSA Ex.u3 3 18 (closedW Ex.v3 (grand 3)) (((1 + Ex.u3) ^ 3 - 1) * 18) :=
  roundtrip_error_SA Ex.u3_nonneg Ex.addR_rel Ex.subR_rel Ex.mulR_rel Ex.divR_rel Ex.v3_SA Ex.v3_empty
    Ex.v3_mag (le_refl _) (by decide +kernel) (by decide +kernel) hc

/-- "restores the original values to float rounding": within `71·4·(1/1000)·18 = 5.112` here (`u = 1/1000` is a
    very coarse arithmetic; with float64's `u = 2^-53` the same statement gives `≈ 5.7e-13`) -/
example {c : Nat} (hc : c < 2 ^ 3) :
    |denormApprox Ex.addR Ex.mulR (surplusApprox Ex.addR Ex.subR 3 Ex.v3) (fun i => Ex.v3 (singleton i))
        (normApprox Ex.subR Ex.divR 3 Ex.v3 c) c - Ex.v3 c| ≤ 71 * (((3 + 1 : ℕ) : ℚ) * Ex.u3) * 18 :=
  roundtrip_error_linear Ex.u3_nonneg Ex.addR_rel Ex.subR_rel Ex.mulR_rel Ex.divR_rel Ex.v3_SA Ex.v3_empty
    Ex.v3_mag (by decide +kernel) Ex.v3_surplus_pos (by decide +kernel) hc

example : (List.range 8).map (normApproxB (closedAdditive 3 defaultRtol Ex.v3) (· - ·) (· / ·) 3 Ex.v3) =
    (List.range 8).map (normVal 3 defaultRtol Ex.v3) :=
  List.map_congr_left (fun c _ => (approx_exact 3 Ex.v3 c).2.2.1 defaultRtol)

example : (List.range 8).map (normApprox (· - ·) (· / ·) 3 Ex.v3) = [0, 0, 0, 1 / 3, 0, 1 / 3, 1 / 3, 1] := by
  decide +kernel

example (c : Nat) : denormApprox (· + ·) (· * ·) (closedW Ex.v3 (grand 3)) (fun i => Ex.v3 (singleton i))
    (normApprox (· - ·) (· / ·) 3 Ex.v3 c) c = Ex.v3 c :=
  roundtrip_exact 3 Ex.v3 Ex.v3_surplus_pos.ne' c

end ICG.ApproxNormalize

/-
  Property C11 — exhaustive search, meta-game and best-states.

  "For any game, starting knowledge and size limit k, the exhaustive search enumerates every set of at most
  k still-unknown coalitions exactly once, and the gap it reports for a set equals the gap of the incomplete
  game in which exactly the starting knowledge plus that set is known - independent of enumeration order
  and of the number of worker processes; the meta-game over coalitions returns the same quantity.
  Best-states reports for each size the minimum mean gap over the sampled games and a set attaining it, so
  no strategy evaluated on those games is better at any step, and for games of the assumed class its curve
  is non-increasing."

  Theorems about ICG.Model.Search (model of gameplay.py, meta_game.py, run/best_states.py and of
  `multiprocessing.Pool.starmap`).  The bound computer `compute` and the gap function `gap` are arbitrary
  parameters; "for games of the assumed class" enters only as the hypothesis `hmono` of `ext_of_monotone`, that the
  gap does not increase under more knowledge (that is property C07); from it follows the hypothesis `hext` of `best_mono`
  (every candidate of size `s` has one of size `s + 1` whose mean is not larger).
-/
import ICG.Lemmas.Search
import ICG.Lemmas.BestStates
import ICG.Lemmas.Enum
import Mathlib.Algebra.Order.Field.Rat
import Mathlib.Algebra.Order.Ring.Rat

namespace ICG.C11
open ICG ICG.Search Table

/-! ### enumeration -/
section enum
variable {β : Type}

/-- the size bound the code uses: `max_size`, or the number of unknown coalitions for `None` -/
def bound (unknown : List β) : Option Nat → Nat
  | some k => k
  | none => unknown.length

theorem enum_mem (unknown : List β) (k : Option Nat) (s : List β) :
    s ∈ possibleSeqs unknown k ↔ s.Sublist unknown ∧ s.length ≤ bound unknown k := by
  cases k <;> simp only [possibleSeqs, bound, List.mem_flatMap, List.mem_range, mem_combos] <;> constructor
  · rintro ⟨i, hi, hs, rfl⟩; exact ⟨hs, Nat.le_of_lt_succ hi⟩
  · rintro ⟨hs, hl⟩; exact ⟨s.length, Nat.lt_succ_of_le hl, hs, rfl⟩
  · rintro ⟨i, hi, hs, rfl⟩; exact ⟨hs, Nat.le_of_lt_succ hi⟩
  · rintro ⟨hs, hl⟩; exact ⟨s.length, Nat.lt_succ_of_le hl, hs, rfl⟩

theorem enum_nodup (unknown : List β) (h : unknown.Nodup) (k : Option Nat) : (possibleSeqs unknown k).Nodup := by
  simp only [possibleSeqs]
  rw [List.nodup_flatMap]
  refine ⟨fun i _ => combos_nodup h, ?_⟩
  refine List.Pairwise.imp ?_ (List.nodup_range (n := _))
  intro i j hij
  simp only [Function.onFun, List.disjoint_left, mem_combos]
  rintro s ⟨_, h1⟩ ⟨_, h2⟩
  exact hij (h1.symm.trans h2)

/-- as a set: the enumeration may list the elements in another order -/
theorem enum_of_nodup [DecidableEq β] (unknown : List β) (h : unknown.Nodup) (k : Option Nat) {l : List β}
    (hl : l.Nodup) (hsub : ∀ c ∈ l, c ∈ unknown) (hlen : l.length ≤ bound unknown k) :
    ∃ q ∈ possibleSeqs unknown k, q.length = l.length ∧ ∀ c, c ∈ q ↔ c ∈ l := by
  have hmem : ∀ c, c ∈ unknown.filter (fun c => decide (c ∈ l)) ↔ c ∈ l := fun c => by
    rw [List.mem_filter, decide_eq_true_eq]
    exact ⟨fun hc => hc.2, fun hc => ⟨hsub c hc, hc⟩⟩
  have hq : (unknown.filter (fun c => decide (c ∈ l))).length = l.length :=
    ((List.perm_ext_iff_of_nodup (h.filter _) hl).mpr hmem).length_eq
  exact ⟨_, (enum_mem unknown k _).mpr ⟨List.filter_sublist, hq ▸ hlen⟩, hq, hmem⟩

/-- **C11_enum**: for a duplicate-free list of unknown coalitions every sub-list (= subset) of length ≤ k
    occurs exactly once, nothing else occurs, and the lengths are non-decreasing. -/
theorem enum [DecidableEq β] (unknown : List β) (h : unknown.Nodup) (k : Option Nat) :
    (∀ s : List β, s.Sublist unknown → s.length ≤ bound unknown k → (possibleSeqs unknown k).count s = 1) ∧
    (∀ s ∈ possibleSeqs unknown k, s.Sublist unknown ∧ s.length ≤ bound unknown k) ∧
    ((possibleSeqs unknown k).map List.length).Pairwise (· ≤ ·) := by
  refine ⟨fun s hs hl => ?_, fun s hs => (enum_mem unknown k s).mp hs, ?_⟩
  · exact List.count_eq_one_of_mem (enum_nodup unknown h k) ((enum_mem unknown k s).mpr ⟨hs, hl⟩)
  · simp only [possibleSeqs, List.map_flatMap]
    rw [List.pairwise_flatMap]
    refine ⟨fun i _ => ?_, ?_⟩
    · apply List.pairwise_of_forall_mem_list
      intro a ha b hb
      simp only [List.mem_map, mem_combos] at ha hb
      obtain ⟨_, ⟨_, h1⟩, rfl⟩ := ha
      obtain ⟨_, ⟨_, h2⟩, rfl⟩ := hb
      omega
    · refine List.Pairwise.imp ?_ (List.pairwise_lt_range (n := _))
      intro i j hij x hx y hy
      simp only [List.mem_map, mem_combos] at hx hy
      obtain ⟨_, ⟨_, h1⟩, rfl⟩ := hx
      obtain ⟨_, ⟨_, h2⟩, rfl⟩ := hy
      omega

example : possibleSeqs [3, 5, 6] (some 2) = [[], [3], [5], [6], [3, 5], [3, 6], [5, 6]] := by decide
example : possibleSeqs [3, 5, 6] none = [[], [3], [5], [6], [3, 5], [3, 6], [5, 6], [3, 5, 6]] := by decide
example : (possibleSeqs [3, 5, 6] (some 2)).count [3, 6] = 1 :=
  (enum [3, 5, 6] (by decide) (some 2)).1 [3, 6] (by decide) (by decide)

end enum

/-! ### the value reported for a set -/
section value
variable {α γ : Type} [Zero α]

/-- the reference quantity: the gap of the incomplete game in which exactly `K` (and ∅) is known, with the
    hidden values of game `v`, after the bound computer ran on it -/
def gapOfKnowledge (compute : Table α → Except Err (Table α)) (gap : Table α → Except Err γ)
    (n : Nat) (v : Nat → α) (K : Nat → Bool) : Except Err γ :=
  match compute (exactTable n v K) with
  | .error e => .error e
  | .ok t => gap t

/-- the body shared by the search task (`seqGap`) and the meta-game (`metaValue`) -/
theorem applied_gap {δ : Type} (compute : Table α → Except Err (Table α)) (gap : Table α → Except Err γ)
    (pack : γ → δ) (t : Table α) (v : Nat → α) (ids : List Nat) {K : Nat → Bool}
    (hr : ∀ c ∈ ids, c < 2 ^ t.n) (hK : ∀ c, ids.contains c = K c) :
    (match applyIds t v ids with
      | .error (e, _) => (.error e : Except Err (Table α × δ))
      | .ok t1 =>
        match compute t1 with
        | .error e => .error e
        | .ok t2 =>
          match gap t2 with
          | .error e => .error e
          | .ok g => .ok (t2, pack g)).map (fun r : Table α × δ => r.2) =
      (gapOfKnowledge compute gap t.n v K).map pack := by
  have hK' : (fun c => ids.contains c) = K := funext hK
  simp only [applyIds_ok t v ids hr, hK', gapOfKnowledge]
  cases compute (exactTable t.n v K) with
  | error e => rfl
  | ok t2 => dsimp only; cases gap t2 <;> rfl

/-- **C11_value**: the task of the exhaustive search reports, for EVERY state `t` of the scratch table it
    receives (stale knowledge, stale bounds, left-overs of earlier tasks of the same chunk), the gap of
    the game knowing exactly `start ∪ set` — because `set_known_values` re-initialises the table. -/
theorem value (compute : Table α → Except Err (Table α)) (gap : Table α → Except Err γ) (v : Nat → α)
    (start : List Nat) (t : Table α) (seq : List Nat) (h : ∀ c, c ∈ seq ∨ c ∈ start → c < 2 ^ t.n) :
    (seqGap compute gap v start t seq).map (·.2) =
      (gapOfKnowledge compute gap t.n v (fun c => decide (c ∈ seq ∨ c ∈ start))).map (fun g => (seq, g)) :=
  applied_gap compute gap (fun g => (seq, g)) t v (seqIds seq start)
    (fun c hc => h c ((mem_seqIds seq start c).mp hc))
    (fun c => by rw [Bool.eq_iff_iff]; simp [mem_seqIds])

/-- the table written, hence the reported gap, does not depend on the order in which the ids are written (Python
    iterates a set) -/
theorem value_order_free (t : Table α) (v : Nat → α) (ids ids' : List Nat) (h : ∀ c, c ∈ ids ↔ c ∈ ids') :
    applyIds t v ids = applyIds t v ids' := applyIds_congr t v ids ids' h

end value

/-! ### independence of the schedule -/
section schedule
variable {α γ : Type} [Zero α]

/-- the result the search reports for one sequence, as a function of the sequence alone -/
def seqResult (compute : Table α → Except Err (Table α)) (gap : Table α → Except Err γ) (n : Nat) (v : Nat → α)
    (start : List Nat) (seq : List Nat) : Except Err (List Nat × γ) :=
  (gapOfKnowledge compute gap n v (fun c => decide (c ∈ seq ∨ c ∈ start))).map (fun g => (seq, g))

theorem seqGap_n {compute : Table α → Except Err (Table α)} {gap : Table α → Except Err γ}
    (hn : ∀ t t', compute t = .ok t' → t'.n = t.n) {v : Nat → α} {start : List Nat} {t t2 : Table α} {seq : List Nat}
    {r : List Nat × γ} (h : seqGap compute gap v start t seq = .ok (t2, r)) : t2.n = t.n := by
  unfold seqGap applySeq at h
  cases h1 : applyIds t v (seqIds seq start) with
  | error x => rw [h1] at h; cases h
  | ok t1 =>
    rw [h1] at h
    dsimp only at h
    cases h2 : compute t1 with
    | error e => rw [h2] at h; cases h
    | ok t2' =>
      rw [h2] at h
      dsimp only at h
      cases h3 : gap t2' with
      | error e => rw [h3] at h; cases h
      | ok g => rw [h3] at h; cases h; exact (hn _ _ h2).trans (applyIds_n h1)

/-- what the pool theorem `runPool_of_stateFree` asks of the task -/
theorem seqGap_stateFree (compute : Table α → Except Err (Table α)) (gap : Table α → Except Err γ)
    (hn : ∀ t t', compute t = .ok t' → t'.n = t.n) (n : Nat) (v : Nat → α) (start : List Nat) :
    StateFree (seqGap compute gap v start) (fun t => t.n = n)
      (fun seq => ∀ c, c ∈ seq ∨ c ∈ start → c < 2 ^ n) (seqResult compute gap n v start) := by
  intro t seq ht hseq
  have hv := value compute gap v start t seq (by rw [ht]; exact hseq)
  simp only [seqResult]
  rw [ht] at hv
  rw [← hv]
  cases hst : seqGap compute gap v start t seq with
  | error e => rfl
  | ok p => exact ⟨(seqGap_n hn hst).trans ht, rfl⟩

/-- **C11_schedule_free**: for EVERY partition of the task list into consecutive chunks (every number of
    worker processes, every chunk size), threading the scratch table through each chunk from the
    parent's snapshot — whatever that snapshot holds in its rows — the results are the sequential map
    of `seqResult`.  Only assumption on the bound computer: it returns a table for the same players. -/
theorem schedule_free (compute : Table α → Except Err (Table α)) (gap : Table α → Except Err γ)
    (hn : ∀ t t', compute t = .ok t' → t'.n = t.n) (v : Nat → α) (start : List Nat) (scratch : Table α)
    (chunks : List (List (List Nat)))
    (hr : ∀ seq ∈ chunks.flatten, ∀ c, c ∈ seq ∨ c ∈ start → c < 2 ^ scratch.n) :
    runPool (seqGap compute gap v start) scratch chunks =
      mapE (seqResult compute gap scratch.n v start) chunks.flatten :=
  runPool_of_stateFree (seqGap_stateFree compute gap hn scratch.n v start) scratch rfl chunks hr

/-- the chunking `Pool(processes).starmap` really uses (`poolChunks`) is such a partition. -/
theorem chunksOf_flatten {τ : Type} (tasks : List τ) (procs : Nat) (hp : 0 < procs) :
    (poolChunks tasks procs).flatten = tasks := poolChunks_flatten tasks hp

/-- hence `get_exploitabilities_of_action_sequences` returns the same list for every number of processes:
    one entry per enumerated set, in enumeration order, each with the gap of `start ∪ set`. -/
theorem search_result (compute : Table α → Except Err (Table α)) (gap : Table α → Except Err γ)
    (hn : ∀ t t', compute t = .ok t' → t'.n = t.n) (t : Table α) (v : Nat → α) (k : Option Nat)
    (procs : Nat) (hp : 0 < procs) :
    getExploitabilities compute gap t v k procs =
      mapE (seqResult compute gap t.n v (knownOf t)) (possibleSeqs (unknownOf t) k) := by
  have hp' : procs ≠ 0 := Nat.ne_of_gt hp
  simp only [getExploitabilities, starmap, hp', ↓reduceIte]
  rw [schedule_free compute gap hn v (knownOf t) t, poolChunks_flatten _ hp]
  rw [poolChunks_flatten _ hp]
  intro seq hseq c hc
  have hsub := ((enum_mem (unknownOf t) k seq).mp hseq).1
  rcases hc with hc | hc
  · have := hsub.subset hc
    simp only [unknownOf, allCoalitions, List.mem_filter, List.mem_range] at this
    exact this.1
  · simp only [knownOf, allCoalitions, List.mem_filter, List.mem_range] at hc
    exact hc.1

/-! non-vacuity: 3 players, hidden game `c ↦ 10·c`, identity computer, gap = sum of the known values; a
    scratch table that "knows" coalition 6 with a stale value; two chunkings and the sequential map agree -/

/-- the gap used in the examples: the sum of the known values -/
def demoGap (t : Table Int) : Except Err Int := .ok ((knownOf t).map t.hi).sum
/-- a scratch table that knows coalition 6 with the stale value 999 -/
def demoScratch : Table Int := (Table.init 3).putValue 6 999

example : (seqGap (fun t => .ok t) demoGap (fun c => 10 * c) [0, 1, 2, 4, 7] demoScratch [3, 5]).toOption.map (·.2)
    = some ([3, 5], 220) := by decide +kernel
example :
    (runPool (seqGap (fun t => .ok t) demoGap (fun c => 10 * c) [0, 1, 2, 4, 7]) demoScratch
      [[[], [3]], [[5]], [[3, 5]]]).toOption = some [([], 140), ([3], 170), ([5], 190), ([3, 5], 220)] ∧
    (runPool (seqGap (fun t => .ok t) demoGap (fun c => 10 * c) [0, 1, 2, 4, 7]) demoScratch
      [[[], [3], [5], [3, 5]]]).toOption = some [([], 140), ([3], 170), ([5], 190), ([3, 5], 220)] := by
  decide +kernel

example : poolChunks (List.range 24) 2 = (List.range 8).map (fun i => [3 * i, 3 * i + 1, 3 * i + 2]) := by decide
example : (poolChunks (List.range 7) 1).map List.length = [2, 2, 2, 1] := by decide

end schedule

/-! ### the meta-game -/
section metagame
variable {α γ : Type} [Zero α]

/-- **C11_meta**: `MetaGame.get_value` of the meta-coalition `m`, whatever its private scratch table holds,
    is the gap of the game knowing exactly minimal information plus the coalitions `m` selects — the very
    quantity (`gapOfKnowledge`) the exhaustive search reports for that set with start = minimal
    information (`value`). -/
theorem meta_value (compute : Table α → Except Err (Table α)) (gap : Table α → Except Err γ) (v : Nat → α)
    (t : Table α) (m : Nat) (inner : List Nat) (hin : metaInner t.n m = .ok inner)
    (hr : ∀ c, c ∈ inner ∨ c ∈ minimalCoalitions t.n → c < 2 ^ t.n) :
    (metaValue compute gap v t m).map (·.2) =
      gapOfKnowledge compute gap t.n v (fun c => decide (c ∈ inner ∨ c ∈ minimalCoalitions t.n)) := by
  have := applied_gap compute gap id t v (inner ++ minimalCoalitions t.n)
    (fun c hc => hr c (List.mem_append.mp hc))
    (K := fun c => decide (c ∈ inner ∨ c ∈ minimalCoalitions t.n)) (fun c => by rw [Bool.eq_iff_iff]; simp)
  rw [metaValue, hin]
  exact this.trans (by cases gapOfKnowledge compute gap t.n v _ <;> rfl)

/-- the meta-game and the search task agree on every set, for all scratch tables of both -/
theorem meta_game (compute : Table α → Except Err (Table α)) (gap : Table α → Except Err γ) (v : Nat → α)
    (t t' : Table α) (hn : t'.n = t.n) (m : Nat) (inner : List Nat) (hin : metaInner t.n m = .ok inner)
    (hr : ∀ c, c ∈ inner ∨ c ∈ minimalCoalitions t.n → c < 2 ^ t.n) :
    (metaValue compute gap v t m).map (fun r => (inner, r.2)) =
      (seqGap compute gap v (minimalCoalitions t.n) t' inner).map (·.2) := by
  have h1 := meta_value compute gap v t m inner hin hr
  have h2 := value compute gap v (minimalCoalitions t.n) t' inner (by rw [hn]; exact hr)
  rw [h2, hn, ← h1]
  cases metaValue compute gap v t m <;> rfl

example : metaPlayers 3 = [3, 5, 6] ∧ minimalCoalitions 3 = [0, 7, 1, 2, 4] := by decide +kernel
example : metaInner 3 5 = .ok [3, 6] := by decide +kernel

end metagame

/-! ### best-states -/
section best
variable {α : Type} [Field α] [LinearOrder α] [IsStrictOrderedRing α]

/-- **C11_best_min**: the selection of `get_best_exploitability` (`bestStates`) succeeds; a size without candidate
    keeps the placeholder row of −1's and the empty set; for a size with candidates the reported row and set are those
    of the first candidate, in enumeration order, whose mean over the sampled games is minimal (`FirstMin`).
    (`mean p.2 ≠ -1` excludes the flaw of the placeholder test `np.mean(row) == -1`; it cannot fail for
    non-negative gaps.) -/
theorem best_min (maxSteps reps : Nat) (hreps : 0 < reps) (cands : List (List Nat × List α))
    (hlen : ∀ p ∈ cands, p.1.length ≤ maxSteps) :
    ∃ b, bestStates maxSteps reps cands = .ok b ∧ b.length = maxSteps + 1 ∧
      ∀ s, s ≤ maxSteps →
        (ofSize cands s = [] → b[s]? = some (List.replicate reps (-1), [])) ∧
        (∀ p, FirstMin (fun q => mean q.2) (ofSize cands s) p → mean p.2 ≠ -1 → b[s]? = some (p.2, p.1)) := by
  obtain ⟨b, h1, h2, h3⟩ := bestFold_rows cands
    (List.replicate (maxSteps + 1) ((List.replicate reps (-1) : List α), ([] : List Nat)))
    (fun p hp => by have := hlen p hp; simp only [List.length_replicate]; omega)
  simp only [List.length_replicate] at h2 h3
  refine ⟨b, h1, h2, fun s hs => ?_⟩
  have hrow := h3 s (Nat.lt_succ_of_le hs)
  simp only [List.getElem_replicate] at hrow
  refine ⟨fun hnil => ?_, fun p hmin hp => ?_⟩
  · rw [hrow, hnil]; rfl
  · exact hrow.trans (congrArg some (foldl_upd_firstMin (mean_replicate (-1) hreps) hmin hp))

/-- consequence: the reported value is the minimum of the mean over ALL enumerated sets of that size and is
    attained by the reported set — so no strategy evaluated on those games is better at that step. -/
theorem best_is_min (maxSteps reps : Nat) (hreps : 0 < reps) (cands : List (List Nat × List α))
    (hlen : ∀ p ∈ cands, p.1.length ≤ maxSteps) (hne : ∀ p ∈ cands, mean p.2 ≠ -1)
    (s : Nat) (hs : s ≤ maxSteps) (hex : ofSize cands s ≠ []) :
    ∃ b p, bestStates maxSteps reps cands = .ok b ∧ p ∈ cands ∧ p.1.length = s ∧ b[s]? = some (p.2, p.1) ∧
      ∀ q ∈ cands, q.1.length = s → mean p.2 ≤ mean q.2 := by
  obtain ⟨b, hb, _, hall⟩ := best_min maxSteps reps hreps cands hlen
  obtain ⟨p, hmin⟩ := exists_firstMin (fun q : List Nat × List α => mean q.2) _ hex
  have hp := mem_ofSize.mp hmin.mem
  exact ⟨b, p, hb, hp.1, hp.2, (hall s hs).2 p hmin (hne p hp.1),
    fun q hq hqs => hmin.le q (mem_ofSize.mpr ⟨hq, hqs⟩)⟩

/-- **C11_best_mono**: the best-states curve does not increase from size `s` to `s+1`, provided every
    size-`s` candidate has a size-`s+1` candidate whose mean is not larger. -/
theorem best_mono (maxSteps reps : Nat) (hreps : 0 < reps) (cands : List (List Nat × List α))
    (hlen : ∀ p ∈ cands, p.1.length ≤ maxSteps) (hne : ∀ p ∈ cands, mean p.2 ≠ -1)
    (s : Nat) (hs : s + 1 ≤ maxSteps) (hex : ofSize cands s ≠ [])
    (hext : ∀ p ∈ cands, p.1.length = s → ∃ q ∈ cands, q.1.length = s + 1 ∧ mean q.2 ≤ mean p.2) :
    ∃ b r1 a1 r2 a2, bestStates maxSteps reps cands = .ok b ∧ b[s]? = some (r1, a1) ∧
      b[s + 1]? = some (r2, a2) ∧ mean r2 ≤ mean r1 := by
  obtain ⟨b, p, hb, hp, hps, hbs, _⟩ := best_is_min maxSteps reps hreps cands hlen hne s (Nat.le_of_succ_le hs) hex
  obtain ⟨q, hq, hqs, hqp⟩ := hext p hp hps
  have hex' : ofSize cands (s + 1) ≠ [] := List.ne_nil_of_mem (mem_ofSize.mpr ⟨hq, hqs⟩)
  obtain ⟨b', p', hb', _, _, hbs', hmin⟩ := best_is_min maxSteps reps hreps cands hlen hne (s + 1) hs hex'
  obtain rfl : b' = b := Except.ok.inj (hb'.symm.trans hb)
  exact ⟨b', p.2, p.1, p'.2, p'.1, hb, hbs, hbs', le_trans (hmin q hq hqs) hqp⟩

/-- the hypothesis `hext` of `best_mono` for the real enumeration, from "the per-game gaps do not increase under more
    knowledge" (C07) on the same sampled games -/
theorem ext_of_monotone (unknown : List Nat) (k : Option Nat) (colOf : List Nat → List α)
    (hmono : ∀ S T : List Nat, S.Sublist T → T.Sublist unknown → List.Forall₂ (· ≤ ·) (colOf T) (colOf S))
    (s : Nat) (hs : s + 1 ≤ bound unknown k) (hs' : s + 1 ≤ unknown.length) :
    let cands := (possibleSeqs unknown k).map (fun q => (q, colOf q))
    ∀ p ∈ cands, p.1.length = s → ∃ q ∈ cands, q.1.length = s + 1 ∧ mean q.2 ≤ mean p.2 := by
  intro cands p hp hps
  simp only [cands, List.mem_map] at hp
  obtain ⟨S, hS, rfl⟩ := hp
  obtain ⟨hsub, _⟩ := (enum_mem unknown k S).mp hS
  simp only at hps
  subst hps
  obtain ⟨T, hST, hTu, hTlen⟩ := sublist_extend hsub hs'
  refine ⟨(T, colOf T), ?_, hTlen, mean_le_mean _ _ (hmono S T hST hTu)⟩
  simp only [cands, List.mem_map]
  exact ⟨T, (enum_mem unknown k T).mpr ⟨hTu, hTlen ▸ hs⟩, rfl⟩

/-- non-vacuity: three sets of size 1, the first minimiser wins the tie; size 2 has no candidate. -/
example : bestStates (α := Rat) 2 2 [([], [5, 7]), ([3], [4, 2]), ([5], [1, 3]), ([6], [2, 2])] =
    .ok [([5, 7], []), ([1, 3], [5]), ([-1, -1], [])] := by decide +kernel

/-- the theorem is about exactly the function the driver runs: it specialises (by unification alone) to
    `bestStates` instantiated with core `Rat`'s own instances -/
example (cands : List (List Nat × List Rat)) (h : ∀ p ∈ cands, p.1.length ≤ 2) :
    ∃ b, @bestStates Rat Rat.instAdd ⟨0⟩ ⟨1⟩ Rat.instNeg Rat.instDiv Rat.instNatCast inferInstance Rat.instLT
      inferInstance 2 2 cands = .ok b ∧ b.length = 3 := by
  obtain ⟨b, hb, hl, _⟩ := best_min (α := Rat) 2 2 (by decide) cands h
  exact ⟨b, hb, hl⟩

end best

end ICG.C11

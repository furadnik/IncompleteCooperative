/-
  Property C16 — the size-aggregated (linear) environment (icg_gym_linear.py), theorems about
  ICG.Model.Env (`subsetSizes`, `bincount`, `linMask`, `linState`, `linCandidates`, `linStep`, `linReset`).

  "In the size-aggregated (linear) environment the mask allows size k iff some explorable coalition of
   size k is still unknown; a step with size k reveals exactly one previously unknown coalition of that
   size, reports it, and returns the underlying environment's reward and done flag; and the observation is
   the per-size sum of the underlying observation, of length n, after reset and after every step."

  The coalition `np.random.choice` draws is an input of the model (`chosen`, an index into the explorable
  list); the theorems hold for every value the sampler can return (`chosen ∈ linCandidates e k`).
  Length: `np.bincount` returns `max size + 1` entries — `linState_length` is the exact formula; it equals `n`
  when a coalition of size `n − 1` is explorable and N is not (`linState_length_eq_n`), e.g. for the
  minimal initial knowledge and `n ≥ 3` (`minimal_has_pred_size`).  For other initial lists the length can
  be smaller than `n` (example at the end) — the property's "of length n" is about the minimal case.
-/
import ICG.Props.C09
import ICG.Lemmas.Enum
import ICG.Lemmas.ListMax

namespace ICG.C16
open ICG Table Env ICG.C09

variable {α : Type}

/-! ### `np.bincount` -/

theorem zip_filter_map {β : Type} (f : Nat → Nat) (g : Nat → β) (k : Nat) :
    ∀ l : List Nat, (((l.map f).zip (l.map g)).filter (fun p => p.1 == k)).map (·.2)
      = (l.filter (fun c => f c == k)).map g := by
  intro l
  induction l with
  | nil => rfl
  | cons c l ih =>
    simp only [List.map_cons, List.zip_cons_cons, List.filter_cons]
    cases h : f c == k with
    | true => simp only [if_true, List.map_cons, ih]
    | false => simp only [Bool.false_eq_true, if_false, ih]

/-- `np.bincount(sizes, weights)` with both arrays given over one list: entry `k` sums the weights of the positions of
    size `k`; there are `max size + 1` entries -/
theorem bincount_map {β : Type} [Add β] [Zero β] (f : Nat → Nat) (g : Nat → β) (l : List Nat) {M : Nat}
    (hM : listMax? (l.map f) = some M) :
    bincount (l.map f) (l.map g) =
      .ok ((List.range (M + 1)).map (fun k => listSum ((l.filter (fun c => f c == k)).map g))) := by
  simp only [bincount, List.length_map, ne_eq, not_true_eq_false, ↓reduceIte, hM, zip_filter_map]

theorem foldl_add_ne_zero (l : List Nat) (a : Nat) :
    l.foldl (· + ·) a ≠ 0 ↔ a ≠ 0 ∨ ∃ x ∈ l, x ≠ 0 := by
  induction l generalizing a with
  | nil => simp
  | cons y l ih =>
    simp only [List.foldl, ih, List.mem_cons]
    constructor
    · rintro (h | ⟨x, hx, hne⟩)
      · by_cases ha : a = 0
        · right; exact ⟨y, Or.inl rfl, by omega⟩
        · left; exact ha
      · right; exact ⟨x, Or.inr hx, hne⟩
    · rintro (h | ⟨x, hx | hx, hne⟩)
      · left; omega
      · left; subst hx; omega
      · right; exact ⟨x, hx, hne⟩

theorem listSum_ne_zero (l : List Nat) : listSum l ≠ 0 ↔ ∃ x ∈ l, x ≠ 0 := by
  simp [listSum, foldl_add_ne_zero]

/-! ### sizes, mask, observation -/

theorem maxSize_exists {e : Env α} (hne : e.explorable ≠ []) :
    ∃ M, listMax? e.subsetSizes = some M ∧ (∃ c ∈ e.explorable, size c = M) ∧ ∀ c ∈ e.explorable, size c ≤ M := by
  have : e.subsetSizes ≠ [] := by simpa [subsetSizes] using hne
  obtain ⟨M, hM⟩ := listMax?_isSome this
  refine ⟨M, hM, ?_, fun c hc => le_listMax? hM (List.mem_map.mpr ⟨c, hc, rfl⟩)⟩
  obtain ⟨c, hc, hs⟩ := List.mem_map.mp (listMax?_mem hM)
  exact ⟨c, hc, hs⟩

/-- **observation**: entry `k` is the sum (in id order, from 0) of the underlying observation over the
    explorable coalitions of size `k`; the vector has `max size + 1` entries -/
theorem linState_spec [Zero α] [Add α] {e : Env α} {M : Nat} (hM : listMax? e.subsetSizes = some M) :
    e.linState = .ok ((List.range (M + 1)).map (fun k =>
      listSum ((e.explorable.filter (fun c => size c == k)).map
        (fun c => if e.table.known c then e.norm c else 0)))) :=
  bincount_map size _ e.explorable hM

theorem linState_eq_bincount [Zero α] [Add α] (e : Env α) : e.linState = bincount e.subsetSizes e.state := rfl

theorem linState_length [Zero α] [Add α] {e : Env α} (hne : e.explorable ≠ []) :
    ∃ l M, e.linState = .ok l ∧ listMax? e.subsetSizes = some M ∧ l.length = M + 1 := by
  obtain ⟨M, hM, _, _⟩ := maxSize_exists hne
  exact ⟨_, M, linState_spec hM, hM, by simp⟩

/-- **mask**: size `k` is allowed iff some explorable coalition of size `k` is still unknown -/
theorem linMask_spec {e : Env α} (hne : e.explorable ≠ []) :
    ∃ m, e.linMask = .ok m ∧ ∀ k : Nat, m[k]? = some true ↔ ∃ c ∈ e.explorable, size c = k ∧ e.table.known c = false := by
  obtain ⟨M, hM, _, hmax⟩ := maxSize_exists hne
  have hb := bincount_map size (fun c => if (!e.table.known c) = true then (1 : Nat) else 0) e.explorable hM
  have hw : e.actionMasks.map (fun b => if b then (1 : Nat) else 0) =
      e.explorable.map (fun c => if (!e.table.known c) = true then (1 : Nat) else 0) := by
    rw [actionMasks, List.map_map]; rfl
  refine ⟨_, by rw [linMask, hw, subsetSizes, hb], fun k => ?_⟩
  simp only [List.getElem?_map]
  by_cases hk : k < M + 1
  · simp only [List.getElem?_range hk, Option.map_some, Option.some.injEq, bne_iff_ne, ne_eq]
    rw [← ne_eq, listSum_ne_zero]
    constructor
    · rintro ⟨x, hx, hne0⟩
      obtain ⟨c, hc, rfl⟩ := List.mem_map.mp hx
      obtain ⟨hce, hsz⟩ := List.mem_filter.mp hc
      refine ⟨c, hce, by simpa using hsz, ?_⟩
      cases hkc : e.table.known c with
      | false => rfl
      | true => simp [hkc] at hne0
    · rintro ⟨c, hce, hsz, hkc⟩
      exact ⟨1, List.mem_map.mpr ⟨c, List.mem_filter.mpr ⟨hce, by simpa using hsz⟩, by simp [hkc]⟩, Nat.one_ne_zero⟩
  · have hge : M + 1 ≤ k := Nat.le_of_not_lt hk
    have : (List.range (M + 1))[k]? = none := List.getElem?_eq_none (by rw [List.length_range]; exact hge)
    simp only [this, Option.map_none]
    constructor
    · intro h; cases h
    · rintro ⟨c, hce, hsz, _⟩
      exact absurd (hsz ▸ hmax c hce) (Nat.not_le_of_gt hge)

/-- on a reachable state: size `k` is allowed iff an explorable coalition of size `k` has not been revealed -/
theorem linMask_inv {compute : Table α → Except Err (Table α)} {P : Params} {e : Env α} {s : Spec α}
    (h : Inv compute P e s) (hne : P.explorable ≠ []) :
    ∃ m, e.linMask = .ok m ∧ ∀ k : Nat, m[k]? = some true ↔ ∃ c ∈ P.explorable, size c = k ∧ s.revealed c = false := by
  obtain ⟨m, hm, hspec⟩ := linMask_spec (e := e) (by rw [h.ex]; exact hne)
  refine ⟨m, hm, fun k => (hspec k).trans ?_⟩
  rw [h.ex]
  exact ⟨fun ⟨c, hc, hsz, hk⟩ => ⟨c, hc, hsz, h.known_explorable hc ▸ hk⟩,
    fun ⟨c, hc, hsz, hr⟩ => ⟨c, hc, hsz, (h.known_explorable hc).trans hr⟩⟩

/-! ### step -/

theorem mem_linCandidates {e : Env α} {k i : Nat} :
    i ∈ e.linCandidates k ↔ ∃ c, e.explorable[i]? = some c ∧ size c = k ∧ e.table.known c = false := by
  simp only [linCandidates, List.mem_filter, List.mem_range]
  constructor
  · rintro ⟨_, h⟩
    cases hc : e.explorable[i]? with
    | none => simp [hc] at h
    | some c =>
      simp only [hc, Bool.and_eq_true, beq_iff_eq, Bool.not_eq_true'] at h
      exact ⟨c, rfl, h.1, h.2⟩
  · rintro ⟨c, hc, hsz, hk⟩
    have hlen : i < e.explorable.length := by
      rcases Nat.lt_or_ge i e.explorable.length with hl | hl
      · exact hl
      · rw [List.getElem?_eq_none hl] at hc; cases hc
    exact ⟨hlen, by simp [hc, hsz, hk]⟩

/-- the candidates are non-empty exactly when the mask allows the size -/
theorem linCandidates_ne_nil {e : Env α} {k : Nat} :
    e.linCandidates k ≠ [] ↔ ∃ c ∈ e.explorable, size c = k ∧ e.table.known c = false := by
  constructor
  · intro h
    obtain ⟨i, hi⟩ := List.exists_mem_of_ne_nil _ h
    obtain ⟨c, hc, hsz, hk⟩ := mem_linCandidates.mp hi
    exact ⟨c, List.mem_of_getElem? hc, hsz, hk⟩
  · rintro ⟨c, hc, hsz, hk⟩
    obtain ⟨i, hi⟩ := List.mem_iff_getElem?.mp hc
    exact List.ne_nil_of_mem (mem_linCandidates.mpr ⟨c, hi, hsz, hk⟩)

section step
variable [Zero α] [Neg α] [Sub α] [Add α] [DecidableEq α]
variable {compute : Table α → Except Err (Table α)} {gap : Table α → Except Err α}

/-- for every choice the sampler can make, the linear step IS the inner step on that coalition, with the
    observation aggregated by size -/
theorem linStep_eq {e : Env α} {k chosen : Nat} (hk : k < e.table.n) (hc : chosen ∈ e.linCandidates k) :
    linStep compute gap e k chosen = some (match step compute gap e chosen with
      | .error x => .error x
      | .ok (e', out) =>
        match bincount e'.subsetSizes out.obs with
        | .ok lin => .ok (e', { out with obs := lin })
        | .error err => .error (err, e')) := by
  have h1 : (0 : Int) ≤ (k : Int) ∧ (k : Int) < (e.table.n : Int) :=
    ⟨Int.natCast_nonneg k, Int.ofNat_lt.mpr hk⟩
  have h2 : (e.linCandidates k).isEmpty = false := by
    cases hl : e.linCandidates k with
    | nil => rw [hl] at hc; cases hc
    | cons _ _ => rfl
  have h3 : (e.linCandidates k).contains chosen = true := List.contains_iff_mem.mpr hc
  simp only [linStep, h1, and_self, if_true, Int.toNat_natCast, h2, Bool.false_eq_true, if_false, h3]
  rfl

/-- **step** at a reachable state, for any legal `chosen`: the call reveals exactly the coalition `c` behind
    `chosen` — an explorable coalition of size `k` that was not known — reports its id, returns the inner
    environment's reward and done flag, and the observation is the per-size sum of the inner observation. -/
theorem linStep_spec (hok : ComputeOK compute) {P : Params} {e e' : Env α} {s : Spec α} {k chosen : Nat}
    {out : StepOut α} (hinv : Inv compute P e s) (hk : k < P.n) (hc : chosen ∈ e.linCandidates k)
    (hstep : step compute gap e chosen = .ok (e', out)) :
    ∃ lin c, linStep compute gap e k chosen = some (.ok (e', { out with obs := lin })) ∧
      P.explorable[chosen]? = some c ∧ size c = k ∧ s.revealed c = false ∧
      Inv compute P e' (s.step c) ∧ out.chosen = c ∧
      e'.reward gap = .ok out.reward ∧ out.done = e'.done ∧ e'.linState = .ok lin := by
  obtain ⟨c, hc', hrev, hinv', hch, hobs, hrew, hdone⟩ := step_spec hok hinv hstep
  obtain ⟨c2, hc2, hsz, _⟩ := mem_linCandidates.mp hc
  rw [hinv.ex, hc'] at hc2
  cases hc2
  have hne : e'.explorable ≠ [] := by
    rw [hinv'.ex]
    exact List.ne_nil_of_mem (List.mem_of_getElem? hc')
  obtain ⟨lin, M, hlin, _, _⟩ := linState_length (e := e') hne
  have hb : bincount e'.subsetSizes out.obs = .ok lin := by rw [hobs]; exact hlin
  refine ⟨lin, c, ?_, hc', hsz, hrev, hinv', hch, hrew, hdone, hlin⟩
  rw [linStep_eq (by rw [hinv.n]; exact hk) hc, hstep]
  simp only [hb]

/-- a size the mask does not allow: `np.random.choice` of an empty array raises ValueError, nothing changed -/
theorem linStep_not_allowed {e : Env α} {k : Nat} (hk : k < e.table.n) (hnil : e.linCandidates k = []) (chosen : Nat) :
    linStep compute gap e k chosen = some (.error (.value, e)) := by
  have h1 : (0 : Int) ≤ (k : Int) ∧ (k : Int) < (e.table.n : Int) :=
    ⟨Int.natCast_nonneg k, Int.ofNat_lt.mpr hk⟩
  simp [linStep, h1, hnil]

/-- a size outside `0 ≤ k < n`: the method's own assertion -/
theorem linStep_out_of_range {e : Env α} {k : Int} (hk : k < 0 ∨ (e.table.n : Int) ≤ k) (chosen : Nat) :
    linStep compute gap e k chosen = some (.error (.assert, e)) := by
  have : ¬ ((0 : Int) ≤ k ∧ k < (e.table.n : Int)) := by omega
  simp [linStep, this]

/-- a `chosen` the sampler cannot return is rejected by the model (not a behaviour of the code) -/
theorem linStep_illegal {e : Env α} {k chosen : Nat} (hk : k < e.table.n) (hne : e.linCandidates k ≠ [])
    (hc : chosen ∉ e.linCandidates k) : linStep compute gap e k chosen = none := by
  have h1 : (0 : Int) ≤ (k : Int) ∧ (k : Int) < (e.table.n : Int) :=
    ⟨Int.natCast_nonneg k, Int.ofNat_lt.mpr hk⟩
  have h2 : (e.linCandidates k).isEmpty = false := by
    cases hl : e.linCandidates k with
    | nil => exact absurd hl hne
    | cons _ _ => rfl
  have h3 : (e.linCandidates k).contains chosen = false := by
    cases hcon : (e.linCandidates k).contains chosen with
    | false => rfl
    | true => exact absurd (List.contains_iff_mem.mp hcon) hc
  simp only [linStep, h1, and_self, if_true, Int.toNat_natCast, h2, Bool.false_eq_true, if_false, h3]

end step

section reset
variable [Zero α] [Add α] {compute : Table α → Except Err (Table α)}

/-- **reset**: the inner reset, observation aggregated by size -/
theorem linReset_spec (hok : ComputeOK compute) {P : Params} (hP : P.WF) {e e' : Env α} {s : Spec α}
    {f g : Nat → α} {obs : List α} (hinv : Inv compute P e s) (hne : P.explorable ≠ [])
    (h : reset compute e f g = .ok (e', obs)) :
    ∃ lin, linReset compute e f g = .ok (e', lin) ∧ Inv compute P e' (Spec.init f g) ∧ e'.linState = .ok lin := by
  obtain ⟨hinv', hobs⟩ := Inv.reset hok hP hinv h
  obtain ⟨lin, M, hlin, _, _⟩ := linState_length (e := e') (by rw [hinv'.ex]; exact hne)
  have hb : bincount e'.subsetSizes obs = .ok lin := by rw [hobs]; exact hlin
  exact ⟨lin, by simp [linReset, h, hb], hinv', hlin⟩

end reset

/-! ### the length of the observation -/

/-- `np.bincount` returns `max size + 1` entries; that is `n` when some explorable coalition has
    size `n − 1` and the grand coalition is initially known (so that no explorable coalition has size `n`) -/
theorem linState_length_eq_n [Zero α] [Add α] {compute : Table α → Except Err (Table α)} {P : Params}
    {e : Env α} {s : Spec α} (hinv : Inv compute P e s) (hgrand : grand P.n ∈ P.ik)
    (hpred : ∃ c ∈ P.explorable, size c + 1 = P.n) :
    ∃ l, e.linState = .ok l ∧ l.length = P.n := by
  obtain ⟨c, hc, hsz⟩ := hpred
  have hne : e.explorable ≠ [] := by rw [hinv.ex]; exact List.ne_nil_of_mem hc
  obtain ⟨M, hM, ⟨cM, hcM, hszM⟩, hmax⟩ := maxSize_exists hne
  refine ⟨_, linState_spec hM, ?_⟩
  simp only [List.length_map, List.length_range]
  rw [hinv.ex] at hcM hmax
  have h1 := hmax c hc
  have hcM' := mem_explorable.mp hcM
  have : size cM < P.n := size_lt_of_ne_grand hcM'.1 (fun h => hcM'.2 (by rw [h]; exact hgrand))
  omega

theorem size_of_mem_minimal {n c : Nat} (h : c ∈ minimalCoalitions n) : size c = 0 ∨ size c = n ∨ size c = 1 := by
  simp only [minimalCoalitions, List.mem_append, List.mem_cons, List.not_mem_nil, or_false, List.mem_map] at h
  rcases h with (rfl | rfl) | ⟨i, _, rfl⟩
  · exact Or.inl size_zero
  · exact Or.inr (Or.inl (size_grand n))
  · right; right
    rw [size_eq_length_players, players_fromPlayers (List.pairwise_singleton _ _)]
    rfl

/-- with the minimal initial knowledge and `n ≥ 3` the coalition `{0, …, n−2}` is explorable (its size `n − 1` is none
    of 0, `n`, 1): the observation then has length exactly `n` -/
theorem minimal_has_pred_size {n : Nat} (hn : 3 ≤ n) (budget : Option Nat) :
    ∃ c ∈ (Params.mk n (minimalCoalitions n) budget).explorable, size c + 1 = n := by
  have hsz : size (2 ^ (n - 1) - 1) = n - 1 := size_grand (n - 1)
  refine ⟨2 ^ (n - 1) - 1, mem_explorable.mpr ⟨?_, fun hmem => ?_⟩, by rw [hsz]; omega⟩
  · exact Nat.lt_of_lt_of_le (Nat.sub_lt (Nat.two_pow_pos _) Nat.one_pos)
      (Nat.pow_le_pow_right Nat.two_pos (Nat.sub_le n 1))
  · have := size_of_mem_minimal hmem
    omega

/-! ### non-vacuity: a concrete linear run (toy computer / gap of C09, n = 4, minimal knowledge)

The toy computer puts width 100 on every unknown row: after one reveal 9 of the 10 explorable rows are unknown, reward −900. -/

def demoFull4 : Nat → Int := fun c => [0, 1, 2, 5, 1, 4, 6, 12, 0, 2, 3, 7, 2, 6, 8, 20].getD c 0
def demoNorm4 : Nat → Int := fun c => [0, 0, 0, 2, 0, 2, 3, 8, 0, 1, 1, 4, 1, 3, 4, 16].getD c 0

def demoLin : Option (Env Int × Env Int × StepOut Int) :=
  match mkEnv (toyCompute (100 : Int)) 4 (minimalCoalitions 4) none demoFull4 demoNorm4 with
  | .error _ => none
  | .ok e =>
    -- explorable = [3,5,6,7,9,10,11,12,13,14]; size 3 is allowed; the sampler picks index 6 (coalition 11)
    match linStep (toyCompute 100) toyGap e 3 6 with
    | some (.ok (e', out)) => some (e, e', out)
    | _ => none

example : demoLin.map (fun p => (p.1.subsetSizes, p.1.linMask, p.1.linState)) =
    some ([2, 2, 2, 3, 2, 2, 3, 2, 3, 3], .ok [false, false, true, true], .ok [0, 0, 0, 0]) := by decide +kernel

example : demoLin.map (fun p => (p.2.2.obs, p.2.2.reward, p.2.2.done, p.2.2.chosen)) =
    some ([0, 0, 0, 4], -900, false, 11) := by decide +kernel

example : demoLin.map (fun p => (p.2.1.linMask, p.2.1.linCandidates 3)) =
    some (.ok [false, false, true, true], [3, 8, 9]) := by decide +kernel

/-- a choice the sampler cannot make (index 0 is a pair) is rejected; a size that is not allowed raises
    ValueError; a size out of range the assertion -/
example : (match mkEnv (toyCompute (100 : Int)) 4 (minimalCoalitions 4) none demoFull4 demoNorm4 with
    | .ok e => ((linStep (toyCompute 100) toyGap e 3 0).isNone,
                match linStep (toyCompute 100) toyGap e 1 0 with | some (.error (err, _)) => some err | _ => none,
                match linStep (toyCompute 100) toyGap e 4 0 with | some (.error (err, _)) => some err | _ => none)
    | .error _ => (false, none, none)) = (true, some Err.value, some Err.assert) := by decide +kernel

/-- not always length `n`: when every triple of a 4-player game is initially known the observation has 3 entries -/
example : (match mkEnv (toyCompute (100 : Int)) 4 (minimalCoalitions 4 ++ [7, 11, 13, 14]) none demoFull4 demoNorm4 with
    | .ok e => some (e.linState, e.linMask) | .error _ => none) = some (.ok [0, 0, 0], .ok [false, false, true]) := by
  decide +kernel

end ICG.C16

/-
  Property C02 — the superadditive bounds are tight.

  "For every incomplete game (∅, the singletons and N known) that has at least one superadditive
   completion, and both exact computers: the computed lower bound of every coalition is the MINIMUM of
   w(c) over all superadditive completions w of the known values, and the computed lower-bound vector is
   itself a completion (so all minima are attained simultaneously); the computed upper bound of every
   coalition is the MAXIMUM of w(c) over all completions (attained, for each coalition by its own
   completion).  Moreover lower(c) is the best value of a partition of c into known coalitions, and
   upper(c) = min over known proper supersets T of v(T) − lower(T ∖ c)."

  Theorems about the MODEL functions `sa`, `sac` (as `k.run`, `k = .sa ∨ k = .sac`), composing the
  refinement with ICG.Lemmas.SpecSA2.  All `n`, every linearly ordered abelian group.
  Hypotheses throughout: `MinInfo t.n t.known`, `t.Inv` (known rows carry one value in both cells; the
  unknown rows hold anything), and — where the property says so — `∃ w, Completion' t w`.
-/
import ICG.Lemmas.BoundsCommon

namespace ICG.C02
open ICG Table ICG.SpecSA
open ICG.BoundsCommon

variable {α : Type} [AddCommGroup α] [LinearOrder α] [IsOrderedAddMonoid α]

/-- `w` is a superadditive game on `t.n` players that has the table's value on every known row -/
def Completion' (t : Table α) (w : Nat → α) : Prop := Completion t.n t.known t.lo w

omit [IsOrderedAddMonoid α] in
theorem completion'_iff (t : Table α) (w : Nat → α) :
    Completion' t w ↔ SA t.n w ∧ ∀ c, c < 2 ^ t.n → t.known c = true → w c = t.lo c := Iff.rfl

omit [IsOrderedAddMonoid α] in
theorem run_eq (k : Computer) (hk : k = .sa ∨ k = .sac) (t : Table α) (hmin : MinInfo t.n t.known)
    (hinv : t.Inv) :
    ∃ t', k.run t = .ok t' ∧ t'.n = t.n ∧ t'.known = t.known ∧
      (∀ c, c < 2 ^ t.n → t'.lo c = loSpec t.known t.lo c ∧ t'.hi c = upSpec t.n t.known t.lo c) ∧
      (∀ c, 2 ^ t.n ≤ c → t'.lo c = t.lo c ∧ t'.hi c = t.hi c) := by
  rcases hk with rfl | rfl
  · exact run_spec .sa t hmin hinv
  · exact run_spec .sac t hmin hinv

/-- **C02_lower_le.**  Every completion is at least the computed lower bound, on every row. -/
theorem lower_le (k : Computer) (hk : k = .sa ∨ k = .sac) (t : Table α) (hmin : MinInfo t.n t.known)
    (hinv : t.Inv) :
    ∃ t', k.run t = .ok t' ∧ ∀ w, Completion' t w → ∀ c, c < 2 ^ t.n → t'.lo c ≤ w c := by
  obtain ⟨t', h1, _, _, h4, _⟩ := run_eq k hk t hmin hinv
  refine ⟨t', h1, fun w hw c hc => ?_⟩
  rw [(h4 c hc).1]
  exact loSpec_le_completion hmin hw c hc

/-- **C02_lowerGame_completion.**  If a completion exists, the computed lower column is itself a
    completion — and so is every function that coincides with it on the rows of the game (the cells
    outside the game are irrelevant).  Hence the minimum is attained simultaneously for all coalitions. -/
theorem lower_attained (k : Computer) (hk : k = .sa ∨ k = .sac) (t : Table α)
    (hmin : MinInfo t.n t.known) (hinv : t.Inv) (hex : ∃ w, Completion' t w) :
    ∃ t', k.run t = .ok t' ∧ Completion' t t'.lo ∧
      ∀ f : Nat → α, (∀ c, c < 2 ^ t.n → f c = t'.lo c) → Completion' t f := by
  obtain ⟨t', h1, _, _, h4, _⟩ := run_eq k hk t hmin hinv
  have hc := loSpec_completion hmin hex
  have hlo : Completion' t t'.lo := Completion.congr hc (fun c hc => (h4 c hc).1)
  exact ⟨t', h1, hlo, fun f hf => Completion.congr hlo hf⟩

/-- **C02_upper_ge.**  Every completion is at most the computed upper bound, on every row. -/
theorem upper_ge (k : Computer) (hk : k = .sa ∨ k = .sac) (t : Table α) (hmin : MinInfo t.n t.known)
    (hinv : t.Inv) :
    ∃ t', k.run t = .ok t' ∧ ∀ w, Completion' t w → ∀ c, c < 2 ^ t.n → w c ≤ t'.hi c := by
  obtain ⟨t', h1, _, _, h4, _⟩ := run_eq k hk t hmin hinv
  refine ⟨t', h1, fun w hw c hc => ?_⟩
  rw [(h4 c hc).2]
  exact completion_le_upSpec hmin hw c hc

/-- **C02_upper_attained.**  If a completion exists then for every coalition `c` (the interesting case:
    `c` unknown) some completion has the computed upper bound as its value at `c` (`extremeUpper` of
    ICG.Lemmas.SpecSA2). -/
theorem upper_attained (k : Computer) (hk : k = .sa ∨ k = .sac) (t : Table α)
    (hmin : MinInfo t.n t.known) (hinv : t.Inv) (hex : ∃ w, Completion' t w) :
    ∃ t', k.run t = .ok t' ∧ ∀ c, c < 2 ^ t.n → ∃ w, Completion' t w ∧ w c = t'.hi c := by
  obtain ⟨t', h1, _, _, h4, _⟩ := run_eq k hk t hmin hinv
  refine ⟨t', h1, fun c hc => ?_⟩
  obtain ⟨w, hw, he⟩ := upSpec_attained_any hmin hex hc
  exact ⟨w, hw, by rw [he, (h4 c hc).2]⟩

/-- **C02, summary.**  With a completion: on every row, computed `lo` is the least and computed `hi` the
    greatest value taken by a completion; known rows are unchanged points. -/
theorem tight (k : Computer) (hk : k = .sa ∨ k = .sac) (t : Table α) (hmin : MinInfo t.n t.known)
    (hinv : t.Inv) (hex : ∃ w, Completion' t w) :
    ∃ t', k.run t = .ok t' ∧ t'.n = t.n ∧ t'.known = t.known ∧ ∀ c, c < 2 ^ t.n →
      ((∃ w, Completion' t w ∧ w c = t'.lo c) ∧ ∀ w, Completion' t w → t'.lo c ≤ w c) ∧
      ((∃ w, Completion' t w ∧ w c = t'.hi c) ∧ ∀ w, Completion' t w → w c ≤ t'.hi c) ∧
      (t.known c = true → t'.lo c = t.lo c ∧ t'.hi c = t.lo c) := by
  obtain ⟨t', h1, h2, h3, h4, _⟩ := run_eq k hk t hmin hinv
  refine ⟨t', h1, h2, h3, fun c hc => ?_⟩
  rw [(h4 c hc).1, (h4 c hc).2]
  exact ⟨loSpec_isLeast hmin hex hc, upSpec_isGreatest hmin hex hc,
    fun hkc => ⟨loSpec_known _ _ hkc, upSpec_known _ _ _ hkc⟩⟩

/-- **C02_lower_eq_best_partition.**  For every non-empty coalition of the game the computed lower bound
    is the value of a partition of `c` into known non-empty coalitions (no completion needed for this
    half), and — if a completion exists — no such partition has a larger value. -/
theorem lower_eq_best_partition (k : Computer) (hk : k = .sa ∨ k = .sac) (t : Table α)
    (hmin : MinInfo t.n t.known) (hinv : t.Inv) :
    ∃ t', k.run t = .ok t' ∧ ∀ c, c < 2 ^ t.n → c ≠ 0 →
      (∃ ps, IsPartition t.known c ps ∧ (ps.map t.lo).sum = t'.lo c) ∧
      ((∃ w, Completion' t w) → ∀ ps, IsPartition t.known c ps → (ps.map t.lo).sum ≤ t'.lo c) := by
  obtain ⟨t', h1, _, _, h4, _⟩ := run_eq k hk t hmin hinv
  refine ⟨t', h1, fun c hc hc0 => ?_⟩
  rw [(h4 c hc).1]
  exact ⟨exists_partition_eq_loSpec hmin t.lo c hc hc0,
    fun hex ps hps => partition_sum_le_loSpec hmin hex hc hc0 hps⟩

/-- the same for every coalition including ∅ (whose only partition is the empty one, of value `0`), when
    the table holds `0` for ∅ — as every table the package builds does -/
theorem lower_eq_best_partition_zero (k : Computer) (hk : k = .sa ∨ k = .sac) (t : Table α)
    (hmin : MinInfo t.n t.known) (hinv : t.Inv) (hzero : t.lo 0 = 0) :
    ∃ t', k.run t = .ok t' ∧ ∀ c, c < 2 ^ t.n →
      (∃ ps, IsPartition t.known c ps ∧ (ps.map t.lo).sum = t'.lo c) ∧
      ((∃ w, Completion' t w) → ∀ ps, IsPartition t.known c ps → (ps.map t.lo).sum ≤ t'.lo c) := by
  obtain ⟨t', h1, _, _, h4, _⟩ := run_eq k hk t hmin hinv
  refine ⟨t', h1, fun c hc => ?_⟩
  rw [(h4 c hc).1]
  exact ⟨exists_partition_eq_loSpec_of_zero hmin t.lo hzero hc,
    fun hex ps hps => partition_sum_le_loSpec_of_zero hmin hex hzero hc hps⟩

omit [IsOrderedAddMonoid α] in
/-- **C02_upper_formula.**  At every unknown coalition the computed upper bound is the minimum, over the
    known proper supersets `T` of `c` inside the game, of `value T − (computed lower bound of T ∖ c)`
    (the list is never empty: `N` is in it). -/
theorem upper_formula (k : Computer) (hk : k = .sa ∨ k = .sac) (t : Table α)
    (hmin : MinInfo t.n t.known) (hinv : t.Inv) :
    ∃ t', k.run t = .ok t' ∧ ∀ c, c < 2 ^ t.n → t.known c = false →
      listMin? ((knownSupers t.n t.known c).map fun T => t.lo T - t'.lo (T - c)) = some (t'.hi c) := by
  obtain ⟨t', h1, _, _, h4, _⟩ := run_eq k hk t hmin hinv
  refine ⟨t', h1, fun c hc hkc => ?_⟩
  obtain ⟨m, hm, he⟩ := upSpec_unknown hmin t.lo hc hkc
  have hl : ((knownSupers t.n t.known c).map fun T => t.lo T - t'.lo (T - c)) =
      upCands t.n t.known t.lo c := by
    unfold upCands
    apply List.map_congr_left
    intro T hT
    have hT0 := (mem_knownSupers.mp hT).1
    rw [(h4 (T - c) (Nat.sub_lt_of_lt hT0)).1]
  rw [hl, hm, (h4 c hc).2, he]

omit [IsOrderedAddMonoid α] in
theorem upper_formula' (k : Computer) (hk : k = .sa ∨ k = .sac) (t : Table α)
    (hmin : MinInfo t.n t.known) (hinv : t.Inv) :
    ∃ t', k.run t = .ok t' ∧ ∀ c, c < 2 ^ t.n → t.known c = false →
      (∃ T, T ∈ knownSupers t.n t.known c ∧ t'.hi c = t.lo T - t'.lo (T - c)) ∧
      ∀ T, T < 2 ^ t.n → c &&& T = c → T ≠ c → t.known T = true → t'.hi c ≤ t.lo T - t'.lo (T - c) := by
  obtain ⟨t', h1, h2⟩ := upper_formula k hk t hmin hinv
  refine ⟨t', h1, fun c hc hkc => ?_⟩
  obtain ⟨hmem, hlb⟩ := listMin?_eq_some_iff.mp (h2 c hc hkc)
  constructor
  · obtain ⟨T, hT, he⟩ := List.mem_map.mp hmem
    exact ⟨T, hT, he.symm⟩
  · intro T hT hsub hne hkT
    exact hlb _ (List.mem_map.mpr ⟨T, mem_knownSupers.mpr ⟨hT, hsub, hne, hkT⟩, rfl⟩)

/-! ### the hypotheses are satisfiable -/

theorem ex_completion : Completion' Ex.exT exV := Ex.exT_agree.completion Ex.exT_sa

example : ∃ t', sa Ex.exT = .ok t' ∧ ∀ w, Completion' Ex.exT w → ∀ c, c < 2 ^ Ex.exT.n → t'.lo c ≤ w c :=
  lower_le .sa (Or.inl rfl) Ex.exT Ex.exT_min Ex.exT_agree.inv

example : ∃ t', sac Ex.exT = .ok t' ∧ Completion' Ex.exT t'.lo ∧
    ∀ f : Nat → Int, (∀ c, c < 2 ^ Ex.exT.n → f c = t'.lo c) → Completion' Ex.exT f :=
  lower_attained .sac (Or.inr rfl) Ex.exT Ex.exT_min Ex.exT_agree.inv ⟨exV, ex_completion⟩

example : ∃ t', sa Ex.exT = .ok t' ∧ ∀ w, Completion' Ex.exT w → ∀ c, c < 2 ^ Ex.exT.n → w c ≤ t'.hi c :=
  upper_ge .sa (Or.inl rfl) Ex.exT Ex.exT_min Ex.exT_agree.inv

example : ∃ t', sac Ex.exT = .ok t' ∧
    ∀ c, c < 2 ^ Ex.exT.n → ∃ w, Completion' Ex.exT w ∧ w c = t'.hi c :=
  upper_attained .sac (Or.inr rfl) Ex.exT Ex.exT_min Ex.exT_agree.inv ⟨exV, ex_completion⟩

/-- the bounds are not trivial here: at the unknown pair {0,1} (id 3) the computed interval is `[3, 8]`
    around the true value 4, so the extreme completions differ from `exV` -/
example : ∃ t', sa Ex.exT = .ok t' ∧ t'.lo 3 = 3 ∧ t'.hi 3 = 8 := by
  obtain ⟨t', h1, _, _, h4, _⟩ := run_spec_agree .sa Ex.exT Ex.exT_min Ex.exT_agree
  refine ⟨t', h1, ?_⟩
  have h3 := h4 3 (by decide)
  exact ⟨h3.1.trans ex_bounds_three.1, h3.2.trans ex_bounds_three.2⟩

example : ∃ t', sa Ex.exT = .ok t' ∧ ∀ c, c < 2 ^ Ex.exT.n → c ≠ 0 →
    (∃ ps, IsPartition Ex.exT.known c ps ∧ (ps.map Ex.exT.lo).sum = t'.lo c) ∧
    ((∃ w, Completion' Ex.exT w) →
      ∀ ps, IsPartition Ex.exT.known c ps → (ps.map Ex.exT.lo).sum ≤ t'.lo c) :=
  lower_eq_best_partition .sa (Or.inl rfl) Ex.exT Ex.exT_min Ex.exT_agree.inv

example : Ex.exT.lo 0 = 0 := by decide

example : ∃ t', sac Ex.exT = .ok t' ∧ ∀ c, c < 2 ^ Ex.exT.n → Ex.exT.known c = false →
    listMin? ((knownSupers Ex.exT.n Ex.exT.known c).map fun T => Ex.exT.lo T - t'.lo (T - c))
      = some (t'.hi c) :=
  upper_formula .sac (Or.inr rfl) Ex.exT Ex.exT_min Ex.exT_agree.inv

end ICG.C02

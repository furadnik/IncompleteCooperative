/-
  Property C08 — the bounds depend only on the current knowledge.

  "The result of a bound computation (reference, cached, and the monotone approximation with any number
   of repetitions) is a function of the set of revealed coalitions and their values alone: stale lower /
   upper bounds left in unknown rows by earlier computations, scalar bound writes or bulk resets have no
   influence.  Hence computing twice changes nothing, any two histories that end in the same knowledge
   give the same bounds, and reveal → compute → un-reveal → compute restores the bounds exactly."

  Theorems about the MODEL functions `sa`, `sac`, `sam r` (through `Computer.run`), all `n`, every
  linearly ordered value type with `+` and `-`, obtained from the refinement (`compute_eq_spec` and its
  corollaries in ICG.Lemmas.RefineCor) with `enumFacts` plugged in.

  * `knowledge_only`, `idempotent` (and the forms per computer); `output_inv`: the output satisfies
                        `MinInfo` and `Inv` again
  * `undo`, `undo_from` : `compute ∘ unreveal c ∘ compute ∘ reveal c x` gives back the freshly computed table
                        itself (every row, every flag, `n`), when `c` was unknown
  * `history_free`    : two histories (C17 operations interleaved with computes, `C01.HOp`) from a new
                        game that end in the same spec-knowledge give the same table after a compute
                        (`sameGame_of_rel`; `applyH_blank`, `runH_blank`)
  The environment-level undo (`unstep a (step a e)` restores bounds, gap, reward, observation and step
  counter) is about ICG/Model/Env.lean: `Env.env_undo` in ICG/Lemmas/EnvUndo.lean; it rests on `undo` below.
-/
import ICG.Lemmas.BoundsCommon
import ICG.Props.C01

namespace ICG.C08
open ICG Table
open ICG.BoundsCommon

variable {α : Type}

section main
/- the value type only needs `+`, `-` and a linear order: no algebraic law plays a role in C08 -/
variable [Add α] [Sub α] [LinearOrder α]

/-- **C08_knowledge_only.**  Two tables with the same `n`, the same flags and the same values on known
    rows — whatever their unknown rows hold — give row-wise equal results, for every registered
    computer; both runs succeed. -/
theorem knowledge_only (k : Computer) (t s : Table α) (hn : t.n = s.n) (hk : t.known = s.known)
    (hv : ∀ c, c < 2 ^ t.n → t.known c = true → t.lo c = s.lo c)
    (hmin : MinInfo t.n t.known) (hinvt : t.Inv) (hinvs : s.Inv) :
    ∃ t' s', k.run t = .ok t' ∧ k.run s = .ok s' ∧ t'.n = s'.n ∧ t'.known = s'.known ∧
      ∀ c, c < 2 ^ t.n → t'.lo c = s'.lo c ∧ t'.hi c = s'.hi c :=
  compute_knowledge_only enumFacts k t s hn hk hv hmin hinvt hinvs

theorem knowledge_only_sa (t s : Table α) (hn : t.n = s.n) (hk : t.known = s.known)
    (hv : ∀ c, c < 2 ^ t.n → t.known c = true → t.lo c = s.lo c)
    (hmin : MinInfo t.n t.known) (hinvt : t.Inv) (hinvs : s.Inv) :
    ∃ t' s', sa t = .ok t' ∧ sa s = .ok s' ∧ t'.n = s'.n ∧ t'.known = s'.known ∧
      ∀ c, c < 2 ^ t.n → t'.lo c = s'.lo c ∧ t'.hi c = s'.hi c :=
  knowledge_only .sa t s hn hk hv hmin hinvt hinvs

theorem knowledge_only_sac (t s : Table α) (hn : t.n = s.n) (hk : t.known = s.known)
    (hv : ∀ c, c < 2 ^ t.n → t.known c = true → t.lo c = s.lo c)
    (hmin : MinInfo t.n t.known) (hinvt : t.Inv) (hinvs : s.Inv) :
    ∃ t' s', sac t = .ok t' ∧ sac s = .ok s' ∧ t'.n = s'.n ∧ t'.known = s'.known ∧
      ∀ c, c < 2 ^ t.n → t'.lo c = s'.lo c ∧ t'.hi c = s'.hi c :=
  knowledge_only .sac t s hn hk hv hmin hinvt hinvs

theorem knowledge_only_sam (r : Nat) (t s : Table α) (hn : t.n = s.n) (hk : t.known = s.known)
    (hv : ∀ c, c < 2 ^ t.n → t.known c = true → t.lo c = s.lo c)
    (hmin : MinInfo t.n t.known) (hinvt : t.Inv) (hinvs : s.Inv) :
    ∃ t' s', sam r t = .ok t' ∧ sam r s = .ok s' ∧ t'.n = s'.n ∧ t'.known = s'.known ∧
      ∀ c, c < 2 ^ t.n → t'.lo c = s'.lo c ∧ t'.hi c = s'.hi c :=
  knowledge_only (.sam r) t s hn hk hv hmin hinvt hinvs

/-- two tables of the same partial game whose unknown rows hold different junk -/
def exS : Table Int :=
  { Ex.exT with lo := fun c => if Ex.exT.known c then Ex.exT.lo c else -1000 + c,
                hi := fun c => if Ex.exT.known c then Ex.exT.hi c else 7 }

theorem exS_agree : exS.Agree SpecSA.exV := by
  intro c hc hk
  have hk' : Ex.exT.known c = true := hk
  have := Ex.exT_agree c hc hk'
  simp only [exS, hk', if_true]
  exact this

/-- hypotheses satisfiable, stale rows differ (`99 / -99` against `-997 / 7` at row 3) -/
example (k : Computer) : ∃ t' s', k.run Ex.exT = .ok t' ∧ k.run exS = .ok s' ∧ t'.n = s'.n ∧
    t'.known = s'.known ∧ ∀ c, c < 2 ^ Ex.exT.n → t'.lo c = s'.lo c ∧ t'.hi c = s'.hi c :=
  knowledge_only k Ex.exT exS rfl rfl
    (fun c hc hk => by rw [(Ex.exT_agree c hc hk).1, (exS_agree c hc hk).1])
    Ex.exT_min Ex.exT_agree.inv exS_agree.inv

example : Ex.exT.lo 3 = 99 ∧ exS.lo 3 = -997 ∧ Ex.exT.hi 3 = -99 ∧ exS.hi 3 = 7 := by decide

/-- **C08_idempotent.**  Running a computer on its own output returns that output unchanged (the whole
    table, not only the rows of the game). -/
theorem idempotent (k : Computer) (t : Table α) (hmin : MinInfo t.n t.known) (hinv : t.Inv)
    {t' : Table α} (hr : k.run t = .ok t') : k.run t' = .ok t' :=
  compute_idempotent enumFacts k t hmin hinv hr

theorem idempotent' (k : Computer) (t : Table α) (hmin : MinInfo t.n t.known) (hinv : t.Inv) :
    ∃ t', k.run t = .ok t' ∧ k.run t' = .ok t' := by
  obtain ⟨t', h, _⟩ := run_spec k t hmin hinv
  exact ⟨t', h, idempotent k t hmin hinv h⟩

example (r : Nat) : ∃ t', sam r Ex.samT = .ok t' ∧ sam r t' = .ok t' :=
  idempotent' (.sam r) Ex.samT Ex.samT_min Ex.samT_agree.inv

example : ∃ t', sa Ex.exT = .ok t' ∧ sa t' = .ok t' :=
  idempotent' .sa Ex.exT Ex.exT_min Ex.exT_agree.inv

theorem output_inv (k : Computer) (t : Table α) (hmin : MinInfo t.n t.known) (hinv : t.Inv)
    {t' : Table α} (hr : k.run t = .ok t') : MinInfo t'.n t'.known ∧ t'.Inv :=
  compute_output_inv enumFacts k t hmin hinv hr

/-- **C08_undo.**  `t1` is a freshly computed table (`k.run t0 = ok t1`), `c` a coalition of the game
    that is unknown in it, `x` any value.  Then reveal, compute (with any registered computer `k'`),
    un-reveal and compute again all succeed, and the last compute returns `t1` itself: every row (inside
    and outside the game), every flag and `n` are restored. -/
theorem undo [Zero α] (k k' : Computer) (t0 t1 : Table α) (hmin : MinInfo t0.n t0.known) (hinv : t0.Inv)
    (hfresh : k.run t0 = .ok t1) (c : Nat) (hc : c < 2 ^ t1.n) (hkc : t1.known c = false) (x : α) :
    ∃ t2 t3 t4, t1.reveal x c = .ok t2 ∧ k'.run t2 = .ok t3 ∧ t3.unreveal c = .ok t4 ∧
      k.run t4 = .ok t1 := by
  obtain ⟨hmin1, hinv1⟩ := output_inv k t0 hmin hinv hfresh
  have hrev : t1.reveal x c = .ok (t1.putValue c x) := by
    unfold Table.reveal
    rw [if_pos (show c < t1.rows from hc), hkc]; rfl
  -- the revealed table has more knowledge and still satisfies `Inv`: the compute succeeds on it
  have hinv2 := hinv1.putValue c x
  obtain ⟨t3, h3, _⟩ := run_spec k' (t1.putValue c x)
    (SpecSA.minInfo_mono hmin1 (knownLe_putValue t1 c x)) hinv2
  -- its result holds the same partial game, in which `c` is known
  have h3s := run_sameGame hinv2 h3
  have hunrev : t3.unreveal c = .ok (t3.clearRow c) := by
    unfold Table.unreveal
    rw [if_pos (show c < t3.rows by show c < 2 ^ t3.n; rw [h3s.n]; exact hc), h3s.known,
      show (t1.putValue c x).known c = true from if_pos rfl]; rfl
  -- un-revealed, it holds the partial game of `t1`: the last compute returns what `k.run t1` returns
  obtain ⟨t5, g1, g2⟩ := compute_same_table enumFacts k (h3s.clearRow_putValue hc hkc) hmin1 hinv1
  rw [idempotent k t0 hmin hinv hfresh] at g2; cases g2
  exact ⟨_, t3, _, hrev, h3, hunrev, g1⟩

theorem undo_from [Zero α] (k k' : Computer) (t : Table α) (hmin : MinInfo t.n t.known) (hinv : t.Inv)
    (c : Nat) (hc : c < 2 ^ t.n) (hkc : t.known c = false) (x : α) :
    ∃ t1, k.run t = .ok t1 ∧ ∃ t2 t3 t4, t1.reveal x c = .ok t2 ∧ k'.run t2 = .ok t3 ∧
      t3.unreveal c = .ok t4 ∧ k.run t4 = .ok t1 := by
  obtain ⟨t1, h1, hn, hk, _⟩ := run_spec k t hmin hinv
  exact ⟨t1, h1, undo k k' t t1 hmin hinv h1 c (by rw [hn]; exact hc) (by rw [hk]; exact hkc) x⟩

/-- hypotheses satisfiable: reveal the pair {0,1} (id 3, unknown in `exT`) with its true value 4,
    computing with the reference computer, the cached computer in between -/
example : ∃ t1, sa Ex.exT = .ok t1 ∧ ∃ t2 t3 t4, t1.reveal 4 3 = .ok t2 ∧ sac t2 = .ok t3 ∧
    t3.unreveal 3 = .ok t4 ∧ sa t4 = .ok t1 :=
  undo_from .sa .sac Ex.exT Ex.exT_min Ex.exT_agree.inv 3 (by decide) (by decide) 4

/-- with a value that is NOT the true one (the statement does not need it), SAM computer -/
example (r : Nat) : ∃ t1, sam r Ex.samT = .ok t1 ∧ ∃ t2 t3 t4, t1.reveal 1000 5 = .ok t2 ∧
    sam r t2 = .ok t3 ∧ t3.unreveal 5 = .ok t4 ∧ sam r t4 = .ok t1 :=
  undo_from (.sam r) (.sam r) Ex.samT Ex.samT_min Ex.samT_agree.inv 5 (by decide) (by decide) 1000

end main

/-! ### history-freeness

Histories are those of C01: C17 operations (returning or raising) interleaved with compute steps
(`C01.HOp`, `C01.runH`; a raising compute leaves the table as it was).  The abstract known-map after a
history (`C01.specRunH`, coalition ↦ value if known) is computed from the operations alone. -/

section history
variable [AddCommGroup α] [LinearOrder α]
open ICG.C01

theorem applyH_blank {t : Table α} (hinv : t.Inv) (hb : C17.Blank t) (x : HOp α) :
    C17.Blank (applyH t x) := by
  cases x with
  | op o => exact C17.applyOp_blank hb o
  | compute k =>
    simp only [applyH]
    rcases C17.keep_cases t (k.run t) with ⟨t', ht', hk⟩ | ⟨e, _, hk⟩
    · rw [hk]
      have f := run_sameGame hinv ht'
      intro c hc
      rw [f.n] at hc
      obtain ⟨b1, b2, b3⟩ := hb c hc
      have r := f.rows c fun hlt => absurd hlt (Nat.not_lt.mpr hc)
      exact ⟨by rw [f.known]; exact b1, by rw [r.1]; exact b2, by rw [r.2]; exact b3⟩
    · rw [hk]; exact hb

theorem runH_blank : ∀ (h : List (HOp α)) {t : Table α} {s : C17.Spec α}, C17.Rel t s → C17.Blank t →
    admissibleH t.n s h = true → C17.Blank (runH t h)
  | [], _, _, _, hb, _ => hb
  | x :: h, t, s, hrel, hb, hadm => by
    simp only [admissibleH, Bool.and_eq_true] at hadm
    obtain ⟨hn, hr⟩ := refinesH hrel x hadm.1
    exact runH_blank h hr (applyH_blank (inv_of_rel hrel) hb x) (by rw [hn]; exact hadm.2)

omit [LinearOrder α] in
theorem sameGame_of_rel {t1 t2 : Table α} {s1 s2 : C17.Spec α} (r1 : C17.Rel t1 s1) (r2 : C17.Rel t2 s2)
    (hn : t2.n = t1.n) (hs : ∀ c, c < 2 ^ t1.n → s1 c = s2 c) (b1 : C17.Blank t1) (b2 : C17.Blank t2) :
    t2.SameGame t1 := by
  refine ⟨hn, funext fun d => ?_, fun d hd => ?_⟩
  · by_cases hlt : d < 2 ^ t1.n
    · rw [(r1 d hlt).1, (r2 d (hn ▸ hlt)).1, hs d hlt]
    · rw [(b1 d (Nat.le_of_not_lt hlt)).1, (b2 d (hn ▸ Nat.le_of_not_lt hlt)).1]
  · by_cases hlt : d < 2 ^ t1.n
    · obtain ⟨e1, e1'⟩ := C17.spec_of_known r1 hlt (hd hlt)
      obtain ⟨f1, f2⟩ := (r2 d (hn ▸ hlt)).2 _ ((hs d hlt).symm.trans e1)
      exact ⟨f1, f2.trans (Option.some.inj (e1.symm.trans e1'))⟩
    · have h1 := b1 d (Nat.le_of_not_lt hlt)
      have h2 := b2 d (hn ▸ Nat.le_of_not_lt hlt)
      exact ⟨h2.2.1.trans h1.2.1.symm, h2.2.2.trans h1.2.2.symm⟩

/-- **C08_history_free.**  Two admissible histories from a new game on `n` players whose known-maps agree
    at the end (same coalitions known, with the same values) — whatever else they did: scalar bound
    writes, bulk bound writes, computes with any computers, raising calls — give the SAME table after a
    compute (every row, every flag), for every registered computer; the computes succeed as soon as one
    final table has minimal information. -/
theorem history_free (k : Computer) (n : Nat) (h1 h2 : List (HOp α))
    (ha1 : admissibleH n (C17.specInit (α := α)) h1 = true)
    (ha2 : admissibleH n (C17.specInit (α := α)) h2 = true)
    (hsame : ∀ c, c < 2 ^ n → specRunH n C17.specInit h1 c = specRunH n C17.specInit h2 c)
    (hmin : MinInfo n (runH (Table.init n) h1).known) :
    ∃ t', k.run (runH (Table.init n) h1) = .ok t' ∧ k.run (runH (Table.init n) h2) = .ok t' := by
  obtain ⟨n1, r1⟩ := refines_runH h1 (C17.rel_init (α := α) n) ha1
  obtain ⟨n2, r2⟩ := refines_runH h2 (C17.rel_init (α := α) n) ha2
  have hsg := sameGame_of_rel r1 r2 (n2.trans n1.symm) (fun c hc => hsame c (by rw [n1] at hc; exact hc))
    (runH_blank h1 (C17.rel_init (α := α) n) (C17.blank_init n) ha1)
    (runH_blank h2 (C17.rel_init (α := α) n) (C17.blank_init n) ha2)
  obtain ⟨t', g2, g1⟩ := compute_same_table enumFacts k hsg (by rw [n1]; exact hmin) (inv_of_rel r1)
  exact ⟨t', g1, g2⟩

end history

/-! ### two concrete histories ending in the same knowledge -/

/-- plain: set the singletons and N -/
def histA : List (C01.HOp Int) :=
  [.op (.set 1 1), .op (.set 2 2), .op (.set 1 4), .op (.set 9 7)]

/-- devious: the same knowledge reached through a bulk set, junk scalar bounds, a reveal / compute /
    un-reveal round trip, a bulk bound write, a raising compute and a different order -/
def histB : List (C01.HOp Int) :=
  [.op (.setValues [9, 1] (some [7, 4])), .compute .sac,           -- raises
   .op (.set 2 2), .op (.set 1 1), .op (.setLowerBound 1000 5), .op (.setUpperBound (-1000) 6),
   .op (.reveal 4 3), .compute (.sam 3), .op (.unreveal 3),
   .op (.setBounds false [5, 5, 5] (some [3, 5, 6])), .compute .sa]

example : C01.admissibleH 3 (C17.specInit (α := Int)) histA = true ∧
    C01.admissibleH 3 (C17.specInit (α := Int)) histB = true := by decide

theorem hist_same : ∀ c, c < 2 ^ 3 →
    C01.specRunH 3 C17.specInit histA c = C01.specRunH 3 C17.specInit histB c := by decide

example (k : Computer) : ∃ t', k.run (C01.runH (Table.init 3) histA) = .ok t' ∧
    k.run (C01.runH (Table.init 3) histB) = .ok t' := by
  refine history_free k 3 histA histB (by decide) (by decide) hist_same ?_
  refine ⟨by decide, by decide, ?_⟩
  have h : ∀ i, i < 3 → (C01.runH (Table.init (α := Int) 3) histA).known (2 ^ i) = true := by decide
  exact h

end ICG.C08

/-
  Property C05 — exploitability identities.

  "For any incomplete game whose grand coalition is known, the reported exploitability equals the sum
   over players of the largest Shapley value that player obtains in any game lying between the bounds,
   minus the grand coalition's value; equivalently it equals the sum over coalitions S of
   (upper(S) − lower(S)) / C(n,|S|).  Hence it is non-negative whenever lower ≤ upper, zero exactly when
   every interval is degenerate, and for every player and every completion within the bounds that
   player's Shapley value never exceeds the per-player maximum used."

  Exact form of the identity (no assumption on the vectors):
      exploitability = Σ_{c<2^n} (hi c − lo c)/C(n,|c|) − hi ∅ + (lo N − get_value(N))
  and `get_value(N)` of the real class IS `lo N`, so on a table the residual is `− hi ∅` only: the
  stated weighted-gap form holds as soon as the empty coalition has upper bound 0 (it is known with
  value 0 in every table the package builds; a scalar bound write can break it, hence the hypothesis).

  At the end of the file, in namespace `ICG.GapMono`: exploitability as a gap function for C07 (`expl_mono`,
  `expl_nonneg`, `expl_zero`), which rests on the identity above; the three norms are in Lemmas/GapMono.
-/
import ICG.Lemmas.ShapleyBridge
import ICG.Lemmas.GapMono
import Mathlib.Algebra.Order.BigOperators.Group.Finset
import Mathlib.Algebra.Order.Ring.Rat

namespace ICG.C05
open ICG Finset

set_option linter.unusedSectionVars false
variable {α : Type} [Field α] [LinearOrder α] [IsStrictOrderedRing α]

/-- Σ_S (upper(S) − lower(S)) / C(n,|S|) over all `2^n` coalitions -/
def weightedGap (n : Nat) (lo hi : Nat → α) : α :=
  ∑ c ∈ range (2 ^ n), (hi c - lo c) / (n.choose (size c) : α)

/-- `w` lies between the bounds on every coalition of the `n`-player game -/
def Within (n : Nat) (lo hi w : Nat → α) : Prop := ∀ c, c < 2 ^ n → lo c ≤ w c ∧ w c ≤ hi c

/-! ### the double-counting identity -/

theorem sum_maxShapley (n : Nat) (lo hi : Nat → α) :
    ∑ i ∈ range n, phi n (maxGainValues i lo hi) i = weightedGap n lo hi - hi 0 + lo (grand n) := by
  simp only [phi_maxGain]
  exact sum_psi n hi lo

/-- C05, general form: whatever `get_value(N)` returns (`g`), for arbitrary bound vectors. -/
theorem identity_general (n : Nat) (lo hi : Nat → α) (g : α) :
    exploitability n lo hi (.ok g) = .ok (weightedGap n lo hi - hi 0 + (lo (grand n) - g)) := by
  rw [exploitability_eq]
  show Except.ok (_ - g) = _
  rw [sum_psi, add_sub_assoc]
  rfl

/-- C05 identity on the value table (the real class reads `get_value(N)` from the LOWER column). -/
theorem identity (t : Table α) (hk : t.known (grand t.n) = true) :
    t.exploitability = .ok (weightedGap t.n t.lo t.hi - t.hi 0) := by
  rw [Table.exploitability, Norm.getValue_lt t (grand_lt t.n), if_pos hk, identity_general, sub_self, add_zero]

/-- the weighted-gap form, when the empty coalition has upper bound 0 -/
theorem identity_weightedGap (t : Table α) (hk : t.known (grand t.n) = true) (h0 : t.hi 0 = 0) :
    t.exploitability = .ok (weightedGap t.n t.lo t.hi) := by
  rw [identity t hk, h0, sub_zero]

/-- as the sum of the players' Shapley values in their MaxGain games minus the grand coalition's value; these are
    the per-player maxima over the games within the bounds when `lo ≤ hi` (`maxGain_within`, `phi_le_maxGain`) -/
theorem identity_maxSum (t : Table α) (hk : t.known (grand t.n) = true) :
    t.exploitability
      = .ok (∑ i ∈ range t.n, phi t.n (maxGainValues i t.lo t.hi) i - t.lo (grand t.n)) := by
  rw [identity t hk, sum_maxShapley, add_sub_cancel_right]

/-- with the grand coalition unknown `get_value(N)` raises ValueError, after the per-player values are computed -/
theorem undefined (t : Table α) (hk : t.known (grand t.n) = false) :
    t.exploitability = .error .value := by
  rw [Table.exploitability, Norm.getValue_lt t (grand_lt t.n), hk, exploitability_eq]
  rfl

theorem defined_iff (t : Table α) : (∃ x, t.exploitability = .ok x) ↔ t.known (grand t.n) = true := by
  constructor
  · rintro ⟨x, hx⟩
    by_contra hk
    have hk' : t.known (grand t.n) = false := by simpa using hk
    rw [undefined t hk'] at hx
    cases hx
  · intro hk
    exact ⟨_, identity t hk⟩

theorem choose_size_pos {n c : Nat} (hc : c < 2 ^ n) : (0 : α) < (n.choose (size c) : α) := by
  exact_mod_cast Nat.choose_pos (size_le n c hc)

theorem gapTerm_nonneg {n : Nat} {lo hi : Nat → α} (hle : ∀ c, c < 2 ^ n → lo c ≤ hi c) {c : Nat}
    (hc : c < 2 ^ n) : 0 ≤ (hi c - lo c) / (n.choose (size c) : α) :=
  div_nonneg (sub_nonneg.mpr (hle c hc)) (choose_size_pos hc).le

theorem weightedGap_nonneg (n : Nat) (lo hi : Nat → α) (hle : ∀ c, c < 2 ^ n → lo c ≤ hi c) :
    0 ≤ weightedGap n lo hi :=
  Finset.sum_nonneg (fun _ hc => gapTerm_nonneg hle (mem_range.mp hc))

theorem weightedGap_eq_zero_iff (n : Nat) (lo hi : Nat → α) (hle : ∀ c, c < 2 ^ n → lo c ≤ hi c) :
    weightedGap n lo hi = 0 ↔ ∀ c, c < 2 ^ n → lo c = hi c := by
  unfold weightedGap
  rw [Finset.sum_eq_zero_iff_of_nonneg (fun _ hc => gapTerm_nonneg hle (mem_range.mp hc))]
  constructor
  · intro h c hc
    rcases div_eq_zero_iff.mp (h c (mem_range.mpr hc)) with h1 | h1
    · exact (sub_eq_zero.mp h1).symm
    · exact absurd h1 (choose_size_pos hc).ne'
  · intro h c hc
    rw [h c (mem_range.mp hc), sub_self, zero_div]

/-- non-negative whenever lower ≤ upper (grand coalition known, upper(∅) = 0) -/
theorem nonneg (t : Table α) (hk : t.known (grand t.n) = true) (h0 : t.hi 0 = 0)
    (hle : ∀ c, c < 2 ^ t.n → t.lo c ≤ t.hi c) :
    ∃ x, t.exploitability = .ok x ∧ 0 ≤ x :=
  ⟨_, identity_weightedGap t hk h0, weightedGap_nonneg t.n t.lo t.hi hle⟩

/-- zero exactly when every interval is degenerate -/
theorem zero_iff (t : Table α) (hk : t.known (grand t.n) = true) (h0 : t.hi 0 = 0)
    (hle : ∀ c, c < 2 ^ t.n → t.lo c ≤ t.hi c) :
    t.exploitability = .ok 0 ↔ ∀ c, c < 2 ^ t.n → t.lo c = t.hi c := by
  rw [identity_weightedGap t hk h0, ← weightedGap_eq_zero_iff t.n t.lo t.hi hle]
  constructor
  · intro h; injection h
  · intro h; rw [h]

/-- the max-gain game of player `i` lies between the bounds (when these are ordered) -/
theorem maxGain_within (n i : Nat) (lo hi : Nat → α) (hle : ∀ c, c < 2 ^ n → lo c ≤ hi c) :
    Within n lo hi (maxGainValues i lo hi) := by
  intro c hc
  rw [maxGainValues_eq]
  split
  · exact ⟨hle c hc, le_refl _⟩
  · exact ⟨le_refl _, hle c hc⟩

/-- no game within the bounds gives player `i` more than his max-gain game does (closed form) -/
theorem phi_le_maxGain {n i : Nat} (hi' : i < n) (lo hi w : Nat → α) (hw : Within n lo hi w) :
    phi n w i ≤ phi n (maxGainValues i lo hi) i := by
  rw [phi_maxGain]
  unfold phi psi
  have hn : (0 : α) < (n.factorial : α) := by exact_mod_cast Nat.factorial_pos n
  apply div_le_div_of_nonneg_right _ hn.le
  apply Finset.sum_le_sum
  intro S hS
  simp only [mem_filter, mem_range] at hS
  exact mul_le_mul_of_nonneg_left (sub_le_sub (hw (S ||| 2 ^ i) (setBit_lt hi' hS.1)).2 (hw S hS.1).1)
    (Nat.cast_nonneg _)

/-- domination, on the model: for every player of the game and every completion `w` within the bounds,
    both calls succeed and the Shapley value of `w` does not exceed the per-player maximum used. -/
theorem dominates {n i : Nat} (hi' : i < n) (lo hi w : Nat → α) (hw : Within n lo hi w) :
    ∃ x y, shapleyForPlayer n (completeGame w) i = .ok x ∧
           shapleyForPlayer n (maxGainGetValues n i lo hi) i = .ok y ∧ x ≤ y :=
  ⟨_, _, shapleyForPlayer_ok hi' _ _ (answers_complete n w),
    shapleyForPlayer_ok hi' _ _ (answers_maxGain n i lo hi), phi_le_maxGain hi' lo hi w hw⟩

/-! ### a concrete 3-player instance: the hypotheses are satisfiable -/

/-- ∅ and N known; lower = (0,1,1,2,0,2,3,6), upper = (0,3,2,5,4,6,3,6) -/
def exTable : Table Rat :=
  { n := 3, known := fun c => c == 0 || c == 7,
    lo := fun c => [0, 1, 1, 2, 0, 2, 3, 6].getD c 0,
    hi := fun c => [0, 3, 2, 5, 4, 6, 3, 6].getD c 0 }

theorem exTable_ok : exTable.known (grand exTable.n) = true ∧ exTable.hi 0 = 0 ∧
    (∀ c, c < 2 ^ exTable.n → exTable.lo c ≤ exTable.hi c) := by decide +kernel

example : exTable.known (grand exTable.n) = true ∧ exTable.hi 0 = 0 ∧
    (∀ c, c < 2 ^ exTable.n → exTable.lo c ≤ exTable.hi c) := exTable_ok

example : exTable.exploitability = .ok (14 / 3) := by decide +kernel

example : ∃ x, exTable.exploitability = .ok x ∧ 0 ≤ x :=
  nonneg exTable exTable_ok.1 exTable_ok.2.1 exTable_ok.2.2

example : Within 3 exTable.lo exTable.hi (fun c => [0, 2, 1, 4, 3, 2, 3, 6].getD c 0) := by
  unfold Within; decide +kernel

example : ({ exTable with known := fun c => c == 0 } : Table Rat).exploitability = .error .value := by
  decide +kernel

/-! ### the same theorems for the functions the native driver runs (`ICG.AtRat.*`: core `Rat` with
    core's instances) — they follow by mere unification -/

theorem identity_atRat (t : Table Rat) (hk : t.known (grand t.n) = true) :
    AtRat.exploitability t = .ok (weightedGap t.n t.lo t.hi - t.hi 0) := identity t hk

theorem identity_weightedGap_atRat (t : Table Rat) (hk : t.known (grand t.n) = true) (h0 : t.hi 0 = 0) :
    AtRat.exploitability t = .ok (weightedGap t.n t.lo t.hi) := identity_weightedGap t hk h0

theorem defined_iff_atRat (t : Table Rat) :
    (∃ x, AtRat.exploitability t = .ok x) ↔ t.known (grand t.n) = true := defined_iff t

theorem nonneg_atRat (t : Table Rat) (hk : t.known (grand t.n) = true) (h0 : t.hi 0 = 0)
    (hle : ∀ c, c < 2 ^ t.n → t.lo c ≤ t.hi c) : ∃ x, AtRat.exploitability t = .ok x ∧ 0 ≤ x :=
  nonneg t hk h0 hle

theorem zero_iff_atRat (t : Table Rat) (hk : t.known (grand t.n) = true) (h0 : t.hi 0 = 0)
    (hle : ∀ c, c < 2 ^ t.n → t.lo c ≤ t.hi c) :
    AtRat.exploitability t = .ok 0 ↔ ∀ c, c < 2 ^ t.n → t.lo c = t.hi c := zero_iff t hk h0 hle

theorem dominates_atRat {n i : Nat} (hi' : i < n) (lo hi w : Nat → Rat) (hw : Within n lo hi w) :
    ∃ x y, AtRat.shapleyForPlayer n w i = .ok x ∧
           ICG.shapleyForPlayer n (maxGainGetValues n i lo hi) i = .ok y ∧ x ≤ y :=
  dominates hi' lo hi w hw

end ICG.C05

/-! ### exploitability as a gap function (C07) -/
namespace ICG.GapMono
open ICG Finset

section field
variable {α : Type} [Field α] [LinearOrder α] [IsStrictOrderedRing α]

theorem weightedGap_mono {n : Nat} {lo hi lo' hi' : Nat → α} (h : Nested n lo hi lo' hi') :
    C05.weightedGap n lo' hi' ≤ C05.weightedGap n lo hi := by
  unfold C05.weightedGap
  apply Finset.sum_le_sum
  intro c hc
  have hc' := mem_range.mp hc
  exact div_le_div_of_nonneg_right (width_le h hc').2 (C05.choose_size_pos hc').le

/-- two tables of the same game size, both with the grand coalition known and upper(∅) = 0, the second
    one row-wise narrower: its exploitability is not larger. -/
theorem expl_mono (t t' : Table α) (hn : t'.n = t.n)
    (hk : t.known (grand t.n) = true) (hk' : t'.known (grand t'.n) = true)
    (h0 : t.hi 0 = 0) (h0' : t'.hi 0 = 0) (h : Nested t.n t.lo t.hi t'.lo t'.hi) :
    ∃ x x', t.exploitability = .ok x ∧ t'.exploitability = .ok x' ∧ x' ≤ x := by
  refine ⟨_, _, C05.identity_weightedGap t hk h0, C05.identity_weightedGap t' hk' h0', ?_⟩
  rw [hn]
  exact weightedGap_mono h

theorem expl_nonneg (t : Table α) (hk : t.known (grand t.n) = true) (h0 : t.hi 0 = 0)
    (hle : ∀ c, c < 2 ^ t.n → t.lo c ≤ t.hi c) : ∃ x, t.exploitability = .ok x ∧ 0 ≤ x :=
  C05.nonneg t hk h0 hle

theorem expl_zero (t : Table α) (hk : t.known (grand t.n) = true) (h : Degenerate t.n t.lo t.hi)
    (h00 : t.hi 0 = 0) : t.exploitability = .ok 0 :=
  (C05.zero_iff t hk h00 (fun c hc => (h c hc).le)).mpr h

end field

theorem expl_mono_atRat (t t' : Table Rat) (hn : t'.n = t.n)
    (hk : t.known (grand t.n) = true) (hk' : t'.known (grand t'.n) = true)
    (h0 : t.hi 0 = 0) (h0' : t'.hi 0 = 0) (h : Nested t.n t.lo t.hi t'.lo t'.hi) :
    ∃ x x', AtRat.exploitability t = .ok x ∧ AtRat.exploitability t' = .ok x' ∧ x' ≤ x :=
  expl_mono t t' hn hk hk' h0 h0' h

end ICG.GapMono

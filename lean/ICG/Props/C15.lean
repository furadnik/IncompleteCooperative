/-
  Property C15 — normalisation.
  "Normalising any game that the library itself accepts as superadditive yields a game with every singleton 0,
   every value in [0,1] and grand coalition 1 (or identically 0 when the game is additive), which is again
   superadditive; a graph game and its tabulated form normalise to the same values; and de-normalising with the
   returned information restores the original values (to float rounding)."

  Theorems about ICG.Model.Normalize (the model of normalize.py / graph_game.py), for every number of players
  and every ordered field (so ℚ — the driver's instance — and ℝ at once).
  Float rounding is outside these theorems; ICG.Props.FloatErrorNormalize bounds it for the closed forms proved here,
  and the float sub-stream of `corr_normalize` tests it.

  `_normalize_icg` treats a game as additive when `np.isclose(surplus + Σ, Σ, rtol = 1e-9, atol = 0)`, i.e.
  (exact arithmetic) when `|w(N)| ≤ rtol · |Σ_i v{i}|` (`Additive`), and then stores the identically-zero game.
  `rtol` is a parameter of the model and of every theorem here.  Inside the tolerance window
  `0 < w(N) ≤ rtol·|Σ_i v{i}|` the normal form is identically 0 although the game is not additive, and the round trip
  loses `w c ≤ rtol·|Σ_i v{i}|`; outside it the statements of the property hold exactly.  A graph game has zero
  singletons, so for its table the window is empty whatever `rtol` is.
-/
import ICG.Model.Normalize
import ICG.Spec.Bounds
import ICG.Lemmas.NormFacts
import Mathlib.Algebra.BigOperators.Ring.List
import Mathlib.Algebra.Order.Ring.Rat
import Mathlib.Algebra.Field.Rat


namespace ICG.C15
open ICG ICG.Norm Finset

/-! ## the in-place loop of `_normalize_icg` computes the closed form (any field, no order needed) -/

section complete
variable {α : Type}

/-- the table is complete on `n` players and its two bound columns agree (what `set_values(values)` gives) -/
structure FullOn (n : Nat) (t : Table α) : Prop where
  n_eq : t.n = n
  known : ∀ c, c < 2 ^ n → t.known c = true
  hi_eq : ∀ c, c < 2 ^ n → t.hi c = t.lo c

theorem fullOn_fullTable (n : Nat) (v : Nat → α) : FullOn n (fullTable n v) :=
  ⟨rfl, fun c hc => by simp [fullTable, hc], fun _ _ => rfl⟩

namespace FullOn
variable {n : Nat} {t : Table α}

theorem getValue (hf : FullOn n t) {c : Nat} (hc : c < 2 ^ n) : t.getValue c = .ok (t.lo c) := by
  rw [Table.getValue, Table.rows, hf.n_eq, if_pos hc, hf.known c hc]
  rfl

theorem setValue (hf : FullOn n t) {c : Nat} (hc : c < 2 ^ n) (v : α) : t.setValue v c = .ok (t.putValue c v) := by
  rw [Table.setValue, Table.rows, hf.n_eq, if_pos hc]

theorem putValue (hf : FullOn n t) (c : Nat) (v : α) : FullOn n (t.putValue c v) where
  n_eq := hf.n_eq
  known d hd := by
    show (if d = c then true else t.known d) = true
    split
    · rfl
    · exact hf.known d hd
  hi_eq d hd := by
    show (if d = c then v else t.hi d) = if d = c then v else t.lo d
    rw [hf.hi_eq d hd]

theorem getValues (hf : FullOn n t) {ids : List Nat} (h : ∀ c ∈ ids, c < 2 ^ n) :
    t.getValues (some ids) = .ok (ids.map t.lo) := by
  rw [getValues_known t (fun c hc => ⟨hf.n_eq ▸ h c hc, hf.known c (h c hc)⟩)]
  exact congrArg _ (List.map_congr_left (fun c hc => hf.hi_eq c (h c hc)))

end FullOn

/-- A loop over a duplicate-free list `L` of rows of a complete table whose body rewrites exactly the row `c` it is
    given, to `G c (current value)`: the rows are independent, so the loop succeeds, the table stays complete, and
    exactly the listed rows have changed. -/
theorem foldlM_rows {n : Nat} (step : Table α → Nat → Except Err (Table α)) (G : Nat → α → α) :
    ∀ (L : List Nat) (t : Table α), L.Nodup → FullOn n t →
      (∀ (u : Table α) c, c ∈ L → FullOn n u → step u c = .ok (u.putValue c (G c (u.lo c)))) →
      ∃ t', L.foldlM step t = .ok t' ∧ FullOn n t' ∧
        ∀ d, t'.lo d = if d ∈ L then G d (t.lo d) else t.lo d := by
  intro L
  induction L with
  | nil => exact fun t _ hf _ => ⟨t, rfl, hf, fun d => by simp⟩
  | cons c L ih =>
    intro t hnd hf hstep
    rw [List.nodup_cons] at hnd
    obtain ⟨t', hfold, hf', hlo⟩ := ih (t.putValue c (G c (t.lo c))) hnd.2 (hf.putValue c _)
      (fun u d hd => hstep u d (List.mem_cons_of_mem c hd))
    refine ⟨t', ?_, hf', fun d => ?_⟩
    · rw [List.foldlM_cons, hstep t c List.mem_cons_self hf]; exact hfold
    · rw [hlo d]
      show (if d ∈ L then G d (if d = c then G c (t.lo c) else t.lo d) else if d = c then G c (t.lo c) else t.lo d) = _
      by_cases hdc : d = c
      · subst hdc; rw [if_neg hnd.1, if_pos rfl, if_pos List.mem_cons_self]
      · simp only [hdc, if_false, List.mem_cons, false_or]

end complete

section inplace
variable {α : Type} [Field α]

theorem closedW_eq {n c : Nat} (hc : c < 2 ^ n) (v : Nat → α) :
    closedW v c = v c - bsum n (fun i => v (2 ^ i)) c := by
  unfold closedW
  rw [listSum_players hc]
  rfl  -- `singleton i` is `2 ^ i` by definition

theorem bsum_eq_sub_closedW {n c : Nat} (hc : c < 2 ^ n) (v : Nat → α) :
    bsum n (fun i => v (2 ^ i)) c = v c - closedW v c := by
  rw [closedW_eq hc, sub_sub_cancel]

/-- the rows one pass of the outer loop visits: the coalitions that contain player `i` -/
theorem mem_containing {n i c : Nat} :
    c ∈ (allCoalitions n).filter (fun x => inter x (singleton i) != 0) ↔ c < 2 ^ n ∧ c.testBit i = true := by
  simp only [allCoalitions, List.mem_filter, List.mem_range, inter, singleton]
  rw [Nat.and_comm, two_pow_and_ne_zero_iff]

/-- one pass of the outer loop: the singleton's current value is subtracted from every coalition containing it -/
theorem subSingleton_spec {n : Nat} (t : Table α) (i : Nat) (hi : i < n) (hf : FullOn n t) :
    ∃ t', subSingleton t i = .ok t' ∧ FullOn n t' ∧
      ∀ c, c < 2 ^ n → t'.lo c = t.lo c - (if c.testBit i then t.lo (2 ^ i) else 0) := by
  obtain ⟨t', hfold, hf', hlo⟩ := foldlM_rows
    (fun (u : Table α) c => do
      let v ← u.getValue c
      u.setValue (v - t.lo (2 ^ i)) c)
    (fun _ x => x - t.lo (2 ^ i))
    ((allCoalitions n).filter (fun x => inter x (singleton i) != 0)) t
    ((List.nodup_range (n := 2 ^ n)).filter _) hf
    (fun u c hc hu => by
      have hc' := (mem_containing.mp hc).1
      rw [hu.getValue hc']
      exact hu.setValue hc' _)
  refine ⟨t', ?_, hf', fun c hc => ?_⟩
  · unfold subSingleton
    rw [hf.getValue (c := singleton i) (two_pow_lt_two_pow hi), hf.n_eq]
    exact hfold
  · rw [hlo c]
    by_cases hb : c.testBit i = true
    · rw [if_pos (mem_containing.mpr ⟨hc, hb⟩), if_pos hb]
    · rw [if_neg (fun h => hb (mem_containing.mp h).2), if_neg hb, sub_zero]

theorem subAll_spec {n : Nat} : ∀ (k : Nat) (t : Table α), k ≤ n → FullOn n t →
    ∃ t', (List.range k).foldlM subSingleton t = .ok t' ∧ FullOn n t' ∧
      ∀ c, c < 2 ^ n → t'.lo c = t.lo c - ∑ i ∈ range k, if c.testBit i then t.lo (2 ^ i) else 0 := by
  intro k
  induction k with
  | zero => exact fun t _ hf => ⟨t, rfl, hf, fun c _ => by simp⟩
  | succ k ih =>
    intro t hk hf
    obtain ⟨t1, h1, hf1, hlo1⟩ := ih t (by omega) hf
    obtain ⟨t2, h2, hf2, hlo2⟩ := subSingleton_spec t1 k (by omega) hf1
    refine ⟨t2, ?_, hf2, fun c hc => ?_⟩
    · rw [List.range_succ, List.foldlM_append, h1]
      show List.foldlM subSingleton t1 [k] = _
      rw [List.foldlM_cons, h2]
      rfl
    · -- the singleton `k` itself has not been touched by the passes `i < k`
      have hsv : t1.lo (2 ^ k) = t.lo (2 ^ k) := by
        rw [hlo1 _ (two_pow_lt_two_pow (by omega)), Finset.sum_eq_zero, sub_zero]
        intro i hi
        rw [Nat.testBit_two_pow, if_neg]
        simpa using (Finset.mem_range.mp hi).ne'
      rw [hlo2 c hc, hlo1 c hc, hsv, Finset.sum_range_succ, sub_sub]

/-- the whole subtraction phase of `_normalize_icg`, and the read of the grand coalition that follows it -/
theorem subtraction_phase {n : Nat} (t : Table α) (hf : FullOn n t) :
    ∃ t1, (List.range t.n).foldlM subSingleton t = .ok t1 ∧ FullOn n t1 ∧
      (∀ c, c < 2 ^ n → t1.lo c = closedW t.lo c) ∧
      t1.getValue (grand t1.n) = .ok (closedW t.lo (grand n)) := by
  obtain ⟨t1, h1, hf1, hlo1⟩ := subAll_spec n t (le_refl n) hf
  have hW : ∀ c, c < 2 ^ n → t1.lo c = closedW t.lo c := fun c hc => by
    rw [hlo1 c hc, closedW_eq hc]; rfl
  exact ⟨t1, by rw [hf.n_eq]; exact h1, hf1, hW,
    by rw [hf1.n_eq, hf1.getValue (grand_lt n), hW _ (grand_lt n)]⟩

/-- `_get_norminfo` on a complete table: `(w(N), the singleton values in player order)` -/
theorem normInfo_closed {n : Nat} (t : Table α) (hf : FullOn n t) :
    normInfo t = .ok (closedW t.lo (grand n), (List.range n).map (fun i => t.lo (2 ^ i))) := by
  have hs : (singletons n).map t.lo = (List.range n).map (fun i => t.lo (2 ^ i)) := List.map_map
  unfold normInfo
  rw [hf.n_eq, hf.getValues (ids := singletons n) (fun c hc => by
      obtain ⟨i, hi, rfl⟩ := List.mem_map.mp hc
      exact two_pow_lt_two_pow (List.mem_range.mp hi)),
    hf.getValue (grand_lt n), hs, closedW_eq (grand_lt n), bsum_grand, ← listSum_range_map]
  rfl

theorem closedW_singleton {n i : Nat} (hi : i < n) (v : Nat → α) : closedW v (2 ^ i) = 0 := by
  rw [closedW_eq (two_pow_lt_two_pow hi), bsum_two_pow _ hi, sub_self]

theorem closedW_empty (v : Nat → α) : closedW v 0 = v 0 := by
  rw [closedW_eq (n := 0) (by simp), bsum_zero, sub_zero]

/-- `game.set_values(np.zeros(2**n, Value))` on a complete table -/
theorem setValues_zeros {n : Nat} (t : Table α) (hf : FullOn n t) :
    ∃ t', t.setValues (List.replicate (2 ^ t.n) 0) none = .ok t' ∧ FullOn n t' ∧ ∀ c, c < 2 ^ n → t'.lo c = 0 := by
  have hlen : (List.replicate (2 ^ t.n) (0 : α)).length = t.rows := List.length_replicate
  have hrow : ∀ c, c < 2 ^ n → c < t.rows := fun c hc => by rwa [Table.rows, hf.n_eq]
  simp only [Table.setValues, hlen, if_true]
  refine ⟨_, rfl, ⟨hf.n_eq, fun c hc => ?_, fun c hc => ?_⟩, fun c hc => ?_⟩
  · -- every row becomes known
    exact if_pos (hrow c hc)
  · -- both columns hold the new value
    show dite _ _ _ = dite _ _ _
    rw [dif_pos (hrow c hc), dif_pos (hrow c hc)]
  · -- which is 0
    show dite _ _ _ = _
    rw [dif_pos (hrow c hc), List.getElem_replicate]

/-- `upper_bounds /= g; lower_bounds /= g` on a complete table -/
theorem divColumns_spec {n : Nat} (t : Table α) (hf : FullOn n t) (g : α) :
    FullOn n (divColumns t g) ∧ ∀ c, c < 2 ^ n → (divColumns t g).lo c = t.lo c / g := by
  have hrow : ∀ c, c < 2 ^ n → c < t.rows := fun c hc => by rwa [Table.rows, hf.n_eq]
  refine ⟨⟨hf.n_eq, hf.known, fun c hc => ?_⟩, fun c hc => if_pos (hrow c hc)⟩
  show (if c < t.rows then t.hi c / g else t.hi c) = if c < t.rows then t.lo c / g else t.lo c
  rw [hf.hi_eq c hc]

end inplace

/-! ## the guard and the branches of the closed form (ordered field; the order is only used through `|·|` and `≤`) -/

section guard
variable {α : Type} [Field α] [LinearOrder α]

/-- the additivity test of `_normalize_icg` in exact arithmetic:
    `np.isclose(surplus + Σ, Σ, rtol, atol = 0)` is `|surplus| ≤ rtol · |Σ|`, with `surplus = w(N)` and
    `Σ = Σ_{i<n} v{i}` (`ICG.Norm.isAdditive_iff`, `closedAdditive_iff`). -/
def Additive (n : Nat) (rtol : α) (v : Nat → α) : Prop :=
  |closedW v (grand n)| ≤ rtol * |∑ i ∈ range n, v (2 ^ i)|

/-- outside the tolerance window `0 < w(N) ≤ rtol·|Σ_i v{i}|`: exactly additive, or not additive even up to `rtol` -/
def OutsideWindow (n : Nat) (rtol : α) (v : Nat → α) : Prop :=
  closedW v (grand n) = 0 ∨ rtol * |∑ i ∈ range n, v (2 ^ i)| < closedW v (grand n)

theorem not_additive_of_lt {n : Nat} {rtol : α} {v : Nat → α}
    (hlt : rtol * |∑ i ∈ range n, v (2 ^ i)| < closedW v (grand n)) :
    ¬ Additive n rtol v := fun ha => absurd (lt_of_lt_of_le hlt (le_abs_self _)) (not_lt.mpr ha)

variable [DecidableLE α]

theorem closedAdditive_iff_Additive (n : Nat) (rtol : α) (v : Nat → α) :
    closedAdditive n rtol v = true ↔ Additive n rtol v := closedAdditive_iff n rtol v

variable [DecidableEq α]

theorem normVal_of_additive {n : Nat} {rtol : α} {v : Nat → α} (ha : Additive n rtol v) (c : Nat) :
    normVal n rtol v c = 0 := by
  rw [normVal, if_pos ((closedAdditive_iff_Additive n rtol v).mpr ha)]

theorem normVal_of_scale {n : Nat} {rtol : α} {v : Nat → α} (hg : closedW v (grand n) ≠ 0)
    (ha : ¬ Additive n rtol v) (c : Nat) : normVal n rtol v c = closedW v c / closedW v (grand n) := by
  rw [normVal, if_neg (fun h => ha ((closedAdditive_iff_Additive n rtol v).mp h)), if_neg hg]

/-- reached only when `rtol·|Σ| < 0` -/
theorem normVal_of_zero {n : Nat} {rtol : α} {v : Nat → α} (hg : closedW v (grand n) = 0)
    (ha : ¬ Additive n rtol v) (c : Nat) : normVal n rtol v c = closedW v c := by
  rw [normVal, if_neg (fun h => ha ((closedAdditive_iff_Additive n rtol v).mp h)), if_pos hg]

theorem normVal_above {n : Nat} {rtol : α} {v : Nat → α}
    (hlt : rtol * |∑ i ∈ range n, v (2 ^ i)| < closedW v (grand n))
    (hg : closedW v (grand n) ≠ 0) (c : Nat) : normVal n rtol v c = closedW v c / closedW v (grand n) :=
  normVal_of_scale hg (not_additive_of_lt hlt) c

theorem normVal_eq_zero {n : Nat} {rtol : α} {v : Nat → α} {c : Nat} (hw : closedW v c = 0) :
    normVal n rtol v c = 0 := by
  unfold normVal
  split
  · rfl
  · split
    · exact hw
    · rw [hw, zero_div]

/-- **in-place = closed form.**  On a complete table `_normalize_icg` succeeds (`_get_norminfo`,
    the loop, the read of the grand coalition and `set_values` never raise) and leaves, in both bound columns,
    `normVal`: identically 0 when `|w(N)| ≤ rtol·|Σ_i v{i}|`; otherwise `w c = v c − Σ_{i∈c} v{i}`, divided by
    `w(N)` unless that is 0. -/
theorem normalizeIcg_closed {n : Nat} (rtol : α) (t : Table α) (hf : FullOn n t) :
    ∃ t', normalizeIcg rtol t = .ok t' ∧ FullOn n t' ∧ ∀ c, c < 2 ^ n → t'.lo c = normVal n rtol t.lo c := by
  obtain ⟨t1, h1, hf1, hW, hg⟩ := subtraction_phase t hf
  unfold normalizeIcg
  rw [normInfo_closed t hf]
  simp only [bind, Except.bind]
  rw [h1]
  simp only [hg, isAdditive_closed]
  by_cases ha : Additive n rtol t.lo
  · obtain ⟨t0, h0, hf0, hz⟩ := setValues_zeros t1 hf1
    rw [(closedAdditive_iff_Additive n rtol t.lo).mpr ha, if_pos rfl]
    exact ⟨t0, h0, hf0, fun c hc => by rw [hz c hc, normVal_of_additive ha]⟩
  · rw [Bool.eq_false_iff.mpr (fun h => ha ((closedAdditive_iff_Additive n rtol t.lo).mp h)),
      if_neg Bool.false_ne_true]
    by_cases hz : closedW t.lo (grand n) = 0
    · exact ⟨t1, by rw [if_pos hz]; rfl, hf1, fun c hc => by rw [hW c hc, normVal_of_zero hz ha]⟩
    · obtain ⟨hf2, hlo2⟩ := divColumns_spec t1 hf1 (closedW t.lo (grand n))
      exact ⟨_, by rw [if_neg hz]; rfl, hf2, fun c hc => by rw [hlo2 c hc, hW c hc, normVal_of_scale hz ha]⟩

/-- the same, branch by branch: with `w = v − Σ singletons` the result is identically 0 when the game is additive
    up to `rtol`; otherwise it is `w / w(N)` when `w(N) ≠ 0` and `w` itself when `w(N) = 0`. -/
theorem normalizeIcg_cases {n : Nat} (rtol : α) (t : Table α) (hf : FullOn n t) :
    ∃ t', normalizeIcg rtol t = .ok t' ∧ FullOn n t' ∧
      (Additive n rtol t.lo → ∀ c, c < 2 ^ n → t'.lo c = 0) ∧
      (¬ Additive n rtol t.lo → closedW t.lo (grand n) ≠ 0 →
        ∀ c, c < 2 ^ n → t'.lo c = closedW t.lo c / closedW t.lo (grand n)) ∧
      (¬ Additive n rtol t.lo → closedW t.lo (grand n) = 0 → ∀ c, c < 2 ^ n → t'.lo c = closedW t.lo c) := by
  obtain ⟨t', hok, hf', hlo⟩ := normalizeIcg_closed rtol t hf
  exact ⟨t', hok, hf',
    fun ha c hc => by rw [hlo c hc, normVal_of_additive ha],
    fun ha hg c hc => by rw [hlo c hc, normVal_of_scale hg ha],
    fun ha hg c hc => by rw [hlo c hc, normVal_of_zero hg ha]⟩

end guard

/-! ## the closed form has the properties C15 names (ordered field) -/

section ordered
variable {α : Type} [Field α] [LinearOrder α] [IsStrictOrderedRing α]

theorem closedW_SA {n : Nat} {v : Nat → α} (h : SA n v) : SA n (closedW v) := by
  intro a b ha hb hab
  rw [closedW_eq ha, closedW_eq hb, closedW_eq (or_lt_two_pow ha hb), bsum_or _ _ hab, sub_add_sub_comm]
  exact sub_le_sub_right (h a b ha hb hab) _

omit [IsStrictOrderedRing α] in
/-- A superadditive game with `w ∅ = 0` and zero singletons is non-negative: split one member `i` off `c`, then
    `w c ≥ w{i} + w(c∖i) = w(c∖i)`, and `c∖i` is smaller. -/
theorem nonneg_of_SA {n : Nat} {w : Nat → α} (h : SA n w) (h0 : w 0 = 0) (hs : ∀ i, i < n → w (2 ^ i) = 0) :
    ∀ c, c < 2 ^ n → 0 ≤ w c := by
  intro c
  induction c using Nat.strongRecOn with
  | _ c ih =>
    intro hc
    by_cases hz : c = 0
    · subst hz; rw [h0]
    · obtain ⟨i, hi⟩ := Nat.exists_testBit_of_ne_zero hz
      have hin : i < n := lt_of_testBit hc hi
      have hor := sub_or_self (two_pow_sub_of_testBit hi)
      have hcx : c - 2 ^ i < 2 ^ n := lt_of_le_of_lt (Nat.sub_le _ _) hc
      have := h (2 ^ i) (c - 2 ^ i) (two_pow_lt_two_pow hin) hcx hor.2
      rw [hor.1, hs i hin, zero_add] at this
      exact le_trans (ih _ (Nat.sub_lt (Nat.pos_of_ne_zero hz) (Nat.two_pow_pos i)) hcx) this

/-- `w c ≥ w x + w(c∖x) ≥ w x` -/
theorem mono_of_SA {n : Nat} {w : Nat → α} (h : SA n w) (hnn : ∀ c, c < 2 ^ n → 0 ≤ w c)
    {x c : Nat} (hc : c < 2 ^ n) (hx : x &&& c = x) : w x ≤ w c := by
  have hor := sub_or_self hx
  have hcx : c - x < 2 ^ n := lt_of_le_of_lt (Nat.sub_le c x) hc
  have := h x (c - x) (lt_of_le_of_lt (sub_le hx) hc) hcx hor.2
  rw [hor.1] at this
  exact le_trans (le_add_of_nonneg_right (hnn (c - x) hcx)) this

variable {n : Nat} {v : Nat → α}

theorem closedW_nonneg (h : SA n v) (h0 : v 0 = 0) : ∀ c, c < 2 ^ n → 0 ≤ closedW v c :=
  nonneg_of_SA (closedW_SA h) (by rw [closedW_empty, h0]) (fun _ hi => closedW_singleton hi v)

theorem closedW_le_grand (h : SA n v) (h0 : v 0 = 0) {c : Nat} (hc : c < 2 ^ n) :
    closedW v c ≤ closedW v (grand n) :=
  mono_of_SA (closedW_SA h) (closedW_nonneg h h0) (grand_lt n) (sub_grand_mask hc)

theorem closedW_window (h : SA n v) (h0 : v 0 = 0) {B : α} (hB : closedW v (grand n) ≤ B) {c : Nat}
    (hc : c < 2 ^ n) : 0 ≤ closedW v c ∧ closedW v c ≤ closedW v (grand n) ∧ closedW v c ≤ B :=
  ⟨closedW_nonneg h h0 c hc, closedW_le_grand h h0 hc, le_trans (closedW_le_grand h h0 hc) hB⟩

/-- `w(N) = 0 ⇒ w ≡ 0`: the additive case (`v c = Σ_{i∈c} v{i}` for every coalition) -/
theorem closedW_zero_of_grand_zero (h : SA n v) (h0 : v 0 = 0) (hg : closedW v (grand n) = 0) :
    ∀ c, c < 2 ^ n → closedW v c = 0 := by
  intro c hc
  exact le_antisymm (hg ▸ closedW_le_grand h h0 hc) (closedW_nonneg h h0 c hc)

theorem additive_of_grand_zero (h : SA n v) (h0 : v 0 = 0) (hg : closedW v (grand n) = 0) :
    ∀ c, c < 2 ^ n → v c = bsum n (fun i => v (2 ^ i)) c := by
  intro c hc
  have := closedW_zero_of_grand_zero h h0 hg c hc
  rw [closedW_eq hc] at this
  exact sub_eq_zero.mp this

/-- in a superadditive game the surplus is non-negative, so the guard reads `w(N) ≤ rtol·|Σ|` -/
theorem additive_iff_le {rtol : α} (h : SA n v) (h0 : v 0 = 0) :
    Additive n rtol v ↔ closedW v (grand n) ≤ rtol * |∑ i ∈ range n, v (2 ^ i)| := by
  unfold Additive
  rw [abs_of_nonneg (closedW_nonneg h h0 _ (grand_lt n))]

theorem additive_of_surplus_zero {rtol : α} (hr : 0 ≤ rtol) (hg : closedW v (grand n) = 0) : Additive n rtol v := by
  unfold Additive
  rw [hg, abs_zero]
  exact mul_nonneg hr (abs_nonneg _)

theorem additive_zero_iff : Additive n (0 : α) v ↔ closedW v (grand n) = 0 := by
  unfold Additive
  rw [zero_mul, abs_nonpos_iff]

theorem outside_window_zero (h : SA n v) (h0 : v 0 = 0) : OutsideWindow n (0 : α) v := by
  rcases (closedW_nonneg h h0 _ (grand_lt n)).lt_or_eq with hpos | hz
  · right; rwa [zero_mul]
  · left; exact hz.symm

variable [DecidableLE α] [DecidableEq α] {rtol : α}

theorem normVal_zero_of (h : SA n v) (h0 : v 0 = 0)
    (hz : closedW v (grand n) = 0 ∨ Additive n rtol v) {c : Nat} (hc : c < 2 ^ n) : normVal n rtol v c = 0 := by
  by_cases ha : Additive n rtol v
  · exact normVal_of_additive ha c
  · have hg := hz.resolve_right ha
    rw [normVal_of_zero hg ha, closedW_zero_of_grand_zero h h0 hg c hc]

/-- with `rtol = 0` the window is empty: the closed form is the exact normalisation, with an exactly additive
    (`w(N) = 0`) game sent to 0 -/
theorem normVal_exact (c : Nat) :
    normVal n (0 : α) v c = if closedW v (grand n) = 0 then 0 else closedW v c / closedW v (grand n) := by
  by_cases hg : closedW v (grand n) = 0
  · rw [if_pos hg, normVal_of_additive (additive_zero_iff.mpr hg)]
  · rw [if_neg hg, normVal_of_scale hg (fun ha => hg (additive_zero_iff.mp ha))]

omit [IsStrictOrderedRing α] in
theorem normVal_singleton {i : Nat} (hi : i < n) : normVal n rtol v (2 ^ i) = 0 :=
  normVal_eq_zero (closedW_singleton hi v)

set_option linter.unusedSectionVars false in
theorem normVal_empty (h0 : v 0 = 0) : normVal n rtol v 0 = 0 :=
  normVal_eq_zero (by rw [closedW_empty, h0])

/-- the normal form of a superadditive game is identically 0 (the game is additive: exactly, or up to `rtol`) or it
    is `w / w(N)` with `w(N) > 0`; the two cases exclude each other -/
theorem normVal_cases (h : SA n v) (h0 : v 0 = 0) :
    ((closedW v (grand n) = 0 ∨ Additive n rtol v) ∧ ∀ c, c < 2 ^ n → normVal n rtol v c = 0) ∨
      (0 < closedW v (grand n) ∧ ¬ Additive n rtol v ∧
        ∀ c, normVal n rtol v c = closedW v c / closedW v (grand n)) := by
  by_cases hz : closedW v (grand n) = 0 ∨ Additive n rtol v
  · exact Or.inl ⟨hz, fun c hc => normVal_zero_of h h0 hz hc⟩
  · have hg : closedW v (grand n) ≠ 0 := fun hg => hz (Or.inl hg)
    exact Or.inr ⟨lt_of_le_of_ne (closedW_nonneg h h0 _ (grand_lt n)) (Ne.symm hg), fun ha => hz (Or.inr ha),
      normVal_of_scale hg (fun ha => hz (Or.inr ha))⟩

theorem normVal_unit (h : SA n v) (h0 : v 0 = 0) {c : Nat} (hc : c < 2 ^ n) :
    0 ≤ normVal n rtol v c ∧ normVal n rtol v c ≤ 1 := by
  rcases normVal_cases (rtol := rtol) h h0 with ⟨_, hz⟩ | ⟨hpos, _, hs⟩
  · rw [hz c hc]
    exact ⟨le_refl _, zero_le_one⟩
  · rw [hs]
    exact ⟨div_nonneg (closedW_nonneg h h0 c hc) hpos.le, (div_le_one hpos).mpr (closedW_le_grand h h0 hc)⟩

theorem normVal_SA (h : SA n v) (h0 : v 0 = 0) : SA n (normVal n rtol v) := by
  intro a b ha hb hab
  rcases normVal_cases (rtol := rtol) h h0 with ⟨_, hz⟩ | ⟨hpos, _, hs⟩
  · rw [hz a ha, hz b hb, hz _ (or_lt_two_pow ha hb), add_zero]
  · rw [hs, hs, hs, ← add_div]
    exact div_le_div_of_nonneg_right (closedW_SA h a b ha hb hab) hpos.le

/-- the round trip in closed form, outside the window: scaling the normal form back by `w(N)` and adding the singleton
    values of the members restores `v c`.  Both representations' round trips are this statement. -/
theorem normVal_roundtrip (h : SA n v) (h0 : v 0 = 0) (how : OutsideWindow n rtol v) {c : Nat}
    (hc : c < 2 ^ n) :
    normVal n rtol v c * closedW v (grand n) + bsum n (fun i => v (2 ^ i)) c = v c := by
  by_cases hg : closedW v (grand n) = 0
  · rw [normVal_zero_of h h0 (Or.inl hg) hc, zero_mul, zero_add]
    exact (additive_of_grand_zero h h0 hg c hc).symm
  · rw [normVal_of_scale hg (not_additive_of_lt (Or.resolve_left how hg)), div_mul_cancel₀ _ hg, closedW_eq hc,
      sub_add_cancel]

/-- **C15, first sentence, about the code's own loop — for every tolerance `rtol`, no window hypothesis.**
    For a complete table holding a superadditive game with `v ∅ = 0` `_normalize_icg` succeeds and
    the resulting (complete) table has every singleton 0, every value in [0,1], is superadditive again, and has
    grand coalition 1 — or is identically 0, and then the game is additive: exactly (`w(N) = 0`) or up to the
    tolerance (`Additive`: `|w(N)| ≤ rtol·|Σ_i v{i}|`); the converse is in `normalizeIcg_cases`.
    (For `0 ≤ rtol`, `w(N) = 0` implies `Additive`: `normalize_property_tol`.) -/
theorem normalize_property (rtol : α) (t : Table α) (hf : FullOn n t) (h : SA n t.lo) (h0 : t.lo 0 = 0) :
    ∃ t', normalizeIcg rtol t = .ok t' ∧ FullOn n t' ∧
      (∀ i, i < n → t'.lo (2 ^ i) = 0) ∧
      (∀ c, c < 2 ^ n → 0 ≤ t'.lo c ∧ t'.lo c ≤ 1) ∧
      (t'.lo (grand n) = 1 ∨
        ((closedW t.lo (grand n) = 0 ∨ Additive n rtol t.lo) ∧ ∀ c, c < 2 ^ n → t'.lo c = 0)) ∧
      SA n t'.lo := by
  obtain ⟨t', hok, hf', hlo⟩ := normalizeIcg_closed rtol t hf
  refine ⟨t', hok, hf', ?_, ?_, ?_, ?_⟩
  · intro i hi
    rw [hlo _ (two_pow_lt_two_pow hi)]; exact normVal_singleton hi
  · intro c hc
    rw [hlo c hc]; exact normVal_unit h h0 hc
  · rcases normVal_cases (rtol := rtol) h h0 with ⟨hg, hz⟩ | ⟨hpos, _, hs⟩
    · right; exact ⟨hg, fun c hc => by rw [hlo c hc]; exact hz c hc⟩
    · left; rw [hlo _ (grand_lt n), hs, div_self hpos.ne']
  · intro a b ha hb hab
    rw [hlo a ha, hlo b hb, hlo _ (or_lt_two_pow ha hb)]
    exact normVal_SA h h0 a b ha hb hab

theorem normalize_property_tol (rtol : α) (hr : 0 ≤ rtol) (t : Table α) (hf : FullOn n t) (h : SA n t.lo)
    (h0 : t.lo 0 = 0) :
    ∃ t', normalizeIcg rtol t = .ok t' ∧ FullOn n t' ∧
      (∀ i, i < n → t'.lo (2 ^ i) = 0) ∧
      (∀ c, c < 2 ^ n → 0 ≤ t'.lo c ∧ t'.lo c ≤ 1) ∧
      (t'.lo (grand n) = 1 ∨ (Additive n rtol t.lo ∧ ∀ c, c < 2 ^ n → t'.lo c = 0)) ∧
      SA n t'.lo := by
  obtain ⟨t', h1, h2, h3, h4, h5, h6⟩ := normalize_property rtol t hf h h0
  refine ⟨t', h1, h2, h3, h4, h5.imp id (fun ⟨hz, hall⟩ => ⟨?_, hall⟩), h6⟩
  exact hz.elim (additive_of_surplus_zero hr) id

theorem normalize_property_exact (t : Table α) (hf : FullOn n t) (h : SA n t.lo) (h0 : t.lo 0 = 0) :
    ∃ t', normalizeIcg (0 : α) t = .ok t' ∧ FullOn n t' ∧
      (∀ i, i < n → t'.lo (2 ^ i) = 0) ∧
      (∀ c, c < 2 ^ n → 0 ≤ t'.lo c ∧ t'.lo c ≤ 1) ∧
      (t'.lo (grand n) = 1 ∨ (closedW t.lo (grand n) = 0 ∧ ∀ c, c < 2 ^ n → t'.lo c = 0)) ∧
      SA n t'.lo := by
  obtain ⟨t', h1, h2, h3, h4, h5, h6⟩ := normalize_property (0 : α) t hf h h0
  refine ⟨t', h1, h2, h3, h4, h5.imp id (fun ⟨hz, hall⟩ => ⟨?_, hall⟩), h6⟩
  exact hz.elim id additive_zero_iff.mp

/-- **inside the tolerance window** `0 < w(N) ≤ rtol·|Σ_i v{i}|` the game is not additive, but
    `_normalize_icg` treats its surplus as a rounding residue: it succeeds and leaves the identically-zero game
    (so the grand coalition is 0, not 1).  What is discarded is `w = v − Σ singletons`, every value of which lies
    in `[0, w(N)] ⊆ [0, rtol·|Σ_i v{i}|]`. -/
theorem window_behaviour (rtol : α) (t : Table α) (hf : FullOn n t) (h : SA n t.lo) (h0 : t.lo 0 = 0)
    (hpos : 0 < closedW t.lo (grand n))
    (hwin : closedW t.lo (grand n) ≤ rtol * |∑ i ∈ range n, t.lo (2 ^ i)|) :
    ∃ t', normalizeIcg rtol t = .ok t' ∧ FullOn n t' ∧
      (∀ c, c < 2 ^ n → t'.lo c = 0) ∧
      (∀ c, c < 2 ^ n → 0 ≤ closedW t.lo c ∧ closedW t.lo c ≤ closedW t.lo (grand n) ∧
        closedW t.lo c ≤ rtol * |∑ i ∈ range n, t.lo (2 ^ i)|) ∧
      ¬ (∀ c, c < 2 ^ n → t.lo c = bsum n (fun i => t.lo (2 ^ i)) c) := by
  obtain ⟨t', hok, hf', hlo⟩ := normalizeIcg_closed rtol t hf
  have hadd : Additive n rtol t.lo := (additive_iff_le h h0).mpr hwin
  refine ⟨t', hok, hf', fun c hc => by rw [hlo c hc, normVal_of_additive hadd],
    fun c hc => closedW_window h h0 hwin hc, ?_⟩
  · intro hall
    have := hall _ (grand_lt n)
    rw [closedW_eq (grand_lt n), this, sub_self] at hpos
    exact lt_irrefl _ hpos

end ordered

/-! ## a graph game and its tabulated form normalise to the same values -/

section graph
variable {α : Type} [Field α]

theorem bsum_graph_singletons (g : GraphGame α) (c : Nat) : bsum g.n (fun i => graphValue g (2 ^ i)) c = 0 :=
  Finset.sum_eq_zero (fun i _ => by simp [graphValue_singleton])

theorem closedW_graphValue (g : GraphGame α) {c : Nat} (hc : c < 2 ^ g.n) :
    closedW (graphValue g) c = graphValue g c := by
  rw [closedW_eq hc, bsum_graph_singletons, sub_zero]

/-- a graph game whose weights above the diagonal (the only ones `get_value` reads for a coalition `< 2^n`) are
    those of `g` times `k` has the values of `g` times `k` -/
theorem graphValue_scale {g g' : GraphGame α} {n : Nat} {k : α}
    (hm : ∀ i j, i < j → j < n → g'.m i j = g.m i j * k) {c : Nat} (hc : c < 2 ^ n) :
    graphValue g' c = graphValue g c * k := by
  rw [graphValue_congr hm hc, graphValue, listSum_eq_sum, listSum_eq_sum]
  exact List.sum_map_mul_right ..

/-- `_normalize_graph_game` in closed form (it has no tolerance guard): nothing happens when the grand value is 0 -/
theorem graphValue_normalizeGraph_eq [DecidableEq α] (g : GraphGame α) {c : Nat} (hc : c < 2 ^ g.n) :
    graphValue (normalizeGraph g) c =
      if graphValue g (grand g.n) = 0 then graphValue g c else graphValue g c / graphValue g (grand g.n) := by
  by_cases hz : graphValue g (grand g.n) = 0
  · simp [normalizeGraph, hz]
  · rw [if_neg hz, div_eq_mul_inv]
    refine graphValue_scale (fun i j hij hj => ?_) hc
    simp only [normalizeGraph, hz, if_false]
    rw [if_pos ⟨by omega, hj⟩, if_neg (by omega), div_eq_mul_inv]

theorem graph_singletons (g : GraphGame α) :
    (List.range g.n).map (fun i => graphValue g (2 ^ i)) = (List.range g.n).map (fun _ => (0 : α)) :=
  List.map_congr_left (fun i _ => graphValue_singleton g i)

theorem normInfoGraph_eq (g : GraphGame α) :
    normInfoGraph g = (graphValue g (grand g.n), (List.range g.n).map (fun _ => (0 : α))) := by
  have hs : (singletons g.n).map (graphValue g) = (List.range g.n).map (fun _ => (0 : α)) :=
    List.map_map.trans (graph_singletons g)
  unfold normInfoGraph
  simp only [hs]
  rw [listSum_range_map]
  simp

/-- the returned information is the same in both representations -/
theorem normInfo_graph_table (g : GraphGame α) :
    normInfo (fullTable g.n (graphValue g)) = .ok (normInfoGraph g) := by
  rw [normInfo_closed _ (fullOn_fullTable g.n (graphValue g)), normInfoGraph_eq]
  show Except.ok (closedW (graphValue g) (grand g.n), _) = _
  rw [closedW_graphValue g (grand_lt g.n)]
  exact congrArg (fun l => Except.ok (_, l)) (graph_singletons g)

end graph

section graphOrdered
variable {α : Type} [Field α] [LinearOrder α] [IsStrictOrderedRing α]

/-- a graph game has zero singletons, so its tolerance window is empty whatever `rtol` is:
    `|w(N)| ≤ rtol · |0|` iff `w(N) = 0` -/
theorem additive_graph_iff (g : GraphGame α) (rtol : α) :
    Additive g.n rtol (graphValue g) ↔ graphValue g (grand g.n) = 0 := by
  unfold Additive
  rw [closedW_graphValue g (grand_lt g.n)]
  have : ∑ i ∈ range g.n, graphValue g (2 ^ i) = 0 :=
    Finset.sum_eq_zero (fun i _ => graphValue_singleton g i)
  rw [this, abs_zero, mul_zero, abs_nonpos_iff]

theorem graph_zero_of_grand_zero (g : GraphGame α) (h : SA g.n (graphValue g))
    (hz : graphValue g (grand g.n) = 0) {c : Nat} (hc : c < 2 ^ g.n) : graphValue g c = 0 := by
  have := closedW_zero_of_grand_zero h (graphValue_empty g)
    (by rw [closedW_graphValue g (grand_lt g.n)]; exact hz) c hc
  rwa [closedW_graphValue g hc] at this

variable [DecidableLE α] [DecidableEq α]

theorem normVal_graph (g : GraphGame α) (rtol : α) {c : Nat} (hc : c < 2 ^ g.n) :
    normVal g.n rtol (graphValue g) c =
      if graphValue g (grand g.n) = 0 then 0 else graphValue g c / graphValue g (grand g.n) := by
  by_cases hz : graphValue g (grand g.n) = 0
  · rw [if_pos hz, normVal_of_additive ((additive_graph_iff g rtol).mpr hz)]
  · rw [if_neg hz, normVal_of_scale (by rw [closedW_graphValue g (grand_lt g.n)]; exact hz)
        (fun ha => hz ((additive_graph_iff g rtol).mp ha)),
      closedW_graphValue g hc, closedW_graphValue g (grand_lt g.n)]

/-- **graph form = tabulated form.**  The values of the normalised graph game are the closed-form normalisation
    of its value table, for every `rtol`.  Superadditivity (the property's scope) is needed only when the grand
    value is 0: `_normalize_graph_game` then leaves the game alone while the table normaliser stores zeros — the
    same thing exactly because a superadditive game with grand value 0 and zero singletons is identically 0. -/
theorem graphValue_normalizeGraph (rtol : α) (g : GraphGame α) (h : SA g.n (graphValue g)) {c : Nat}
    (hc : c < 2 ^ g.n) : graphValue (normalizeGraph g) c = normVal g.n rtol (graphValue g) c := by
  rw [normVal_graph g rtol hc, graphValue_normalizeGraph_eq g hc]
  by_cases hz : graphValue g (grand g.n) = 0
  · rw [if_pos hz, if_pos hz, graph_zero_of_grand_zero g h hz hc]
  · rw [if_neg hz, if_neg hz]

/-- without superadditivity the two forms still agree whenever the grand value is not 0 -/
theorem graphValue_normalizeGraph_of_ne (rtol : α) (g : GraphGame α) (hz : graphValue g (grand g.n) ≠ 0)
    {c : Nat} (hc : c < 2 ^ g.n) : graphValue (normalizeGraph g) c = normVal g.n rtol (graphValue g) c := by
  rw [normVal_graph g rtol hc, graphValue_normalizeGraph_eq g hc, if_neg hz, if_neg hz]

/-- `_normalize_icg` on the table of a superadditive graph game leaves the values of the normalised graph game -/
theorem graph_and_table_agree (rtol : α) (g : GraphGame α) (h : SA g.n (graphValue g)) :
    ∃ t', normalizeIcg rtol (fullTable g.n (graphValue g)) = .ok t' ∧ FullOn g.n t' ∧
      ∀ c, c < 2 ^ g.n → t'.lo c = graphValue (normalizeGraph g) c := by
  obtain ⟨t', hok, hf, hlo⟩ := normalizeIcg_closed rtol _ (fullOn_fullTable g.n (graphValue g))
  exact ⟨t', hok, hf, fun c hc => by rw [hlo c hc, graphValue_normalizeGraph rtol g h hc]; rfl⟩

/-- the graph representation: `_denormalize_graph_game ∘ _normalize_graph_game` restores every value of a
    superadditive graph game -/
theorem graph_denormalize_normalize (g : GraphGame α) (h : SA g.n (graphValue g)) {c : Nat} (hc : c < 2 ^ g.n) :
    graphValue (denormalizeGraph (normalizeGraph g) (normInfoGraph g)) c = graphValue g c := by
  have hn : (normalizeGraph g).n = g.n := by
    unfold normalizeGraph; dsimp only; split <;> rfl
  -- `_denormalize_graph_game` scales by the recorded grand value; the rest is the closed-form round trip of the table
  -- (`rtol = 0`: the window of a graph game is empty anyway), whose singleton sum vanishes
  rw [normInfoGraph_eq, graphValue_scale (g := normalizeGraph g) (k := graphValue g (grand g.n))
      (fun i j hij hj => by
        show (if i < (normalizeGraph g).n ∧ j < (normalizeGraph g).n then _ else _) = _
        rw [hn, if_pos ⟨by omega, hj⟩]) hc,
    graphValue_normalizeGraph 0 g h hc, ← closedW_graphValue g (grand_lt g.n)]
  have hrt := normVal_roundtrip h (graphValue_empty g) (outside_window_zero h (graphValue_empty g)) hc
  rwa [bsum_graph_singletons, add_zero] at hrt

end graphOrdered

/-! ## de-normalising with the returned information restores the game -/

section denorm
variable {α : Type} [Field α]

/-- the inner loop of `denormalize_game`: `for i in coalition.players: value += singleton_values[i]` -/
theorem inner_fold (sv : List α) (s : Nat → α) :
    ∀ (l : List Nat) (init : α), (∀ i ∈ l, sv[i]? = some (s i)) →
      l.foldlM (fun (v : α) i => match sv[i]? with
        | some x => (pure (v + x) : Except Err α)
        | none => throw Err.index) init = .ok (init + listSum (l.map s)) := by
  intro l
  induction l with
  | nil => intro init _; simp [listSum, pure, Except.pure]
  | cons a l ih =>
    intro init h
    have := ih (init + s a) (fun i hi => h i (by simp [hi]))
    rw [List.foldlM_cons, h a (by simp)]
    simp only [pure, Except.pure, bind, Except.bind] at this ⊢
    rw [this, listSum_eq_sum, listSum_eq_sum, List.map_cons, List.sum_cons, add_assoc]

/-- `denormalize_game` on a complete table with enough singleton values: `value · g + Σ_{i∈c} s_i` -/
theorem denormalize_spec {n : Nat} (t : Table α) (hf : FullOn n t) (g : α) (sv : List α) (s : Nat → α)
    (hsv : ∀ i, i < n → sv[i]? = some (s i)) :
    ∃ t', denormalize t (g, sv) = .ok t' ∧ FullOn n t' ∧
      ∀ c, c < 2 ^ n → t'.lo c = t.lo c * g + bsum n s c := by
  obtain ⟨t', hfold, hf', hlo⟩ := foldlM_rows
    (fun (u : Table α) c => do
      let v ← u.getValue c
      let v ← (players c).foldlM (fun (v : α) i =>
        match sv[i]? with
        | some x => (pure (v + x) : Except Err α)
        | none => throw Err.index) (v * g)
      u.setValue v c)
    (fun c x => x * g + bsum n s c)
    (allCoalitions n) t (List.nodup_range (n := 2 ^ n)) hf
    (fun u c hc hu => by
      have hc' : c < 2 ^ n := List.mem_range.mp hc
      have hin := inner_fold sv s (players c) (u.lo c * g)
        (fun i hi => hsv i (lt_of_testBit hc' (mem_players.mp hi)))
      rw [hu.getValue hc']
      show (do let v ← (players c).foldlM _ (u.lo c * g); u.setValue v c) = _
      rw [hin, listSum_players hc']
      exact hu.setValue hc' _)
  refine ⟨t', by unfold denormalize; rw [hf.n_eq]; exact hfold, hf', fun c hc => ?_⟩
  rw [hlo c]
  exact if_pos (List.mem_range.mpr hc)

end denorm

section roundtripClosed
variable {α : Type} [Field α] [LinearOrder α] [DecidableLE α] [DecidableEq α]

/-- `denormalize_game ∘ normalize_game` on a complete table, in closed form and for every `rtol`: both calls
    succeed, the returned information is `(w(N), singleton values)`, and the restored value of `c` is
    `normVal c · w(N) + Σ_{i∈c} v{i}`; so whatever holds of that expression holds of the restored table. -/
theorem denormalize_normalize_closed {n : Nat} (rtol : α) (t : Table α) (hf : FullOn n t) {Q : Nat → α → Prop}
    (hQ : ∀ c, c < 2 ^ n →
      Q c (normVal n rtol t.lo c * closedW t.lo (grand n) + bsum n (fun i => t.lo (2 ^ i)) c)) :
    ∃ info t' t'', normalizeGame rtol t = .ok (info, t') ∧ denormalize t' info = .ok t'' ∧ FullOn n t'' ∧
      ∀ c, c < 2 ^ n → Q c (t''.lo c) := by
  obtain ⟨t', hok, hf', hlo⟩ := normalizeIcg_closed rtol t hf
  obtain ⟨t'', hden, hf'', hlo''⟩ := denormalize_spec t' hf' (closedW t.lo (grand n))
    ((List.range n).map (fun i => t.lo (2 ^ i))) (fun i => t.lo (2 ^ i))
    (by intro i hi; simp [hi])
  refine ⟨_, t', t'', ?_, hden, hf'', fun c hc => ?_⟩
  · unfold normalizeGame
    rw [normInfo_closed t hf]
    simp only [bind, Except.bind]
    rw [hok]; rfl
  · rw [hlo'' c hc, hlo c hc]
    exact hQ c hc

/-- whenever the guard fires (no superadditivity needed) the normal form is 0 and `denormalize_game` returns the
    additive part of the game: `0 · w(N) + Σ_{i∈c} v{i} = v c − w c` -/
theorem denormalize_additive {n : Nat} (rtol : α) (t : Table α) (hf : FullOn n t)
    (ha : Additive n rtol t.lo) :
    ∃ info t' t'', normalizeGame rtol t = .ok (info, t') ∧ denormalize t' info = .ok t'' ∧ FullOn n t'' ∧
      ∀ c, c < 2 ^ n → t''.lo c = t.lo c - closedW t.lo c :=
  denormalize_normalize_closed rtol t hf (Q := fun c x => x = t.lo c - closedW t.lo c) fun c hc => by
    rw [normVal_of_additive ha, zero_mul, zero_add, bsum_eq_sub_closedW hc]

end roundtripClosed

section roundtrip
variable {α : Type} [Field α] [LinearOrder α] [IsStrictOrderedRing α] [DecidableLE α] [DecidableEq α]

/-- de-normalising restores the game outside the tolerance window: in the scaling branch, and in the exactly
    additive branch, where the stored values are 0 and `0·0 + Σ singletons` is the original value -/
theorem denormalize_normalize {n : Nat} (rtol : α) (t : Table α) (hf : FullOn n t) (h : SA n t.lo)
    (h0 : t.lo 0 = 0)
    (how : OutsideWindow n rtol t.lo) :
    ∃ info t' t'', normalizeGame rtol t = .ok (info, t') ∧ denormalize t' info = .ok t'' ∧ FullOn n t'' ∧
      ∀ c, c < 2 ^ n → t''.lo c = t.lo c :=
  denormalize_normalize_closed rtol t hf (Q := fun c x => x = t.lo c) fun _ hc => normVal_roundtrip h h0 how hc

theorem denormalize_normalize_exact {n : Nat} (t : Table α) (hf : FullOn n t) (h : SA n t.lo)
    (h0 : t.lo 0 = 0) :
    ∃ info t' t'', normalizeGame (0 : α) t = .ok (info, t') ∧ denormalize t' info = .ok t'' ∧ FullOn n t'' ∧
      ∀ c, c < 2 ^ n → t''.lo c = t.lo c :=
  denormalize_normalize (0 : α) t hf h h0 (outside_window_zero h h0)

/-- **inside the tolerance window the round trip is exact up to the tolerance.**  With
    `0 < w(N) ≤ rtol·|Σ_i v{i}|` both calls succeed, the normal form is 0, and `denormalize_game` produces
    `Σ_{i∈c} v{i} = v c − w c`: the discarded surplus share `w c` is the error, and
    `0 ≤ w c ≤ w(N) ≤ rtol·|Σ_i v{i}|`.  The game itself is not restored (`w(N) > 0`). -/
theorem denormalize_window {n : Nat} (rtol : α) (t : Table α) (hf : FullOn n t) (h : SA n t.lo)
    (h0 : t.lo 0 = 0) (hpos : 0 < closedW t.lo (grand n))
    (hwin : closedW t.lo (grand n) ≤ rtol * |∑ i ∈ range n, t.lo (2 ^ i)|) :
    ∃ info t' t'', normalizeGame rtol t = .ok (info, t') ∧ denormalize t' info = .ok t'' ∧ FullOn n t'' ∧
      (∀ c, c < 2 ^ n → t''.lo c = t.lo c - closedW t.lo c) ∧
      (∀ c, c < 2 ^ n → 0 ≤ closedW t.lo c ∧ closedW t.lo c ≤ closedW t.lo (grand n) ∧
        closedW t.lo c ≤ rtol * |∑ i ∈ range n, t.lo (2 ^ i)|) ∧
      t''.lo (grand n) ≠ t.lo (grand n) := by
  obtain ⟨info, t', t'', hnorm, hden, hf'', hval⟩ :=
    denormalize_additive rtol t hf ((additive_iff_le h h0).mpr hwin)
  refine ⟨info, t', t'', hnorm, hden, hf'', hval, fun c hc => closedW_window h h0 hwin hc, ?_⟩
  rw [hval _ (grand_lt n)]
  exact fun he => hpos.ne' (sub_eq_self.mp he)

/-- **the round trip for every superadditive game and every tolerance `0 ≤ rtol`:** both calls succeed and every
    restored value is within `rtol·|Σ_i v{i}|` of the original (exactly equal outside the window). -/
theorem denormalize_normalize_bound {n : Nat} (rtol : α) (hr : 0 ≤ rtol) (t : Table α) (hf : FullOn n t)
    (h : SA n t.lo) (h0 : t.lo 0 = 0) :
    ∃ info t' t'', normalizeGame rtol t = .ok (info, t') ∧ denormalize t' info = .ok t'' ∧ FullOn n t'' ∧
      ∀ c, c < 2 ^ n → |t''.lo c - t.lo c| ≤ rtol * |∑ i ∈ range n, t.lo (2 ^ i)| := by
  refine denormalize_normalize_closed rtol t hf
    (Q := fun c x => |x - t.lo c| ≤ rtol * |∑ i ∈ range n, t.lo (2 ^ i)|) fun c hc => ?_
  by_cases ha : Additive n rtol t.lo
  · -- the guard fired: the error is the discarded `w c ∈ [0, w(N)]`, and `|w(N)| ≤ rtol·|Σ|` is the guard itself
    rw [normVal_of_additive ha, zero_mul, zero_add, bsum_eq_sub_closedW hc, sub_sub_cancel_left, abs_neg,
      abs_of_nonneg (closedW_nonneg h h0 c hc)]
    exact (closedW_window h h0 (le_trans (le_abs_self _) ha) hc).2.2
  · rw [normVal_roundtrip h h0 (Or.inr (not_le.mp (fun hle => ha ((additive_iff_le h h0).mpr hle)))) hc, sub_self,
      abs_zero]
    exact mul_nonneg hr (abs_nonneg _)

end roundtrip

/-! ## the hypotheses are satisfiable; the model computes what the theorems say (concrete instances over ℚ) -/

section examples

/-- a superadditive 2-player game with non-zero singletons: v = [0, 1, 2, 7] -/
def exV : Nat → ℚ := fun c => if c = 3 then 7 else if c = 2 then 2 else if c = 1 then 1 else 0

/-- an additive game with a negative singleton: v = [0, -1, 2, 1] -/
def exAdd : Nat → ℚ := fun c => if c = 3 then 1 else if c = 2 then 2 else if c = 1 then -1 else 0

/-- for two players superadditivity (given `v ∅ = 0`) is the single inequality `v{0} + v{1} ≤ v N`: the only
    disjoint pairs of non-empty coalitions are `({0},{1})` and `({1},{0})` -/
theorem SA_two {v : Nat → ℚ} (h0 : v 0 = 0) (h : v 1 + v 2 ≤ v 3) : SA 2 v := by
  intro a b ha hb hab
  have key : ∀ a < 4, ∀ b < 4, a &&& b = 0 → a = 0 ∨ b = 0 ∨ (a = 1 ∧ b = 2) ∨ (a = 2 ∧ b = 1) := by decide
  rcases key a ha b hb hab with rfl | rfl | ⟨rfl, rfl⟩ | ⟨rfl, rfl⟩
  · rw [h0, zero_add, Nat.zero_or]
  · rw [h0, add_zero, Nat.or_zero]
  · exact h
  · rw [add_comm]; exact h

theorem exV_SA : SA 2 exV := SA_two (by decide +kernel) (by decide +kernel)

theorem exAdd_SA : SA 2 exAdd := SA_two (by decide +kernel) (by decide +kernel)

/-- a superadditive 2-player game inside the tolerance window of the code's own `rtol = 1e-9`:
    singletons 2^40, surplus 2^10, `w(N)/|Σ| = 2^-31 ≈ 4.7e-10`: v = [0, 2^40, 2^40, 2^41 + 2^10] -/
def exWin : Nat → ℚ := fun c =>
  if c = 3 then 2199023256576 else if c = 2 then 1099511627776 else if c = 1 then 1099511627776 else 0

theorem exWin_SA : SA 2 exWin := SA_two (by decide +kernel) (by decide +kernel)

theorem sum_range_two (f : Nat → ℚ) : ∑ i ∈ range 2, f (2 ^ i) = f 1 + f 2 := by
  simp [Finset.sum_range_succ]

theorem exV_surplus : closedW exV (grand 2) = 4 := by decide +kernel
theorem exAdd_surplus : closedW exAdd (grand 2) = 0 := by decide +kernel
theorem exWin_surplus : closedW exWin (grand 2) = 1024 := by decide +kernel

/-- `exV` is outside the window of the code's `rtol`: 4 > 1e-9 · 3 -/
theorem exV_out : closedW exV (grand 2) = 0 ∨
    defaultRtol * |∑ i ∈ range 2, exV (2 ^ i)| < closedW exV (grand 2) := by
  right
  rw [exV_surplus, sum_range_two]
  decide +kernel

theorem exAdd_out : closedW exAdd (grand 2) = 0 ∨
    defaultRtol * |∑ i ∈ range 2, exAdd (2 ^ i)| < closedW exAdd (grand 2) := Or.inl exAdd_surplus

/-- `exWin` is inside the window: 0 < 1024 ≤ 1e-9 · 2^41 ≈ 2199.02 -/
theorem exWin_in : 0 < closedW exWin (grand 2) ∧
    closedW exWin (grand 2) ≤ defaultRtol * |∑ i ∈ range 2, exWin (2 ^ i)| := by
  rw [exWin_surplus, sum_range_two]
  decide +kernel

theorem defaultRtol_nonneg : (0 : ℚ) ≤ defaultRtol := by decide +kernel

example : ∃ t', normalizeIcg defaultRtol (fullTable 2 exV) = .ok t' ∧ FullOn 2 t' ∧ SA 2 t'.lo := by
  obtain ⟨t', h1, h2, _, _, _, h6⟩ :=
    normalize_property defaultRtol (fullTable 2 exV) (fullOn_fullTable 2 exV) exV_SA rfl
  exact ⟨t', h1, h2, h6⟩

example : ∃ info t' t'', normalizeGame defaultRtol (fullTable 2 exV) = .ok (info, t') ∧
    denormalize t' info = .ok t'' ∧ ∀ c, c < 2 ^ 2 → t''.lo c = exV c := by
  obtain ⟨info, t', t'', h1, h2, _, h4⟩ :=
    denormalize_normalize defaultRtol (fullTable 2 exV) (fullOn_fullTable 2 exV) exV_SA
      rfl exV_out
  exact ⟨info, t', t'', h1, h2, h4⟩

/-- the theorems about the window apply to `exWin`: the normal form is identically 0 although the game is not
    additive, and the round trip is off by the surplus 1024 ≤ 1e-9·2^41 at `N` -/
example : ∃ t', normalizeIcg defaultRtol (fullTable 2 exWin) = .ok t' ∧ (∀ c, c < 2 ^ 2 → t'.lo c = 0) ∧
    ¬ (∀ c, c < 2 ^ 2 → exWin c = bsum 2 (fun i => exWin (2 ^ i)) c) := by
  obtain ⟨t', h1, _, h3, _, h5⟩ :=
    window_behaviour defaultRtol (fullTable 2 exWin) (fullOn_fullTable 2 exWin) exWin_SA
      rfl exWin_in.1 exWin_in.2
  exact ⟨t', h1, h3, h5⟩

example : ∃ t', normalizeIcg defaultRtol (fullTable 2 exWin) = .ok t' ∧
    (t'.lo (grand 2) = 1 ∨ (Additive 2 defaultRtol exWin ∧ ∀ c, c < 2 ^ 2 → t'.lo c = 0)) := by
  obtain ⟨t', h1, _, _, _, h5, _⟩ :=
    normalize_property_tol defaultRtol defaultRtol_nonneg (fullTable 2 exWin) (fullOn_fullTable 2 exWin) exWin_SA
      rfl
  exact ⟨t', h1, h5⟩

example : ∃ info t' t'', normalizeGame defaultRtol (fullTable 2 exWin) = .ok (info, t') ∧
    denormalize t' info = .ok t'' ∧ t''.lo (grand 2) = exWin (grand 2) - 1024 := by
  obtain ⟨info, t', t'', h1, h2, _, h4, _, _⟩ :=
    denormalize_window defaultRtol (fullTable 2 exWin) (fullOn_fullTable 2 exWin) exWin_SA
      rfl exWin_in.1 exWin_in.2
  refine ⟨info, t', t'', h1, h2, ?_⟩
  rw [h4 _ (grand_lt 2), show (fullTable 2 exWin).lo = exWin from rfl, exWin_surplus]

example : ∃ info t' t'', normalizeGame defaultRtol (fullTable 2 exWin) = .ok (info, t') ∧
    denormalize t' info = .ok t'' ∧
    ∀ c, c < 2 ^ 2 → |t''.lo c - exWin c| ≤ defaultRtol * |∑ i ∈ range 2, exWin (2 ^ i)| := by
  obtain ⟨info, t', t'', h1, h2, _, h4⟩ :=
    denormalize_normalize_bound defaultRtol defaultRtol_nonneg (fullTable 2 exWin) (fullOn_fullTable 2 exWin)
      exWin_SA rfl
  exact ⟨info, t', t'', h1, h2, h4⟩

/-- the model, run by the kernel, on `exV`: [0, 0, 0, 1] with info (4, [1, 2]) (scaling branch) -/
example : (match normalizeGame defaultRtol (fullTable 2 exV) with
    | .ok (info, t) => (info, (allCoalitions 2).map t.lo, (allCoalitions 2).map t.hi)
    | .error _ => ((0, []), [], [])) = ((4, [1, 2]), [0, 0, 0, 1], [0, 0, 0, 1]) := by decide +kernel

/-- the additive branch on `exAdd`: surplus 0, zeros are stored -/
example : (match normalizeGame defaultRtol (fullTable 2 exAdd) with
    | .ok (info, t) => (info, (allCoalitions 2).map t.lo)
    | .error _ => ((0, []), [])) = ((0, [-1, 2]), [0, 0, 0, 0]) := by decide +kernel

example : (match normalizeGame defaultRtol (fullTable 2 exV) with
    | .ok (info, t) => (match denormalize t info with
        | .ok t' => (allCoalitions 2).map t'.lo
        | .error _ => [])
    | .error _ => []) = [0, 1, 2, 7] := by decide +kernel

example : (match normalizeGame defaultRtol (fullTable 2 exAdd) with
    | .ok (info, t) => (match denormalize t info with
        | .ok t' => (allCoalitions 2).map t'.lo
        | .error _ => [])
    | .error _ => []) = [0, -1, 2, 1] := by decide +kernel

/-- **the window, run by the kernel with the code's own `rtol = 1e-9`:** `exWin` normalises to the zero game
    with info (2^10, [2^40, 2^40]) -/
example : (match normalizeGame defaultRtol (fullTable 2 exWin) with
    | .ok (info, t) => (info, (allCoalitions 2).map t.lo, (allCoalitions 2).map t.hi)
    | .error _ => ((0, []), [], [])) =
    ((1024, [1099511627776, 1099511627776]), [0, 0, 0, 0], [0, 0, 0, 0]) := by decide +kernel

/-- `denormalize_game` with that info yields v(N) = 2^41, the original 2^41 + 2^10 less the discarded
    surplus (the real code does the same: 2199023255552.0). -/
example : (match normalizeGame defaultRtol (fullTable 2 exWin) with
    | .ok (info, t) => (match denormalize t info with
        | .ok t' => (allCoalitions 2).map t'.lo
        | .error _ => [])
    | .error _ => []) = [0, 1099511627776, 1099511627776, 2199023255552] := by decide +kernel

example : (match normalizeGame (0 : ℚ) (fullTable 2 exWin) with
    | .ok (info, t) => (match denormalize t info with
        | .ok t' => ((allCoalitions 2).map t.lo, (allCoalitions 2).map t'.lo)
        | .error _ => ([], []))
    | .error _ => ([], [])) = ([0, 0, 0, 1], [0, 1099511627776, 1099511627776, 2199023256576]) := by
  decide +kernel

/-- the driver's constant is the exact value of the float `1e-9` (`Fraction(1e-9)`): 4835703278458517 / 2^82,
    and it lies within half an ulp of 10^-9 -/
example : defaultRtol = 4835703278458517 / 2 ^ 82 := by decide +kernel
example : |defaultRtol - 1 / 10 ^ 9| < 1 / 10 ^ 25 := by decide +kernel

/-- the theorems specialise to the model exactly as the driver runs it: core `Rat` with the core instances
    (`Rat.instMax = maxOfLe`, core `≤` and its decision procedure), not Mathlib's -/
example (t : Table Rat) (hf : FullOn 2 t) :
    ∃ t', @normalizeIcg Rat Rat.instAdd Rat.instSub Rat.instMul Rat.instDiv Rat.instNeg Rat.instMax ⟨0⟩ Rat.instLE
        Rat.instDecidableLe instDecidableEqRat defaultRtol t = .ok t' ∧ FullOn 2 t' :=
  let ⟨t', h, hf', _⟩ := normalizeIcg_closed defaultRtol t hf
  ⟨t', h, hf'⟩

/-- an incomplete table is rejected the way the code rejects it (ValueError of `get_value`) -/
example : (match normalizeGame defaultRtol (Table.init (α := ℚ) 2) with
    | .ok _ => none | .error e => some e) = some Err.value := by
  decide +kernel

/-- a graph game (weights 1, 2, 5 above the diagonal, junk below) and its table: same normalised values -/
def exG : GraphGame ℚ := GraphGame.ofMatrix 3 (fun r c => if r = 0 ∧ c = 1 then 1 else if r = 0 ∧ c = 2 then 2
  else if r = 1 ∧ c = 2 then 5 else if c ≤ r then 9 else 0)

example : graphValues (normalizeGraph exG) = [0, 0, 0, 1/8, 0, 1/4, 5/8, 1] := by decide +kernel

example : (match normalizeIcg defaultRtol (fullTable 3 (graphValue exG)) with
    | .ok t => (allCoalitions 3).map t.lo
    | .error _ => []) = graphValues (normalizeGraph exG) := by decide +kernel

example : graphValues (denormalizeGraph (normalizeGraph exG) (normInfoGraph exG)) = graphValues exG := by
  decide +kernel

end examples

end ICG.C15

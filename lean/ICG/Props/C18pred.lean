/-
  Property C18 (second half) — "The superadditivity and monotonicity predicates decide exactly their
  textbook definitions (up to the documented relative tolerance)."

  Theorems about ICG.Model.Predicates (the model of game_properties.py and supermodularity_check.py), for every
  player count `n`, every value function `v` and every tolerance: each predicate never raises on the model's inputs
  and returns True exactly when its definition holds (`SAtol`, with zero tolerances `SA`; `MonoDec`; `Supermod`; `SA` and
  `MonoDec` are those of Spec/Bounds), `is_sam` is the conjunction (`isSam_iff`), and a triple returned by
  `check_supermodularity` violates supermodularity.  The `…_congr` theorems: only the rows of the game are read.
-/
import ICG.Model.Predicates
import ICG.Spec.Bounds
import ICG.Props.C18
import Mathlib.Algebra.Order.Ring.Defs
import Mathlib.Algebra.Order.Group.Unbundled.Abs
import Mathlib.Algebra.Order.Group.Abs
import Mathlib.Algebra.Order.Ring.Rat

namespace ICG.C18pred
open ICG ICG.Pred

variable {α : Type}

theorem mem_players_grand {n i : Nat} : i ∈ players (grand n) ↔ i < n := by
  rw [mem_players, testBit_grand]; simp

/-! ### the loop shared by `is_superadditive` and `is_monotone_decreasing` -/

/-- `for U in l: Ss = sub_coalitions(U, n); if not ok(U, Ss): return False` / `return True`, on masks of the game:
    `sub_coalitions` never raises there, and the verdict is that every row passes -/
theorem allRows_loop (n : Nat) (ok : Nat → List Nat → Bool) (loop : List Nat → Except Err Bool)
    (hnil : loop [] = .ok true)
    (hcons : ∀ U rest, loop (U :: rest) =
      (subCoalitionsId U n >>= fun Ss => if ok U Ss then loop rest else .ok false)) :
    ∀ l : List Nat, (∀ U ∈ l, U < 2 ^ n) → loop l = .ok (l.all fun U => ok U (subIdList U n))
  | [], _ => hnil
  | U :: rest, hl => by
    have ih := allRows_loop n ok loop hnil hcons rest fun x hx => hl x (List.mem_cons_of_mem _ hx)
    rw [hcons, subCoalitionsId_ok (hl U List.mem_cons_self), List.all_cons]
    show (if ok U (subIdList U n) = true then loop rest else .ok false) = _
    cases ok U (subIdList U n)
    · rfl
    · exact ih

/-! ### superadditivity -/

section sa
variable [Ring α] [LinearOrder α]

/-- the textbook definition with the documented tolerance (`np.isclose` semantics: relative to the value
    of the union) -/
def SAtol (n : Nat) (v : Nat → α) (rtol atol : α) : Prop :=
  ∀ a b, a < 2 ^ n → b < 2 ^ n → a &&& b = 0 →
    v a + v b ≤ v (a ||| b) ∨ |v a + v b - v (a ||| b)| ≤ atol + rtol * |v (a ||| b)|

/-- what the vectorised test of one `U` says -/
def RowSA (v : Nat → α) (rtol atol : α) (U : Nat) : Prop :=
  ∀ S, S &&& U = S → v S + v (U - S) ≤ v U ∨ |v S + v (U - S) - v U| ≤ atol + rtol * |v U|

/-- `np.isclose` on finite numbers: `absV` is the absolute value -/
theorem isClose_iff (a b rtol atol : α) : isClose a b rtol atol = true ↔ |a - b| ≤ atol + rtol * |b| := by
  rw [isClose, decide_eq_true_iff, absV, absV, ← abs_eq_max_neg, ← abs_eq_max_neg]

theorem saRowOk_iff {n : Nat} (v : Nat → α) (rtol atol : α) {U : Nat} (hU : U < 2 ^ n) :
    saRowOk v rtol atol U (subIdList U n) = true ↔ RowSA v rtol atol U := by
  simp only [saRowOk, List.all_eq_true, Bool.or_eq_true, decide_eq_true_iff, isClose_iff, RowSA, mem_subIdList hU]

theorem rows_iff_SAtol (n : Nat) (v : Nat → α) (rtol atol : α) :
    (∀ U ∈ allCoalitions n, RowSA v rtol atol U) ↔ SAtol n v rtol atol := by
  simp only [allCoalitions, List.mem_range]
  constructor
  · intro h a b ha hb hab
    -- the two parts of a disjoint union: `a` is a sub-mask of it and `b` is what subtraction leaves
    have hb' : (a ||| b) - a = b := by rw [← add_eq_or_of_and_eq_zero a b hab, Nat.add_sub_cancel_left]
    have := h (a ||| b) (Nat.or_lt_two_pow ha hb) a (and_or_self a b)
    rwa [hb'] at this
  · intro h U hU S hS
    obtain ⟨hor, hand⟩ := sub_or_self hS
    have hS' : S < 2 ^ n := sub_lt_two_pow hS hU
    have hb : U - S < 2 ^ n := by omega
    have := h S (U - S) hS' hb hand
    rwa [hor] at this

/-- `is_superadditive(game, rtol, atol)` never raises, and returns True
    exactly when the game is superadditive up to the tolerance. -/
theorem isSuperadditive_iff (n : Nat) (v : Nat → α) (rtol atol : α) :
    ∃ b, isSuperadditive n v rtol atol = .ok b ∧ (b = true ↔ SAtol n v rtol atol) := by
  have hl : ∀ U ∈ allCoalitions n, U < 2 ^ n := fun U hU => List.mem_range.mp hU
  refine ⟨_, allRows_loop n (saRowOk v rtol atol) (saLoop n v rtol atol) rfl (fun _ _ => rfl) _ hl, ?_⟩
  rw [List.all_eq_true, ← rows_iff_SAtol]
  exact forall₂_congr fun U hU => saRowOk_iff v rtol atol (hl U hU)

variable [IsStrictOrderedRing α]

theorem SAtol_zero_iff (n : Nat) (v : Nat → α) : SAtol n v 0 0 ↔ SA n v := by
  unfold SAtol SA
  constructor
  · intro h a b ha hb hab
    rcases h a b ha hb hab with h | h
    · exact h
    · rw [zero_mul, add_zero, abs_nonpos_iff, sub_eq_zero] at h
      exact le_of_eq h
  · intro h a b ha hb hab; exact Or.inl (h a b ha hb hab)

/-- `is_superadditive(game, 0, 0)` returns True iff `SA n v`. -/
theorem isSuperadditive_zero_iff (n : Nat) (v : Nat → α) :
    ∃ b, isSuperadditive n v 0 0 = .ok b ∧ (b = true ↔ SA n v) := by
  obtain ⟨b, hb, hiff⟩ := isSuperadditive_iff n v 0 0
  exact ⟨b, hb, hiff.trans (SAtol_zero_iff n v)⟩

omit [IsStrictOrderedRing α] in
theorem SA_imp_SAtol (n : Nat) (v : Nat → α) (rtol atol : α) (h : SA n v) : SAtol n v rtol atol :=
  fun a b ha hb hab => Or.inl (h a b ha hb hab)

end sa

/-! ### monotonicity -/

section mono
variable [LE α] [DecidableLE α]

theorem monoRowOk_iff {n : Nat} (v : Nat → α) {U : Nat} (hU : U < 2 ^ n) :
    monoRowOk v U (subIdList U n) = true ↔ ∀ S, S &&& U = S → v U ≤ v S := by
  simp only [monoRowOk, List.all_eq_true, decide_eq_true_eq, mem_subIdList hU]

/-- `is_monotone_decreasing(game)` never raises, True iff `MonoDec n v`. -/
theorem isMonotoneDecreasing_iff (n : Nat) (v : Nat → α) :
    ∃ b, isMonotoneDecreasing n v = .ok b ∧ (b = true ↔ MonoDec n v) := by
  have hl : ∀ U ∈ allCoalitions n, U < 2 ^ n := fun U hU => List.mem_range.mp hU
  refine ⟨_, allRows_loop n (monoRowOk v) (monoLoop n v) rfl (fun _ _ => rfl) _ hl, ?_⟩
  rw [List.all_eq_true]
  constructor
  · intro h x c hc hx
    exact (monoRowOk_iff v hc).mp (h c (List.mem_range.mpr hc)) x hx
  · intro h U hU
    exact (monoRowOk_iff v (hl U hU)).mpr fun S hS => h S U (hl U hU) hS

end mono

section sam
variable [Ring α] [LinearOrder α]

/-- `is_sam` = superadditive (with the tolerance it is called with) and monotone decreasing -/
theorem isSam_iff (n : Nat) (v : Nat → α) (rtol atol : α) :
    ∃ b, isSam n v rtol atol = .ok b ∧ (b = true ↔ SAtol n v rtol atol ∧ MonoDec n v) := by
  obtain ⟨b1, h1, i1⟩ := isSuperadditive_iff n v rtol atol
  obtain ⟨b2, h2, i2⟩ := isMonotoneDecreasing_iff n v
  simp only [isSam, h1, bind, Except.bind]
  cases b1 with
  | true =>
    refine ⟨b2, by simpa using h2, ?_⟩
    rw [i2]; exact ⟨fun h => ⟨i1.mp rfl, h⟩, fun h => h.2⟩
  | false =>
    refine ⟨false, by simp, ?_⟩
    simp only [Bool.false_eq_true, false_iff, not_and]
    intro h; exact absurd (i1.mpr h) (by simp)

end sam

/-! ### supermodularity -/

section supermod
variable [Add α] [Sub α] [LinearOrder α]

/-- the triple `(T, S, i)` violates supermodularity with tolerance `tol` on `n` players -/
def Violates (n : Nat) (v : Nat → α) (tol : α) (T S i : Nat) : Prop :=
  T < 2 ^ n ∧ i < n ∧ T.testBit i = false ∧ S &&& T = S ∧ S ≠ T ∧
    v (T ||| 2 ^ i) - v T + tol < v (S ||| 2 ^ i) - v S

/-- supermodularity with tolerance, in the marginal-contribution form the code checks -/
def Supermod (n : Nat) (v : Nat → α) (tol : α) : Prop :=
  ∀ T i S, T < 2 ^ n → i < n → T.testBit i = false → S &&& T = S → S ≠ T →
    v (S ||| 2 ^ i) - v S ≤ v (T ||| 2 ^ i) - v T + tol

theorem supermodInner_none_iff (v : Nat → α) (tol : α) (T i : Nat) :
    supermodInner v tol T i (v (T ||| 2 ^ i) - v T) = none ↔
      ∀ S, S &&& T = S → S ≠ T → v (S ||| 2 ^ i) - v S ≤ v (T ||| 2 ^ i) - v T + tol := by
  simp only [supermodInner, List.findSome?_eq_none_iff, List.mem_filter, mem_subCoalitionsObj,
    bne_iff_ne, ne_eq, union, fromPlayers_singleton, and_imp, ite_eq_right_iff, reduceCtorEq, imp_false,
    gt_iff_lt, not_lt]

theorem supermodInner_some (v : Nat → α) (tol : α) (T i : Nat) {r : Nat × Nat × Nat}
    (h : supermodInner v tol T i (v (T ||| 2 ^ i) - v T) = some r) :
    ∃ S, r = (T, S, i) ∧ S &&& T = S ∧ S ≠ T ∧ v (T ||| 2 ^ i) - v T + tol < v (S ||| 2 ^ i) - v S := by
  obtain ⟨S, hS, hf⟩ := List.exists_of_findSome?_eq_some h
  simp only [List.mem_filter, mem_subCoalitionsObj, bne_iff_ne, ne_eq] at hS
  simp only [union, fromPlayers_singleton] at hf
  split at hf
  · rename_i hlt
    injection hf with hf
    exact ⟨S, hf.symm, hS.1, hS.2, hlt⟩
  · cases hf

/-- `check_supermodularity(game, tol)` is None iff the game is supermodular up to `tol` -/
theorem checkSupermodularity_none_iff (n : Nat) (v : Nat → α) (tol : α) :
    checkSupermodularity n v tol = none ↔ Supermod n v tol := by
  simp only [checkSupermodularity, List.findSome?_eq_none_iff, allCoalitions, List.mem_range,
    List.mem_filter, mem_players_grand, C18.hasPlayer_eq, Bool.not_eq_true', and_imp, union,
    fromPlayers_singleton, supermodInner_none_iff, Supermod]
  exact ⟨fun h T i S hT hi hb hS hne => h T hT i hi hb S hS hne,
         fun h T hT i hi hb S hS hne => h T i S hT hi hb hS hne⟩

/-- a returned triple violates supermodularity and lies inside the game -/
theorem checkSupermodularity_some (n : Nat) (v : Nat → α) (tol : α) {T S i : Nat}
    (h : checkSupermodularity n v tol = some (T, S, i)) : Violates n v tol T S i := by
  obtain ⟨T', hT', h1⟩ := List.exists_of_findSome?_eq_some h
  obtain ⟨i', hi', h2⟩ := List.exists_of_findSome?_eq_some h1
  simp only [allCoalitions, List.mem_range] at hT'
  simp only [List.mem_filter, mem_players_grand, C18.hasPlayer_eq, Bool.not_eq_true'] at hi'
  simp only [union, fromPlayers_singleton] at h2
  obtain ⟨S', hr, hS, hne, hlt⟩ := supermodInner_some v tol T' i' h2
  injection hr with hT hr
  injection hr with hS' hi
  subst hT hS' hi
  exact ⟨hT', hi'.1, hi'.2, hS, hne, hlt⟩

theorem supermod_iff_not_violates (n : Nat) (v : Nat → α) (tol : α) :
    Supermod n v tol ↔ ∀ T S i, ¬ Violates n v tol T S i :=
  ⟨fun h T S i ⟨hT, hi, hb, hS, hne, hlt⟩ => absurd hlt (not_lt.mpr (h T i S hT hi hb hS hne)),
   fun h T i S hT hi hb hS hne => not_lt.mp fun hlt => h T S i ⟨hT, hi, hb, hS, hne, hlt⟩⟩

theorem checkSupermodularity_isSome_iff (n : Nat) (v : Nat → α) (tol : α) :
    (checkSupermodularity n v tol).isSome = true ↔ ∃ T S i, Violates n v tol T S i := by
  rw [← not_iff_not, Bool.not_eq_true, Option.isSome_eq_false_iff, Option.isNone_iff_eq_none,
    checkSupermodularity_none_iff, supermod_iff_not_violates]
  simp only [not_exists]

end supermod

/-! ### only the rows of the game are read

The model takes the values as a function on all naturals (the array of `get_values()` has exactly 2^n rows);
the verdicts depend on the rows `< 2^n` only. -/

section congr

theorem verdict_congr {x y : Except Err Bool} {P Q : Prop} (hx : ∃ b, x = .ok b ∧ (b = true ↔ P))
    (hy : ∃ b, y = .ok b ∧ (b = true ↔ Q)) (h : P ↔ Q) : x = y := by
  obtain ⟨b1, h1, i1⟩ := hx
  obtain ⟨b2, h2, i2⟩ := hy
  rw [h1, h2, Bool.eq_iff_iff.mpr (i1.trans (h.trans i2.symm))]

theorem SAtol_congr [Ring α] [LinearOrder α] {n : Nat} {v w : Nat → α} (h : ∀ c, c < 2 ^ n → v c = w c)
    (rtol atol : α) : SAtol n v rtol atol ↔ SAtol n w rtol atol := by
  have key : ∀ {v w : Nat → α}, (∀ c, c < 2 ^ n → v c = w c) → SAtol n v rtol atol → SAtol n w rtol atol := by
    intro v w h H a b ha hb hab
    rw [← h a ha, ← h b hb, ← h _ (Nat.or_lt_two_pow ha hb)]; exact H a b ha hb hab
  exact ⟨key h, key fun c hc => (h c hc).symm⟩

theorem isSuperadditive_congr [Ring α] [LinearOrder α] {n : Nat} {v w : Nat → α}
    (h : ∀ c, c < 2 ^ n → v c = w c) (rtol atol : α) :
    isSuperadditive n v rtol atol = isSuperadditive n w rtol atol :=
  verdict_congr (isSuperadditive_iff n v rtol atol) (isSuperadditive_iff n w rtol atol) (SAtol_congr h rtol atol)

theorem MonoDec_congr [LE α] {n : Nat} {v w : Nat → α} (h : ∀ c, c < 2 ^ n → v c = w c) :
    MonoDec n v ↔ MonoDec n w := by
  have key : ∀ {v w : Nat → α}, (∀ c, c < 2 ^ n → v c = w c) → MonoDec n v → MonoDec n w := by
    intro v w h H x c hc hx
    rw [← h c hc, ← h x (sub_lt_two_pow hx hc)]; exact H x c hc hx
  exact ⟨key h, key fun c hc => (h c hc).symm⟩

theorem isMonotoneDecreasing_congr [LE α] [DecidableLE α] {n : Nat} {v w : Nat → α}
    (h : ∀ c, c < 2 ^ n → v c = w c) : isMonotoneDecreasing n v = isMonotoneDecreasing n w :=
  verdict_congr (isMonotoneDecreasing_iff n v) (isMonotoneDecreasing_iff n w) (MonoDec_congr h)

theorem Supermod_congr [Add α] [Sub α] [LinearOrder α] {n : Nat} {v w : Nat → α}
    (h : ∀ c, c < 2 ^ n → v c = w c) (tol : α) : Supermod n v tol ↔ Supermod n w tol := by
  have key : ∀ {v w : Nat → α}, (∀ c, c < 2 ^ n → v c = w c) → Supermod n v tol → Supermod n w tol := by
    intro v w h H T i S hT hi hb hS hne
    have hS' := sub_lt_two_pow hS hT
    have hor : ∀ T, T < 2 ^ n → T ||| 2 ^ i < 2 ^ n := fun T hT =>
      Nat.or_lt_two_pow hT (Nat.pow_lt_pow_right Nat.one_lt_two hi)
    rw [← h _ (hor S hS'), ← h S hS', ← h _ (hor T hT), ← h T hT]
    exact H T i S hT hi hb hS hne
  exact ⟨key h, key fun c hc => (h c hc).symm⟩

end congr

/-! ### concrete instances (the hypotheses are satisfiable; both verdicts occur) -/

/-- v(S) = |S|² on 2 players: superadditive, supermodular, not monotone decreasing -/
def sq2 : Nat → Int := fun c => if c = 0 then 0 else if c = 3 then 4 else 1

example : isSuperadditive 2 sq2 0 0 = .ok true := by decide
example : isMonotoneDecreasing 2 sq2 = .ok false := by decide
example : checkSupermodularity 2 sq2 0 = none := by decide +kernel
/-- v = (0, 1, 1, 1): not superadditive (1 + 1 > 1) unless the tolerance allows it; the first violating
    triple of supermodularity is T = {0}, S = ∅, i = 1 -/
def flat2 : Nat → Int := fun c => if c = 0 then 0 else 1

example : isSuperadditive 2 flat2 0 0 = .ok false := by decide
example : isSuperadditive 2 flat2 1 0 = .ok true := by decide
example : isSuperadditive 2 flat2 0 1 = .ok true := by decide
example : checkSupermodularity 2 flat2 0 = some (1, 0, 1) := by decide +kernel
example : checkSupermodularity 2 flat2 1 = none := by decide +kernel
example : isSam 2 (fun c => - sq2 c) 0 0 = .ok false := by decide
example : isSam 3 (fun c => - (size c : Int)) 0 0 = .ok true := by decide +kernel

/-! ### the theorems are about the functions the driver runs

`Driver/Bits.lean` instantiates the model at core `Rat` with core's own instances; the theorems above,
stated over Mathlib's order classes, specialise to exactly those instances (definitional unfolding). -/

section driver
variable (n : Nat) (v : Nat → Rat) (rtol atol tol : Rat)

example : ∃ b, @isSuperadditive Rat Rat.instAdd Rat.instSub Rat.instMul Rat.instNeg Rat.instMax Rat.instLE
    Rat.instDecidableLe n v rtol atol = .ok b ∧ (b = true ↔ SAtol n v rtol atol) :=
  isSuperadditive_iff n v rtol atol

example : ∃ b, @isMonotoneDecreasing Rat Rat.instLE Rat.instDecidableLe n v = .ok b ∧
    (b = true ↔ MonoDec n v) :=
  isMonotoneDecreasing_iff n v

example : @checkSupermodularity Rat Rat.instAdd Rat.instSub Rat.instLT
    Rat.instDecidableLt n v tol = none ↔ Supermod n v tol :=
  checkSupermodularity_none_iff n v tol

end driver

end ICG.C18pred

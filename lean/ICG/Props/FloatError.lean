/-
  ICG.Props.FloatError — why a tolerance is the right comparison between the float64 bound computers and
  the exact model, and how large it has to be (the sense of "within float rounding" in C01 / C02).

  Setting.  Values live in an ordered field `α`.  `add' sub' : α → α → α` are ARBITRARY functions (no
  algebraic law is assumed: rounded arithmetic is neither associative nor monotone in general) such that
      |add' a b − (a + b)| ≤ δ        |sub' a b − (a − b)| ≤ δ
  for the operands that occur; `max` / `min` are exact (as in IEEE arithmetic).  `loApprox` / `upApprox`
  (`ICG.Lemmas.ApproxBounds`) are the recursions of `loSpec` / `upSpec` run with `add'` / `sub'`; with the
  exact operations they are `loSpec` / `upSpec` (`approx_exact`).

  Under `MinInfo n known`, for every coalition `c < 2^n` (`|c| = size c`; the factors are natural-number
  subtractions, so the slack is `0` at `∅` and at `N`): the computed lower bound is within `(|c| − 1)·δ` and the upper
  bound within `(n − |c|)·δ` of the exact ones (`lo_error`, `up_error`), so the computed interval widened by these slacks
  contains every completion (`approx_sound`) and is at most twice the slack wider than the exact one (`approx_tight`);
  `uniform_tolerance` gives one slack, `(n − 1)·δ`, for every row.  `approx_sound_on` (with `loApprox_close_on`,
  `upApprox_close_on` of ICG.Lemmas.ApproxBounds) asks for the error bound only on the operations actually performed,
  which is what relative error `u` (float64: `u = 2^-53`) and magnitudes `≤ M` give with `δ = u·M`
  (`approx_sound_relative`).  The 4-player examples show that both bounds are ATTAINED and that without the slack the
  statement is false; the 3-player instance at the end satisfies the hypotheses of `approx_sound_relative`.
-/
import ICG.Lemmas.ApproxBounds
import ICG.Lemmas.SpecSA3
import Mathlib.Tactic.NormNum
import Mathlib.Algebra.Order.Field.Rat

namespace ICG.Approx
open ICG.SpecSA ICG.Rounding

variable {α : Type} [Field α] [LinearOrder α] [IsStrictOrderedRing α]

omit [IsStrictOrderedRing α] in
/-- `loApprox` / `upApprox` are `loSpec` / `upSpec` when nothing is rounded -/
theorem approx_exact (n : Nat) (known : Nat → Bool) (v : Nat → α) (c : Nat) :
    loApprox (· + ·) known v c = loSpec known v c ∧
      upApprox n (· + ·) (· - ·) known v c = upSpec n known v c :=
  ⟨loApprox_exact known v c, upApprox_exact n known v c⟩

theorem approx_sound_on {n : Nat} {known : Nat → Bool} (hmin : MinInfo n known) {add' sub' : α → α → α}
    {v : Nat → α} {δ : α} (hδ : 0 ≤ δ) (hadd : AddErrOn n add' known v δ)
    (hsub : SubErrOn n add' sub' known v δ) {w : Nat → α} (hw : Completion n known v w)
    {c : Nat} (hc : c < 2 ^ n) :
    loApprox add' known v c - ((size c - 1 : ℕ) : α) * δ ≤ w c ∧
      w c ≤ upApprox n add' sub' known v c + ((n - size c : ℕ) : α) * δ := by
  have h := soundness hmin hw c hc
  have h1 := abs_le.mp (loApprox_close_on hmin hδ hadd c hc)
  have h2 := abs_le.mp (upApprox_close_on hmin hδ hadd hsub c hc)
  exact ⟨by linear_combination h.1 + h1.2, by linear_combination h.2 + h2.1⟩

/-! ### the headline statements: `add'`, `sub'` with absolute error `δ` everywhere -/

section headline
variable {n : Nat} {known : Nat → Bool} {add' sub' : α → α → α} {v : Nat → α} {δ : α}

theorem lo_error (hmin : MinInfo n known) (hadd : ∀ a b, |add' a b - (a + b)| ≤ δ)
    {c : Nat} (hc : c < 2 ^ n) :
    |loApprox add' known v c - loSpec known v c| ≤ ((size c - 1 : ℕ) : α) * δ :=
  loApprox_close_on hmin (delta_nonneg hadd) (AddErrOn.of_forall hadd) c hc

omit [IsStrictOrderedRing α] in
/-- at a known coalition nothing is computed, so nothing is rounded -/
theorem lo_error_known (hk : known c = true) : loApprox add' known v c = loSpec known v c :=
  loApprox_eq_of_known add' known v hk

/-- an unknown coalition (under `MinInfo`) has at least two players, and there the bound reads
    `(|c| − 1)·δ` with the subtraction in `α` -/
theorem lo_error_unknown (hmin : MinInfo n known) (hadd : ∀ a b, |add' a b - (a + b)| ≤ δ)
    {c : Nat} (hc : c < 2 ^ n) (hk : known c = false) :
    2 ≤ size c ∧ |loApprox add' known v c - loSpec known v c| ≤ ((size c : α) - 1) * δ := by
  have h2 : 2 ≤ size c := by
    obtain ⟨x, hx⟩ := List.exists_mem_of_ne_nil _ (properSubs_ne_nil hmin hc hk)
    have := size_split_pred hx
    omega
  refine ⟨h2, ?_⟩
  have h := lo_error (v := v) hmin hadd hc
  rwa [Nat.cast_sub (by omega), Nat.cast_one] at h

theorem up_error (hmin : MinInfo n known) (hadd : ∀ a b, |add' a b - (a + b)| ≤ δ)
    (hsub : ∀ a b, |sub' a b - (a - b)| ≤ δ) {c : Nat} (hc : c < 2 ^ n) :
    |upApprox n add' sub' known v c - upSpec n known v c| ≤ ((n - size c : ℕ) : α) * δ :=
  upApprox_close_on hmin (delta_nonneg hadd) (AddErrOn.of_forall hadd) (SubErrOn.of_forall hsub) c hc

/-- the same with the subtraction in `α` (`|c| ≤ n` because `c < 2^n`) -/
theorem up_error' (hmin : MinInfo n known) (hadd : ∀ a b, |add' a b - (a + b)| ≤ δ)
    (hsub : ∀ a b, |sub' a b - (a - b)| ≤ δ) {c : Nat} (hc : c < 2 ^ n) :
    size c ≤ n ∧ |upApprox n add' sub' known v c - upSpec n known v c| ≤ ((n : α) - size c) * δ := by
  have hle := size_le n c hc
  refine ⟨hle, ?_⟩
  have h := up_error (v := v) (sub' := sub') hmin hadd hsub hc
  rwa [Nat.cast_sub hle] at h

/-- The interval computed in rounded arithmetic, widened by `(|c| − 1)·δ` below and
    `(n − |c|)·δ` above, contains every superadditive completion of the partial game. -/
theorem approx_sound (hmin : MinInfo n known) (hadd : ∀ a b, |add' a b - (a + b)| ≤ δ)
    (hsub : ∀ a b, |sub' a b - (a - b)| ≤ δ) {w : Nat → α} (hw : Completion n known v w)
    {c : Nat} (hc : c < 2 ^ n) :
    loApprox add' known v c - ((size c - 1 : ℕ) : α) * δ ≤ w c ∧
      w c ≤ upApprox n add' sub' known v c + ((n - size c : ℕ) : α) * δ :=
  approx_sound_on hmin (delta_nonneg hadd) (AddErrOn.of_forall hadd) (SubErrOn.of_forall hsub) hw hc

/-- … and the widening loses little: the widened computed interval lies within `2·slack` of the exact
    (tight, C02) interval `[loSpec c, upSpec c]`. -/
theorem approx_tight (hmin : MinInfo n known) (hadd : ∀ a b, |add' a b - (a + b)| ≤ δ)
    (hsub : ∀ a b, |sub' a b - (a - b)| ≤ δ) {c : Nat} (hc : c < 2 ^ n) :
    loSpec known v c - 2 * (((size c - 1 : ℕ) : α) * δ)
        ≤ loApprox add' known v c - ((size c - 1 : ℕ) : α) * δ ∧
      upApprox n add' sub' known v c + ((n - size c : ℕ) : α) * δ
        ≤ upSpec n known v c + 2 * (((n - size c : ℕ) : α) * δ) := by
  have h1 := abs_le.mp (lo_error (v := v) hmin hadd hc)
  have h2 := abs_le.mp (up_error (v := v) (sub' := sub') hmin hadd hsub hc)
  exact ⟨by linear_combination h1.1, by linear_combination h2.2⟩

/-- a uniform tolerance: `(n − 1)·δ` works for every row of either bound -/
theorem uniform_tolerance (hmin : MinInfo n known) (hadd : ∀ a b, |add' a b - (a + b)| ≤ δ)
    (hsub : ∀ a b, |sub' a b - (a - b)| ≤ δ) {c : Nat} (hc : c < 2 ^ n) :
    |loApprox add' known v c - loSpec known v c| ≤ ((n - 1 : ℕ) : α) * δ ∧
      |upApprox n add' sub' known v c - upSpec n known v c| ≤ ((n - 1 : ℕ) : α) * δ := by
  have hδ := delta_nonneg hadd
  have hle := size_le n c hc
  constructor
  · refine le_trans (lo_error hmin hadd hc) (mul_le_mul_of_nonneg_right ?_ hδ)
    exact Nat.cast_le.mpr (by omega)
  · cases hk : known c with
    | true =>
      rw [upApprox_eq_of_known n add' sub' known v hk, sub_self, abs_zero]
      exact mul_nonneg (Nat.cast_nonneg _) hδ
    | false =>
      refine le_trans (up_error hmin hadd hsub hc) (mul_le_mul_of_nonneg_right ?_ hδ)
      have := size_pos_of_ne_zero c (minInfo_ne_zero hmin hk)
      exact Nat.cast_le.mpr (by omega)

end headline

/-! ### from relative (IEEE) error to the abstract `δ`

A float64 operation satisfies `|fl(a ∘ b) − (a ∘ b)| ≤ u·|a ∘ b|` with unit round-off `u = 2^-53` (no
overflow / underflow).  If the exact results of the operations that occur are bounded by `M` in
magnitude, `δ = u·M` is an absolute error bound for them.  (A bound "for ALL `a b`" cannot hold in an
unbounded field, which is why `approx_sound_on` asks for it on the performed operations only.) -/

theorem relative_to_absolute_on {add' : α → α → α} {u M : α} (hu : 0 ≤ u) {P : α → α → Prop}
    (hrel : ∀ a b, |add' a b - (a + b)| ≤ u * |a + b|) (hM : ∀ a b, P a b → |a + b| ≤ M) :
    ∀ a b, P a b → |add' a b - (a + b)| ≤ u * M :=
  fun a b h => relative_to_absolute hu (hrel a b) (hM a b h)

theorem AddErrOn.of_relative {n : Nat} {add' : α → α → α} {known : Nat → Bool} {v : Nat → α} {u M : α}
    (hu : 0 ≤ u) (hrel : ∀ a b, |add' a b - (a + b)| ≤ u * |a + b|)
    (hM : ∀ c, c < 2 ^ n → known c = false → ∀ x ∈ properSubs c,
      |loApprox add' known v x + loApprox add' known v (c - x)| ≤ M) :
    AddErrOn n add' known v (u * M) :=
  fun c hc hk x hx => relative_to_absolute hu (hrel _ _) (hM c hc hk x hx)

theorem SubErrOn.of_relative {n : Nat} {add' sub' : α → α → α} {known : Nat → Bool} {v : Nat → α} {u M : α}
    (hu : 0 ≤ u) (hrel : ∀ a b, |sub' a b - (a - b)| ≤ u * |a - b|)
    (hM : ∀ c, c < 2 ^ n → known c = false → ∀ T ∈ knownSupers n known c,
      |v T - loApprox add' known v (T - c)| ≤ M) :
    SubErrOn n add' sub' known v (u * M) :=
  fun c hc hk T hT => relative_to_absolute hu (hrel _ _) (hM c hc hk T hT)

/-- the float64 reading. Operations with relative error `u`, exact results of the performed
    operations bounded by `M`: the computed interval widened by `(|c| − 1)·u·M` resp. `(n − |c|)·u·M`
    contains every completion. -/
theorem approx_sound_relative {n : Nat} {known : Nat → Bool} (hmin : MinInfo n known)
    {add' sub' : α → α → α} {v : Nat → α} {u M : α} (hu : 0 ≤ u) (hM0 : 0 ≤ M)
    (hradd : ∀ a b, |add' a b - (a + b)| ≤ u * |a + b|)
    (hrsub : ∀ a b, |sub' a b - (a - b)| ≤ u * |a - b|)
    (hMadd : ∀ c, c < 2 ^ n → known c = false → ∀ x ∈ properSubs c,
      |loApprox add' known v x + loApprox add' known v (c - x)| ≤ M)
    (hMsub : ∀ c, c < 2 ^ n → known c = false → ∀ T ∈ knownSupers n known c,
      |v T - loApprox add' known v (T - c)| ≤ M)
    {w : Nat → α} (hw : Completion n known v w) {c : Nat} (hc : c < 2 ^ n) :
    loApprox add' known v c - ((size c - 1 : ℕ) : α) * (u * M) ≤ w c ∧
      w c ≤ upApprox n add' sub' known v c + ((n - size c : ℕ) : α) * (u * M) :=
  approx_sound_on hmin (mul_nonneg hu hM0) (AddErrOn.of_relative hu hradd hMadd)
    (SubErrOn.of_relative hu hrsub hMsub) hw hc

/-! ### concrete instances over `ℚ`

A 4-player game `v = |c|²` with minimal information (∅, singletons, N known); every addition rounds UP by
`δ = 1/1000`, every subtraction rounds DOWN by `δ`.  Then `loApprox {0,1,2} = 3 + 2δ` against
`loSpec = 3`, and `upApprox {0,1} = 14 − 2δ` against `upSpec = 14`: both error bounds are attained, and
the un-widened computed interval misses completions. -/

namespace Ex
def known4 : Nat → Bool := fun c => c == 0 || c == 1 || c == 2 || c == 4 || c == 8 || c == 15
def v4 : Nat → ℚ := fun c => [0, 1, 1, 4, 1, 4, 4, 9, 1, 4, 4, 9, 4, 9, 9, 16].getD c 0
def addUp (a b : ℚ) : ℚ := a + b + 1 / 1000
def subDown (a b : ℚ) : ℚ := a - b - 1 / 1000

theorem known4_minInfo : MinInfo 4 known4 := by unfold MinInfo; decide
theorem v4_SA : SA 4 v4 := by
  rw [SA_iff_bounded]; decide +kernel
theorem addUp_err : ∀ a b, |addUp a b - (a + b)| ≤ 1 / 1000 :=
  fun a b => abs_add_sub_self_le (by decide +kernel) (a + b)
theorem subDown_err : ∀ a b, |subDown a b - (a - b)| ≤ 1 / 1000 :=
  fun a b => abs_sub_sub_self_le (by decide +kernel) (a - b)

theorem loA7 : loApprox addUp known4 v4 7 = 3 + 2 / 1000 := by decide +kernel
theorem loS7 : loSpec known4 v4 7 = 3 := by decide +kernel

theorem upA3 : upApprox 4 addUp subDown known4 v4 3 = 14 - 2 / 1000 := by decide +kernel
theorem upS3 : upSpec 4 known4 v4 3 = 14 := by decide +kernel

theorem size7 : size 7 = 3 := by decide +kernel
theorem size3 : size 3 = 2 := by decide +kernel

theorem v4_completion : Completion 4 known4 v4 v4 := completion_self known4 v4_SA

end Ex

/-- the hypotheses of `approx_sound` are satisfiable: a 4-player game with minimal information, additions
    that always round up by `1/1000` and subtractions that always round down by `1/1000` -/
example : ∀ c, c < 2 ^ 4 →
    loApprox Ex.addUp Ex.known4 Ex.v4 c - ((size c - 1 : ℕ) : ℚ) * (1 / 1000) ≤ Ex.v4 c ∧
      Ex.v4 c ≤ upApprox 4 Ex.addUp Ex.subDown Ex.known4 Ex.v4 c + ((4 - size c : ℕ) : ℚ) * (1 / 1000) :=
  fun _ hc => approx_sound Ex.known4_minInfo Ex.addUp_err Ex.subDown_err Ex.v4_completion hc

/-- `lo_error` is attained: at the 3-player coalition 7 the error is exactly `(3 − 1)·δ` -/
example : loApprox Ex.addUp Ex.known4 Ex.v4 7 = 3 + 2 / 1000 ∧ loSpec Ex.known4 Ex.v4 7 = 3 ∧
    |loApprox Ex.addUp Ex.known4 Ex.v4 7 - loSpec Ex.known4 Ex.v4 7| = ((size 7 - 1 : ℕ) : ℚ) * (1 / 1000) := by
  decide +kernel

/-- `up_error` is attained: at the pair 3 of the 4-player game the error is exactly `(4 − 2)·δ` -/
example : upApprox 4 Ex.addUp Ex.subDown Ex.known4 Ex.v4 3 = 14 - 2 / 1000 ∧ upSpec 4 Ex.known4 Ex.v4 3 = 14 ∧
    |upApprox 4 Ex.addUp Ex.subDown Ex.known4 Ex.v4 3 - upSpec 4 Ex.known4 Ex.v4 3|
      = ((4 - size 3 : ℕ) : ℚ) * (1 / 1000) := by
  decide +kernel

/-- the slack is necessary: WITHOUT widening the computed interval loses completions on either side -/
example : (∃ w, Completion 4 Ex.known4 Ex.v4 w ∧ w 7 < loApprox Ex.addUp Ex.known4 Ex.v4 7) ∧
    (∃ w, Completion 4 Ex.known4 Ex.v4 w ∧ upApprox 4 Ex.addUp Ex.subDown Ex.known4 Ex.v4 3 < w 3) := by
  constructor
  · refine ⟨loSpec Ex.known4 Ex.v4, loSpec_completion Ex.known4_minInfo ⟨_, Ex.v4_completion⟩, ?_⟩
    rw [Ex.loS7, Ex.loA7]; norm_num
  · obtain ⟨w, hw, he⟩ := upSpec_attained Ex.known4_minInfo ⟨_, Ex.v4_completion⟩
      (by decide : 3 < 2 ^ 4) (by decide : Ex.known4 3 = false)
    exact ⟨w, hw, by rw [he, Ex.upS3, Ex.upA3]; norm_num⟩

/-! relative error: a 3-player table, `u = 2^-53`, every exact result of a performed operation is `≤ 9` -/
namespace Ex
def known3 : Nat → Bool := fun c => c == 0 || c == 1 || c == 2 || c == 4 || c == 7
def v3 : Nat → ℚ := fun c => [0, 1, 2, 4, 1, 3, 5, 9].getD c 0
def u64 : ℚ := 1 / 2 ^ 53
def addRel (a b : ℚ) : ℚ := (a + b) * (1 + u64)
def subRel (a b : ℚ) : ℚ := (a - b) * (1 - u64)

theorem known3_minInfo : MinInfo 3 known3 := by unfold MinInfo; decide
theorem v3_SA : SA 3 v3 := by rw [SA_iff_bounded]; decide +kernel
theorem u64_nonneg : 0 ≤ u64 := by decide +kernel
theorem addRel_err : ∀ a b, |addRel a b - (a + b)| ≤ u64 * |a + b| :=
  fun a b => abs_mul_one_add_sub_self_le u64_nonneg (a + b)
theorem subRel_err : ∀ a b, |subRel a b - (a - b)| ≤ u64 * |a - b| :=
  fun a b => abs_mul_one_sub_sub_self_le u64_nonneg (a - b)

theorem addRel_mag : ∀ c, c < 2 ^ 3 → known3 c = false → ∀ x ∈ properSubs c,
    |loApprox addRel known3 v3 x + loApprox addRel known3 v3 (c - x)| ≤ 9 := by decide +kernel

theorem subRel_mag : ∀ c, c < 2 ^ 3 → known3 c = false → ∀ T ∈ knownSupers 3 known3 c,
    |v3 T - loApprox addRel known3 v3 (T - c)| ≤ 9 := by decide +kernel
end Ex

/-- the hypotheses of `approx_sound_relative` are satisfiable with the float64 unit round-off -/
example : ∀ c, c < 2 ^ 3 →
    loApprox Ex.addRel Ex.known3 Ex.v3 c - ((size c - 1 : ℕ) : ℚ) * (1 / 2 ^ 53 * 9) ≤ Ex.v3 c ∧
      Ex.v3 c ≤ upApprox 3 Ex.addRel Ex.subRel Ex.known3 Ex.v3 c + ((3 - size c : ℕ) : ℚ) * (1 / 2 ^ 53 * 9) :=
  fun _ hc => approx_sound_relative Ex.known3_minInfo Ex.u64_nonneg (by norm_num) Ex.addRel_err Ex.subRel_err
    Ex.addRel_mag Ex.subRel_mag (completion_self Ex.known3 Ex.v3_SA) hc

end ICG.Approx

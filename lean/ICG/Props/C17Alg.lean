/-
  Property C17, what needs algebra on the values: `neg_neg`, and the two remaining public operations of
  `IncompleteCooperativeGame`, `__add__` and `__eq__` (ICG.Model.Table `add`, `eqv`), which the generators (sums of
  games) and the tests' comparisons use.  The faithful-map reading of C17 extends to them: `rel_add`, `eqv_of_rel`.
  Also when `add` succeeds (`add_ok_iff`), that it commutes row by row and with negation (`add_comm_rows`,
  `neg_add_rows`), and that `eqv` is symmetric, with its error cases (`eqv_symm`, `eqv_error_iff`).
-/
import ICG.Props.C17
import Mathlib.Algebra.Group.Defs
import Mathlib.Algebra.Group.Basic

namespace ICG.C17
open ICG Table

variable {α : Type}

theorem neg_neg [InvolutiveNeg α] (t : Table α) : t.neg.neg = t := by
  cases t
  simp [Table.neg]

theorem full_iff (t : Table α) : t.full = true ↔ ∀ c, c < 2 ^ t.n → t.known c = true := by
  simp [Table.full, Table.rows, List.all_eq_true]

/-! ### `__add__` -/

section add
variable [Add α]

theorem add_ok {t u r : Table α} (h : t.add u = .ok r) :
    (t.full = true ∧ u.full = true ∧ t.n = u.n) ∧
    r = { t with lo := fun c => if c < t.rows then t.lo c + u.lo c else t.lo c,
                 hi := fun c => if c < t.rows then t.hi c + u.hi c else t.hi c } := by
  unfold Table.add at h
  split at h
  · rename_i hc
    simp only [Bool.and_eq_true, beq_iff_eq] at hc
    exact ⟨⟨hc.1.1, hc.1.2, hc.2⟩, (Except.ok.inj h).symm⟩
  · cases h

/-- `a + b` succeeds exactly on two fully known games with the same number of players
    (AssertionError otherwise). -/
theorem add_ok_iff (t u : Table α) :
    (∃ r, t.add u = .ok r) ↔ (t.full = true ∧ u.full = true ∧ t.n = u.n) :=
  ⟨fun ⟨_, h⟩ => (add_ok h).1, fun ⟨a, b, c⟩ => ⟨_, if_pos (by rw [a, b, c, beq_self_eq_true]; rfl)⟩⟩

theorem add_err (t u : Table α) (e : Err) (h : t.add u = .error e) : e = .assert := by
  unfold Table.add at h
  split at h
  · cases h
  · cases h; rfl

/-- the sum keeps size and knowledge (so it is fully known), adds both bound columns row by
    row, and leaves everything outside the table alone. -/
theorem add_spec (t u r : Table α) (h : t.add u = .ok r) :
    r.n = t.n ∧ r.known = t.known ∧ r.full = true ∧
    (∀ c, c < 2 ^ t.n → r.lo c = t.lo c + u.lo c ∧ r.hi c = t.hi c + u.hi c) ∧
    (∀ c, 2 ^ t.n ≤ c → r.lo c = t.lo c ∧ r.hi c = t.hi c) := by
  obtain ⟨hok, rfl⟩ := add_ok h
  exact ⟨rfl, rfl, hok.1, fun c hc => ⟨if_pos hc, if_pos hc⟩,
    fun c hc => ⟨if_neg (Nat.not_lt.2 hc), if_neg (Nat.not_lt.2 hc)⟩⟩

/-- the sum of two faithful maps is the faithful map of the pointwise sum -/
theorem rel_add {t u r : Table α} {s s' : Spec α} (ht : Rel t s) (hu : Rel u s') (h : t.add u = .ok r) :
    Rel r (fun c => match s c, s' c with
                    | some a, some b => some (a + b)
                    | _, _ => none) := by
  obtain ⟨hn, hk, _, hrow, _⟩ := add_spec t u r h
  obtain ⟨hft, hfu, hnn⟩ := (add_ok_iff t u).1 ⟨r, h⟩
  intro c hc
  rw [hn] at hc
  obtain ⟨t1, t2⟩ := ht c hc
  obtain ⟨u1, u2⟩ := hu c (hnn ▸ hc)
  have tk := (full_iff t).1 hft c hc
  have uk := (full_iff u).1 hfu c (hnn ▸ hc)
  rw [tk] at t1
  rw [uk] at u1
  obtain ⟨a, ha⟩ := Option.isSome_iff_exists.mp t1.symm
  obtain ⟨b, hb⟩ := Option.isSome_iff_exists.mp u1.symm
  obtain ⟨ta, tb⟩ := t2 a ha
  obtain ⟨ua, ub⟩ := u2 b hb
  obtain ⟨rl, rh⟩ := hrow c hc
  refine ⟨by rw [hk, tk]; simp [ha, hb], fun v hv => ?_⟩
  simp only [ha, hb, Option.some.injEq] at hv
  subst hv
  exact ⟨by rw [rl, ta, ua], by rw [rh, tb, ub]⟩

end add

/-- commutativity, on the rows of the game -/
theorem add_comm_rows [AddCommMagma α] (t u r : Table α) (h : t.add u = .ok r) :
    ∃ r', u.add t = .ok r' ∧ r'.n = r.n ∧
      ∀ c, c < 2 ^ r.n → r'.known c = r.known c ∧ r'.lo c = r.lo c ∧ r'.hi c = r.hi c := by
  obtain ⟨hft, hfu, hnn⟩ := (add_ok_iff t u).1 ⟨r, h⟩
  obtain ⟨r', h'⟩ := (add_ok_iff u t).2 ⟨hfu, hft, hnn.symm⟩
  obtain ⟨a1, a2, _, a4, _⟩ := add_spec t u r h
  obtain ⟨b1, b2, _, b4, _⟩ := add_spec u t r' h'
  refine ⟨r', h', by rw [b1, a1, hnn], fun c hc => ?_⟩
  rw [a1] at hc
  have hc' : c < 2 ^ u.n := hnn ▸ hc
  refine ⟨?_, ?_, ?_⟩
  · rw [a2, b2, (full_iff t).1 hft c hc, (full_iff u).1 hfu c hc']
  · rw [(a4 c hc).1, (b4 c hc').1, add_comm]
  · rw [(a4 c hc).2, (b4 c hc').2, add_comm]

/-- negation distributes over the sum, on the rows of the game -/
theorem neg_add_rows [AddCommGroup α] (t u r : Table α) (h : t.add u = .ok r) :
    ∃ r', t.neg.add u.neg = .ok r' ∧
      ∀ c, c < 2 ^ t.n → r'.lo c = r.neg.lo c ∧ r'.hi c = r.neg.hi c := by
  obtain ⟨hft, hfu, hnn⟩ := (add_ok_iff t u).1 ⟨r, h⟩
  have hft' : t.neg.full = true := hft
  have hfu' : u.neg.full = true := hfu
  obtain ⟨r', h'⟩ := (add_ok_iff t.neg u.neg).2 ⟨hft', hfu', hnn⟩
  obtain ⟨_, _, _, a4, _⟩ := add_spec t u r h
  obtain ⟨_, _, _, b4, _⟩ := add_spec t.neg u.neg r' h'
  refine ⟨r', h', fun c hc => ?_⟩
  have := b4 c hc
  refine ⟨?_, ?_⟩
  · rw [this.1]; show - t.hi c + - u.hi c = - r.hi c; rw [(a4 c hc).2, neg_add]
  · rw [this.2]; show - t.lo c + - u.lo c = - r.lo c; rw [(a4 c hc).1, neg_add]

/-! ### `__eq__` -/

section eqv
variable [DecidableEq α]

theorem rowEq_iff (t u : Table α) (c d : Nat) :
    rowEq t u c d = true ↔ t.known c = u.known d ∧ t.lo c = u.lo d ∧ t.hi c = u.hi d := by
  simp [rowEq, and_assoc]

theorem two_pow_inj {a b : Nat} (h : 2 ^ a = 2 ^ b) : a = b := (Nat.pow_right_inj (by decide)).mp h

theorem two_pow_eq_one_iff (n : Nat) : 2 ^ n = 1 ↔ n = 0 :=
  ⟨fun h => two_pow_inj (b := 0) h, fun h => h ▸ rfl⟩

/-- `a == b` and `b == a` agree, including the raising case. -/
theorem eqv_symm (t u : Table α) : t.eqv u = u.eqv t := by
  unfold Table.eqv
  have hrow : ∀ c d, rowEq t u c d = rowEq u t d c := by
    intro c d
    rw [Bool.eq_iff_iff, rowEq_iff, rowEq_iff]
    constructor <;> rintro ⟨a, b, c⟩ <;> exact ⟨a.symm, b.symm, c.symm⟩
  simp only [hrow]
  -- after this rewrite the three broadcasting cases are the same expressions, tested in another order
  by_cases h : t.rows = u.rows
  · simp only [h, if_true]
  · have h' : ¬ u.rows = t.rows := fun e => h e.symm
    simp only [h, h', if_false]
    by_cases ht : t.rows = 1
    · have hu : ¬ u.rows = 1 := fun e => h (ht.trans e.symm)
      simp only [ht, hu, if_true, if_false]
    · simp only [ht, if_false]

/-- for two games of one size `==` is `True` exactly when known flag, lower and upper bound
    agree on every row. -/
theorem eqv_true_iff (t u : Table α) (hn : t.n = u.n) :
    t.eqv u = .ok true ↔
      ∀ c, c < 2 ^ t.n → t.known c = u.known c ∧ t.lo c = u.lo c ∧ t.hi c = u.hi c := by
  unfold Table.eqv
  have : t.rows = u.rows := by unfold Table.rows; rw [hn]
  simp only [this, if_true]
  constructor
  · intro h c hc
    have h' : (List.range u.rows).all (fun c => rowEq t u c c) = true := by injection h
    rw [List.all_eq_true] at h'
    exact (rowEq_iff t u c c).1 (h' c (List.mem_range.mpr (by rw [← this]; exact hc)))
  · intro h
    congr 1
    rw [List.all_eq_true]
    intro c hc
    exact (rowEq_iff t u c c).2 (h c (by rw [List.mem_range, ← this] at hc; exact hc))

/-- A game equals itself, hence a copy equals its original (`copy` is the identity of the model). -/
theorem eqv_refl (t : Table α) : t.eqv t = .ok true :=
  (eqv_true_iff t t rfl).2 fun _ _ => ⟨rfl, rfl, rfl⟩

/-- `==` raises (ValueError from numpy's broadcasting) exactly for two different, non-zero player counts;
    it never raises anything else. -/
theorem eqv_error_iff (t u : Table α) (e : Err) :
    t.eqv u = .error e ↔ (e = .value ∧ t.n ≠ u.n ∧ t.n ≠ 0 ∧ u.n ≠ 0) := by
  unfold Table.eqv Table.rows
  by_cases h : t.n = u.n
  · simp [h]
  · have h2 : ¬ 2 ^ t.n = 2 ^ u.n := fun e => h (two_pow_inj e)
    simp only [h2, if_false, two_pow_eq_one_iff]
    by_cases ht : t.n = 0
    · simp [ht]
    · by_cases hu : u.n = 0
      · simp [ht, hu]
      · simp only [ht, hu, if_false]
        constructor
        · intro he; cases he; exact ⟨rfl, h, ht, hu⟩
        · rintro ⟨rfl, _⟩; rfl

/-- two faithful maps of the SAME spec whose unknown rows were never given explicit bounds (they hold the
    blank 0/0 the class writes) compare equal: what `==` sees is determined by the abstract map. -/
theorem eqv_of_rel [Zero α] {t u : Table α} {s : Spec α} (hn : t.n = u.n) (ht : Rel t s) (hu : Rel u s)
    (hbt : ∀ c, c < 2 ^ t.n → t.known c = false → t.lo c = 0 ∧ t.hi c = 0)
    (hbu : ∀ c, c < 2 ^ u.n → u.known c = false → u.lo c = 0 ∧ u.hi c = 0) :
    t.eqv u = .ok true := by
  rw [eqv_true_iff t u hn]
  intro c hc
  have hc' : c < 2 ^ u.n := hn ▸ hc
  obtain ⟨t1, t2⟩ := ht c hc
  obtain ⟨u1, u2⟩ := hu c hc'
  refine ⟨by rw [t1, u1], ?_⟩
  cases hs : s c with
  | none =>
    have tk : t.known c = false := by rw [t1, hs]; rfl
    have uk : u.known c = false := by rw [u1, hs]; rfl
    obtain ⟨a, b⟩ := hbt c hc tk
    obtain ⟨a', b'⟩ := hbu c hc' uk
    exact ⟨by rw [a, a'], by rw [b, b']⟩
  | some v =>
    obtain ⟨a, b⟩ := t2 v hs
    obtain ⟨a', b'⟩ := u2 v hs
    exact ⟨by rw [a, a'], by rw [b, b']⟩

end eqv

/-! ### the hypotheses are satisfiable (two fully known 2-player games over `Int`) -/

def exA : Table Int := { n := 2, known := fun _ => true, lo := fun c => [0, 1, 2, 4].getD c 7, hi := fun c => [0, 1, 2, 4].getD c 9 }
def exB : Table Int := { n := 2, known := fun _ => true, lo := fun c => [0, 1, 1, 3].getD c 5, hi := fun c => [0, 1, 1, 3].getD c 6 }

example : ∃ r, exA.add exB = .ok r ∧ r.getLowerBounds = [0, 2, 3, 7] ∧ r.lo 4 = 7 ∧ r.full = true := by
  refine ⟨_, rfl, ?_, ?_, ?_⟩ <;> decide

example : exA.eqv exB = .ok false ∧ exA.eqv exA = .ok true := by decide
example : exA.eqv (Table.init 3) = .error .value ∧ exA.eqv (Table.init 0) = .ok false := by decide
example : ¬ ∃ r, (Table.init 2 : Table Int).add exA = .ok r := by rw [add_ok_iff]; decide

end ICG.C17

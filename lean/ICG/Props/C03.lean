/-
  Property C03 — the cached and the reference computer are interchangeable.

  "`compute_bounds_superadditive` and `compute_bounds_superadditive_cached` produce the same lower and
   upper bounds for every incomplete game on which either is defined, they are defined on exactly the
   same games (those that know ∅, N and every singleton — outside, the reference raises AssertionError,
   the cached one AssertionError or ValueError), the result of the cached computer does not depend on
   how ties between coalitions of equal size are ordered (numpy's argsort is not stable), and the
   per-player-count structure it memoises (`functools.cache`) is a pure function of the player count,
   whatever sequence of games of different sizes is processed."

  Theorems about the MODEL functions `sa`, `sac` (ICG/Model/Bounds.lean); all `n`, every linearly ordered
  value type with `+`, `-`.

  * `same`, `same_rows`       : `sa t` and `sac t` succeed and return the same table (`MinInfo`, `Inv`)
  * `defined_iff`, `defined_same`, `error_kinds` : same domain; the error kinds may differ
  * `order_free`, `order_free'`, `order_free_full` : any size-sorted enumeration of the unknown rows
                                (`sacWith order` is `sac` run with that enumeration)
  * `cache_pure`              : a memo table that is only ever extended with `(n, f n)` (`lookupOrInsert`,
                                `calls`, `Valid`)
-/
import ICG.Lemmas.BoundsCommon

namespace ICG.C03
open ICG Table
open ICG.BoundsCommon

variable {α : Type}

section main
variable [Add α] [Sub α] [LinearOrder α]

/-- **C03_same.**  On a `MinInfo` table whose known rows carry one value in both cells (`Inv` — needed
    because the reference reads the *upper* cell of known supersets and the cached one the *lower*
    cell), both computers succeed and return literally the same table. -/
theorem same (t : Table α) (hmin : MinInfo t.n t.known) (hinv : t.Inv) :
    ∃ t', sa t = .ok t' ∧ sac t = .ok t' :=
  sa_sac_agree enumFacts t hmin hinv

theorem same_rows (t : Table α) (hmin : MinInfo t.n t.known) (hinv : t.Inv) :
    ∃ t1 t2, sa t = .ok t1 ∧ sac t = .ok t2 ∧ t1.n = t2.n ∧ t1.known = t2.known ∧
      ∀ c, c < 2 ^ t.n → t1.lo c = t2.lo c ∧ t1.hi c = t2.hi c := by
  obtain ⟨t', h1, h2⟩ := same t hmin hinv
  exact ⟨t', t', h1, h2, rfl, rfl, fun _ _ => ⟨rfl, rfl⟩⟩

/-- `Inv` cannot be dropped: known row 7 with lower cell 9 and upper cell 10 (a state a scalar
    `set_upper_bound` on a known row produces) satisfies `MinInfo`, but not `Inv` -/
example : MinInfo 3 (Ex.exT.putHi 7 10).known ∧ ¬ (Ex.exT.putHi 7 10).Inv := by
  refine ⟨Ex.exT_min, ?_⟩
  intro h
  have := h 7 (by decide) (by decide)
  revert this; decide

example : ∃ t', sa Ex.exT = .ok t' ∧ sac Ex.exT = .ok t' :=
  same Ex.exT Ex.exT_min Ex.exT_agree.inv

/-- **C03_defined_iff.**  Both computers are defined exactly on the `MinInfo` tables (for every content
    of the table, `Inv` or not). -/
theorem defined_iff (t : Table α) :
    ((∃ t', sa t = .ok t') ↔ MinInfo t.n t.known) ∧ ((∃ t', sac t = .ok t') ↔ MinInfo t.n t.known) :=
  ⟨sa_defined_iff enumFacts t, sac_defined_iff enumFacts t⟩

theorem defined_same (t : Table α) : (∃ t', sa t = .ok t') ↔ (∃ t', sac t = .ok t') :=
  (defined_iff t).1.trans (defined_iff t).2.symm

/-- outside the domain the reference raises AssertionError; the cached computer raises too, possibly with
    another kind (ValueError from `np.max([])` at an unknown singleton) -/
theorem error_kinds (t : Table α) (h : ¬ MinInfo t.n t.known) :
    sa t = .error .assert ∧ ∃ e, sac t = .error e := by
  refine ⟨sa_not_minInfo t h, ?_⟩
  cases hs : sac t with
  | error e => exact ⟨e, rfl⟩
  | ok t' => exact absurd ((defined_iff t).2.mp ⟨t', hs⟩) h

/-- a table outside the domain: the singleton {1} (id 2) is unknown -/
def exBad : Table Int := { Ex.exT with known := fun c => c == 0 || c == 1 || c == 4 || c == 7 }

theorem exBad_not_min : ¬ MinInfo exBad.n exBad.known := by
  intro h
  have := h.2.2 1 (by decide)
  revert this; decide

example : sa exBad = .error .assert ∧ ∃ e, sac exBad = .error e := error_kinds exBad exBad_not_min

/-- the kinds really differ on this table: the cached computer raises ValueError -/
example : sac exBad = .error .value := by
  have h : (match sac exBad with | .error e => some e | .ok _ => none) = some Err.value := by
    decide +kernel
  cases hs : sac exBad with
  | ok t' => rw [hs] at h; cases h
  | error e => rw [hs] at h; cases h; rfl

example : ((∃ t', sa Ex.exT = .ok t') ↔ MinInfo Ex.exT.n Ex.exT.known) ∧
    ((∃ t', sac Ex.exT = .ok t') ↔ MinInfo Ex.exT.n Ex.exT.known) := defined_iff Ex.exT

/-! ### independence of the tie-break among coalitions of equal size -/

omit [Sub α] in
/-- **C03_order_free** (lower pass).  For every size-sorted permutation of the cached computer's list of
    unknown coalitions the lower sweep succeeds and computes `loSpec` on every row of the game. -/
theorem order_free (t : Table α) (hmin : MinInfo t.n t.known) (order : List Nat)
    (hperm : order.Perm (unknownSorted t))
    (hsorted : order.Pairwise (fun a b => size a ≤ size b)) :
    ∃ t1, sweepM sacLowerStep putLo order t = .ok t1 ∧ t1.n = t.n ∧ t1.known = t.known ∧
      t1.hi = t.hi ∧ (∀ c, c < 2 ^ t.n → t1.lo c = loSpec t.known t.lo c) ∧
      (∀ c, 2 ^ t.n ≤ c → t1.lo c = t.lo c) :=
  ⟨_, ICG.order_free enumFacts t hmin order hperm hsorted, rfl, rfl, rfl, fun _ hc => if_pos hc,
    fun _ hc => if_neg (by omega)⟩

omit [Sub α] in
theorem order_free' (t : Table α) (hmin : MinInfo t.n t.known) (o1 o2 : List Nat)
    (hp1 : o1.Perm (unknownSorted t)) (hs1 : o1.Pairwise (fun a b => size a ≤ size b))
    (hp2 : o2.Perm (unknownSorted t)) (hs2 : o2.Pairwise (fun a b => size a ≤ size b)) :
    ∃ t1, sweepM sacLowerStep putLo o1 t = .ok t1 ∧ sweepM sacLowerStep putLo o2 t = .ok t1 :=
  ICG.order_free' enumFacts t hmin o1 o2 hp1 hs1 hp2 hs2

/-- the cached computer with the unknown coalitions enumerated in a given order (what `np.argsort` of the
    sizes returned); `sac` is `sacWith (unknownSorted t)` -/
def sacWith (order : List Nat) (t : Table α) : Except Err (Table α) :=
  if sacPrecond t then do
    let t1 ← sweepM sacLowerStep putLo order t
    let t2 ← sweepM sacUpperStep putHi order t1.compactT
    pure t2.compactT
  else .error .assert

theorem sacWith_default (t : Table α) : sacWith (unknownSorted t) t = sac t := rfl

/-- **C03_order_free** (both passes).  Every size-sorted permutation of the unknown list gives the table
    `sac` returns. -/
theorem order_free_full (t : Table α) (hmin : MinInfo t.n t.known) (order : List Nat)
    (hperm : order.Perm (unknownSorted t))
    (hsorted : order.Pairwise (fun a b => size a ≤ size b)) :
    ∃ t', sac t = .ok t' ∧ sacWith order t = .ok t' := by
  have ho := (Refine.unknownOrder_sac enumFacts t).of_perm hperm hsorted
  refine ⟨_, sac_core enumFacts t hmin, ?_⟩
  unfold sacWith
  rw [if_pos (Refine.sacPrecond_of_minInfo hmin)]
  simp only [Refine.sacLowerPass enumFacts t hmin _ ho, compactT_eq,
    Refine.sacUpperPass enumFacts t hmin _ ho.mem, bind, Except.bind, pure, Except.pure]

/-- a size-sorted order of the three unknown pairs of `exT` other than the model's: `[6, 3, 5]` -/
example : ∃ t', sac Ex.exT = .ok t' ∧ sacWith [6, 3, 5] Ex.exT = .ok t' :=
  order_free_full Ex.exT Ex.exT_min [6, 3, 5]
    (by have : unknownSorted Ex.exT = [3, 5, 6] := by decide +kernel
        rw [this]; decide)
    (by decide +kernel)

end main

/-! ### the memoised structure is pure

`_get_sub_super_coalition_structure` is wrapped in `functools.cache`: a dictionary keyed by the argument
that is only ever *extended* with `n ↦ f n` on a miss and read on a hit.  The memo table is modelled as
an association list; `lookupOrInsert` is the wrapper.  For every sequence of calls with arbitrary `n`
(games of different sizes interleaved) every call returns `f n`, and entries already present are never
changed or removed.  That nothing *else* writes into the cached arrays (the computers only index them)
is not a statement about this wrapper: it is checked by the correspondence harness, which compares
digests of the cached arrays before and after every compute. -/

section cache
variable {σ : Type}

def lookup (m : List (Nat × σ)) (n : Nat) : Option σ := (m.find? (fun p => p.1 == n)).map (·.2)

/-- the `functools.cache` wrapper around `f`: result and new memo table -/
def lookupOrInsert (f : Nat → σ) (m : List (Nat × σ)) (n : Nat) : σ × List (Nat × σ) :=
  match lookup m n with
  | some s => (s, m)
  | none => (f n, m ++ [(n, f n)])

/-- a sequence of calls: the results, in order, and the final memo table -/
def calls (f : Nat → σ) : List (Nat × σ) → List Nat → List σ × List (Nat × σ)
  | m, [] => ([], m)
  | m, n :: ns =>
    let r := lookupOrInsert f m n
    let rest := calls f r.2 ns
    (r.1 :: rest.1, rest.2)

/-- the invariant the memo table carries -/
def Valid (f : Nat → σ) (m : List (Nat × σ)) : Prop := ∀ p ∈ m, p.2 = f p.1

theorem valid_nil (f : Nat → σ) : Valid f [] := fun _ h => by cases h

theorem lookup_valid {f : Nat → σ} {m : List (Nat × σ)} (hv : Valid f m) {n : Nat} {s : σ}
    (h : lookup m n = some s) : s = f n := by
  unfold lookup at h
  cases hf : m.find? (fun p => p.1 == n) with
  | none => rw [hf] at h; cases h
  | some p =>
    rw [hf] at h
    have hp : p.2 = s := by simpa using h
    have hmem := List.mem_of_find?_eq_some hf
    have hkey : p.1 = n := by simpa using List.find?_some hf
    rw [← hp, hv p hmem, hkey]

theorem lookupOrInsert_spec (f : Nat → σ) {m : List (Nat × σ)} (hv : Valid f m) (n : Nat) :
    (lookupOrInsert f m n).1 = f n ∧ Valid f (lookupOrInsert f m n).2 ∧
      ∃ ext, (lookupOrInsert f m n).2 = m ++ ext := by
  unfold lookupOrInsert
  cases h : lookup m n with
  | some s => exact ⟨lookup_valid hv h, hv, [], by simp⟩
  | none =>
    refine ⟨rfl, ?_, [(n, f n)], rfl⟩
    intro p hp
    rcases List.mem_append.mp hp with hp | hp
    · exact hv p hp
    · have : p = (n, f n) := by simpa using hp
      rw [this]

/-- after a call the key is present, so the next call with the same key is a hit on the same entry -/
theorem lookup_after (f : Nat → σ) {m : List (Nat × σ)} (hv : Valid f m) (n : Nat) :
    lookup (lookupOrInsert f m n).2 n = some (f n) := by
  unfold lookupOrInsert
  cases h : lookup m n with
  | some s => simp only; rw [h, lookup_valid hv h]
  | none =>
    simp only
    unfold lookup at h ⊢
    have hnone : m.find? (fun p => p.1 == n) = none := by
      cases hf : m.find? (fun p => p.1 == n) with
      | none => rfl
      | some p => rw [hf] at h; cases h
    rw [List.find?_append, hnone]
    simp

/-- **C03_cache_pure.**  For every sequence of calls with arbitrary arguments, starting from any valid
    memo table (in particular the empty one): every call returns `f n`; the final table is valid; and it
    extends the initial one (entries are never changed or dropped). -/
theorem cache_pure (f : Nat → σ) : ∀ (ns : List Nat) (m : List (Nat × σ)), Valid f m →
    (calls f m ns).1 = ns.map f ∧ Valid f (calls f m ns).2 ∧ ∃ ext, (calls f m ns).2 = m ++ ext
  | [], m, hv => ⟨rfl, hv, [], by simp [calls]⟩
  | n :: ns, m, hv => by
    obtain ⟨h1, h2, ext1, h3⟩ := lookupOrInsert_spec f hv n
    obtain ⟨i1, i2, ext2, i3⟩ := cache_pure f ns (lookupOrInsert f m n).2 h2
    refine ⟨?_, i2, ext1 ++ ext2, ?_⟩
    · simp only [calls, List.map_cons, h1, i1]
    · simp only [calls]
      rw [i3, h3, List.append_assoc]

theorem cache_pure_fresh (f : Nat → σ) (ns : List Nat) : (calls f [] ns).1 = ns.map f :=
  (cache_pure f ns [] (valid_nil f)).1

/-- player counts 3, 5, 3, 4, 5 interleaved: every call returns the structure of its own `n`, and the
    memo table holds one entry per distinct `n`, in first-call order -/
example : calls (fun n => allSorted n) [] [3, 5, 3, 4, 5] =
    ([allSorted 3, allSorted 5, allSorted 3, allSorted 4, allSorted 5],
     [(3, allSorted 3), (5, allSorted 5), (4, allSorted 4)]) := by
  decide +kernel

example : (calls (fun n => 2 ^ n) [(7, 128)] [1, 7, 1]).1 = [2, 128, 2] :=
  (cache_pure (fun n => 2 ^ n) [1, 7, 1] [(7, 128)] (by intro p hp; simp at hp; subst hp; decide)).1

end cache

end ICG.C03

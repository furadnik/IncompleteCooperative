/-
  Property C19 — saved results can be read back; saving under a new name leaves every earlier entry
  unchanged; saving under an existing name changes nothing; for any sequence of saves.
  Theorems about ICG.Model.Store (part 1: the model of `save_json` / `from_file` /
  `get_outputs_from_file` in incomplete_cooperative/run/save.py).

  The entry codec (`Output.json` → JSON text → `Output.from_json`) is abstract here: the theorems that
  speak about the *file* assume `∀ e, c.decode (c.encode e) = some (norm e)` for a normal form `norm`
  (`norm = id`: an exact codec).  Props/C19Codec.lean proves that assumption for the concrete model of
  the codec (ICG.Model.Codec: `tolist` / `np.array`, metadata stringification); what stays a property of
  json / numpy (the JSON text of floats and NaN tokens, int → double) is listed in the header of
  ICG/Model/Codec.lean and is covered only by the sampling of `harness/corr_store.py` (DESIGN 5/C19 "Partial").
  That the saved matrices are the ones the commands produced is checked by the same script, not a theorem.
-/
import ICG.Model.Store

namespace ICG.C19
open ICG.Store

variable {ε β : Type}

theorem lookup_append (s t : Store ε) (m : String) : lookup (s ++ t) m = (lookup s m).or (lookup t m) := by
  induction s with
  | nil => rfl
  | cons p s ih =>
    obtain ⟨n, e⟩ := p
    show (if n = m then some e else lookup (s ++ t) m) = (if n = m then some e else lookup s m).or _
    split
    · rfl
    · exact ih

theorem has_iff_mem_names (s : Store ε) (n : String) : has s n = true ↔ n ∈ names s := by
  induction s with
  | nil => simp [has, lookup, names]
  | cons p s ih =>
    obtain ⟨k, e⟩ := p
    unfold has at ih ⊢
    by_cases hk : k = n
    · rw [lookup, if_pos hk]
      exact ⟨fun _ => hk ▸ List.mem_cons_self, fun _ => rfl⟩
    · rw [lookup, if_neg hk, ih]
      exact ⟨List.mem_cons_of_mem _, fun h => (List.mem_cons.1 h).resolve_left fun e => hk e.symm⟩

theorem lookup_isSome_iff_mem_names (s : Store ε) (n : String) : (lookup s n).isSome = true ↔ n ∈ names s :=
  has_iff_mem_names s n

/-- saving under an existing name is the identity ("changes nothing") -/
theorem save_existing (s : Store ε) (n : String) (e e0 : ε) (h : lookup s n = some e0) : save s n e = s := by
  simp [save, has, h]

theorem save_existing_of_mem (s : Store ε) (n : String) (e : ε) (h : n ∈ names s) : save s n e = s := by
  have := (has_iff_mem_names s n).2 h
  simp [save, this]

theorem lookup_save (s : Store ε) (n m : String) (e : ε) :
    lookup (save s n e) m = (lookup s m).or (if n = m then some e else none) := by
  unfold save has
  split
  · -- the name is present: nothing is written, and under `m = n` the right side already has a value
    rename_i hn
    split
    · rename_i hnm
      rw [← hnm]
      obtain ⟨x, hx⟩ := Option.isSome_iff_exists.mp hn
      rw [hx]; rfl
    · exact (Option.or_none).symm
  · exact lookup_append s _ m

theorem lookup_save_new (s : Store ε) (n : String) (e : ε) (h : lookup s n = none) :
    lookup (save s n e) n = some e := by
  rw [lookup_save, h, if_pos rfl]; rfl

/-- an entry, once present, is unchanged by a later save (under any name, the same one included) -/
theorem lookup_save_stable (s : Store ε) (n m : String) (e x : ε) (h : lookup s m = some x) :
    lookup (save s n e) m = some x := by
  rw [lookup_save, h]; rfl

theorem lookup_save_other (s : Store ε) (n m : String) (e : ε) (hne : n ≠ m) :
    lookup (save s n e) m = lookup s m := by
  rw [lookup_save, if_neg hne, Option.or_none]

/-- insertion order: a save only ever appends -/
theorem save_prefix (s : Store ε) (n : String) (e : ε) : ∃ t, save s n e = s ++ t := by
  unfold save
  split
  · exact ⟨[], by simp⟩
  · exact ⟨_, rfl⟩

theorem names_save (s : Store ε) (n : String) (e : ε) :
    names (save s n e) = if n ∈ names s then names s else names s ++ [n] := by
  by_cases h : n ∈ names s
  · simp [save_existing_of_mem s n e h, h]
  · have : has s n = false := by
      cases hh : has s n with
      | true => exact absurd ((has_iff_mem_names s n).1 hh) h
      | false => rfl
    rw [if_neg h]
    simp [save, this, names]

/-- names stay pairwise distinct (the file is a JSON object / Python dict) -/
theorem names_nodup_save (s : Store ε) (n : String) (e : ε) (h : (names s).Nodup) :
    (names (save s n e)).Nodup := by
  rw [names_save]
  split
  · exact h
  · rename_i hn
    rw [List.nodup_append]
    refine ⟨h, by simp, ?_⟩
    intro a ha b hb
    simp only [List.mem_singleton] at hb
    subst hb
    exact fun hab => hn (hab ▸ ha)

/-! ### any sequence of saves -/

theorem saveAll_nil (s : Store ε) : saveAll s [] = s := rfl

theorem saveAll_cons (s : Store ε) (p : String × ε) (l : List (String × ε)) :
    saveAll s (p :: l) = saveAll (save s p.1 p.2) l := rfl

theorem saveAll_append (s : Store ε) (l₁ l₂ : List (String × ε)) :
    saveAll s (l₁ ++ l₂) = saveAll (saveAll s l₁) l₂ := by
  simp [saveAll, List.foldl_append]

/-- once present, never changes: `lookup` is stable under every later sequence of saves -/
theorem lookup_saveAll_stable (s : Store ε) (l : List (String × ε)) (m : String) (x : ε)
    (h : lookup s m = some x) : lookup (saveAll s l) m = some x := by
  induction l generalizing s with
  | nil => exact h
  | cons p l ih => exact ih _ (lookup_save_stable s p.1 m p.2 x h)

/-- `lookup name` = the first entry saved under it (or what the store held before) -/
theorem lookup_saveAll (s : Store ε) (l : List (String × ε)) (m : String) :
    lookup (saveAll s l) m = (lookup s m).or (firstSaved l m) := by
  induction l generalizing s with
  | nil => simp [saveAll, firstSaved, lookup]
  | cons p l ih =>
    obtain ⟨n, e⟩ := p
    rw [saveAll_cons, ih, lookup_save]
    simp only [firstSaved, lookup]
    cases lookup s m <;> by_cases hnm : n = m <;> simp [hnm]

theorem lookup_saveAll_empty (l : List (String × ε)) (m : String) :
    lookup (saveAll [] l) m = firstSaved l m := by
  rw [lookup_saveAll]; simp [lookup]

theorem earlier_entries_unchanged (s : Store ε) (l₁ l₂ : List (String × ε)) (m : String) (x : ε)
    (h : lookup (saveAll s l₁) m = some x) : lookup (saveAll s (l₁ ++ l₂)) m = some x := by
  rw [saveAll_append]; exact lookup_saveAll_stable _ l₂ m x h

/-- insertion order preserved: the store after more saves extends the earlier store -/
theorem saveAll_prefix (s : Store ε) (l : List (String × ε)) : ∃ t, saveAll s l = s ++ t := by
  induction l generalizing s with
  | nil => exact ⟨[], by simp [saveAll]⟩
  | cons p l ih =>
    obtain ⟨t₁, h₁⟩ := save_prefix s p.1 p.2
    obtain ⟨t₂, h₂⟩ := ih (save s p.1 p.2)
    exact ⟨t₁ ++ t₂, by rw [saveAll_cons, h₂, h₁, List.append_assoc]⟩

theorem saveAll_history_prefix (s : Store ε) (l₁ l₂ : List (String × ε)) :
    ∃ t, saveAll s (l₁ ++ l₂) = saveAll s l₁ ++ t := by
  rw [saveAll_append]; exact saveAll_prefix _ l₂

theorem mem_saveAll {s : Store ε} {l : List (String × ε)} {p : String × ε} (h : p ∈ saveAll s l) :
    p ∈ s ∨ p ∈ l := by
  induction l generalizing s with
  | nil => exact Or.inl h
  | cons q l ih =>
    rcases ih (s := save s q.1 q.2) h with h | h
    · unfold save at h
      split at h
      · exact Or.inl h
      · rcases List.mem_append.1 h with h | h
        · exact Or.inl h
        · exact Or.inr (List.mem_singleton.1 h ▸ List.mem_cons_self)
    · exact Or.inr (List.mem_cons_of_mem _ h)

theorem names_nodup_saveAll (s : Store ε) (l : List (String × ε)) (h : (names s).Nodup) :
    (names (saveAll s l)).Nodup := by
  induction l generalizing s with
  | nil => exact h
  | cons p l ih => exact ih _ (names_nodup_save s p.1 p.2 h)

theorem mem_names_save (s : Store ε) (n : String) (e : ε) (m : String) :
    m ∈ names (save s n e) ↔ m ∈ names s ∨ m = n := by
  rw [names_save]
  split
  · exact ⟨Or.inl, fun h => h.elim id fun hm => hm ▸ ‹n ∈ names s›⟩
  · rw [List.mem_append, List.mem_singleton]

/-- the names in the file are exactly the names it had plus the names saved -/
theorem mem_names_saveAll (s : Store ε) (l : List (String × ε)) (m : String) :
    m ∈ names (saveAll s l) ↔ m ∈ names s ∨ m ∈ l.map (·.1) := by
  induction l generalizing s with
  | nil => simp [saveAll]
  | cons p l ih => rw [saveAll_cons, ih, mem_names_save, List.map_cons, List.mem_cons, or_assoc]

theorem saveAll_existing (s : Store ε) (l : List (String × ε)) (h : ∀ p ∈ l, p.1 ∈ names s) :
    saveAll s l = s := by
  induction l with
  | nil => rfl
  | cons p l ih =>
    rw [saveAll_cons, save_existing_of_mem s p.1 p.2 (h p (by simp))]
    exact ih (fun q hq => h q (by simp [hq]))

/-! ### the file: decoding what was written gives back the store -/

theorem lookup_map (f : ε → β) (s : Store ε) (m : String) :
    lookup (s.map fun p => (p.1, f p.2)) m = (lookup s m).map f := by
  induction s with
  | nil => rfl
  | cons p r ih =>
    obtain ⟨k, e⟩ := p
    show (if k = m then some (f e) else lookup (r.map fun p => (p.1, f p.2)) m) =
      (if k = m then some e else lookup r m).map f
    split
    · rfl
    · exact ih

theorem has_encodeStore (c : Codec ε β) (s : Store ε) (n : String) : has (encodeStore c s) n = has s n := by
  unfold has encodeStore
  rw [lookup_map, Option.isSome_map]

theorem encodeStore_save (c : Codec ε β) (s : Store ε) (n : String) (e : ε) :
    saveFile c (encodeStore c s) n e = encodeStore c (save s n e) := by
  simp only [saveFile, save, has_encodeStore]
  split
  · rfl
  · simp [encodeStore]

/-- a codec that decodes what it encoded to a normal form `norm e` (the identity for an exact codec): the decoded
    file content is the store with every entry normalised -/
theorem decode_encodeStore_norm (c : Codec ε β) (norm : ε → ε) (hc : ∀ e, c.decode (c.encode e) = some (norm e))
    (s : Store ε) : decodeStore c (encodeStore c s) = some (s.map fun p => (p.1, norm p.2)) := by
  induction s with
  | nil => rfl
  | cons p s ih =>
    obtain ⟨k, e⟩ := p
    simp only [encodeStore, List.map_cons] at ih ⊢
    simp [decodeStore, hc, ih]

theorem file_roundtrip_norm (c : Codec ε β) (norm : ε → ε) (hc : ∀ e, c.decode (c.encode e) = some (norm e))
    (s : Store ε) (l : List (String × ε)) :
    decodeStore c (l.foldl (fun f p => saveFile c f p.1 p.2) (encodeStore c s)) =
      some ((saveAll s l).map fun p => (p.1, norm p.2)) := by
  induction l generalizing s with
  | nil => exact decode_encodeStore_norm c norm hc s
  | cons p l ih =>
    simp only [List.foldl_cons, encodeStore_save]
    exact ih (save s p.1 p.2)

theorem file_roundtrip (c : Codec ε β) (hc : ∀ e, c.decode (c.encode e) = some e) (s : Store ε)
    (l : List (String × ε)) :
    decodeStore c (l.foldl (fun f p => saveFile c f p.1 p.2) (encodeStore c s)) = some (saveAll s l) := by
  simpa using file_roundtrip_norm c id hc s l

/-- every run saved into a fresh file is read back as the first entry saved under its name -/
theorem read_back_first_saved (c : Codec ε β) (hc : ∀ e, c.decode (c.encode e) = some e)
    (l : List (String × ε)) (m : String) :
    ∃ t, decodeStore c (l.foldl (fun f p => saveFile c f p.1 p.2) []) = some t ∧ lookup t m = firstSaved l m :=
  ⟨saveAll [] l, by simpa [encodeStore] using file_roundtrip c hc [] l, lookup_saveAll_empty l m⟩

/-! ### concrete instances (hypotheses are satisfiable, statements are not vacuous) -/

/-- a non-identity codec satisfying the hypothesis -/
def exCodec : Codec Nat (List Nat) := ⟨fun n => [n, n], fun l => match l with | [a, _] => some a | _ => none⟩

example : ∀ e, exCodec.decode (exCodec.encode e) = some e := fun _ => rfl

example : saveAll ([] : Store Nat) [("a", 1), ("b", 2), ("a", 3), ("c", 4), ("b", 5)] = [("a", 1), ("b", 2), ("c", 4)] := by
  decide

example : lookup (saveAll ([] : Store Nat) [("a", 1), ("b", 2), ("a", 3)]) "a" = some 1 := by decide
example : lookup (saveAll ([] : Store Nat) [("a", 1), ("b", 2), ("a", 3)]) "z" = none := by decide
example : save ([("a", 1)] : Store Nat) "a" 7 = [("a", 1)] := by decide
example : names (saveAll ([("x", 0)] : Store Nat) [("a", 1), ("x", 2), ("b", 3)]) = ["x", "a", "b"] := by decide

example : decodeStore exCodec
    ([("a", 1), ("b", 2), ("a", 3)].foldl (fun f p => saveFile exCodec f p.1 p.2) []) = some [("a", 1), ("b", 2)] := by
  decide

/-- the driver's concrete entry type: two saves under one name, the first entry (NaN-padded 3-D actions) stays -/
example :
    let e : Entry := ⟨⟨[2, 1], ["f3ff0000000000000", "nan"]⟩, ⟨[2, 1, 1], ["nan", "i5"]⟩, [("h6b", "h76")]⟩
    let e' : Entry := ⟨⟨[1, 1], ["nan"]⟩, ⟨[1, 1], ["i0"]⟩, []⟩
    lookup (saveAll [] [("run", e), ("run", e')]) "run" = some e := by
  decide

end ICG.C19

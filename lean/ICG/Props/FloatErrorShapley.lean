/-
  ICG.Props.FloatErrorShapley — the sense of "within float rounding as computed" in the Shapley /
  exploitability properties (C05, C06), made precise the way ICG.Props.FloatError does it for the bounds.

  Setting.  Values live in an ordered field `α`.  `add' sub' mul' div' : α → α → α` are ARBITRARY
  functions (no algebraic law is assumed) with
      |add' a b − (a + b)| ≤ δ    |sub' a b − (a − b)| ≤ δ    |mul' a b − a·b| ≤ δ    |div' a b − a/b| ≤ δ
  for the operands that occur.  `shapleyForPlayerApprox`, `shapleyApprox`, `exploitabilityApprox`
  (`ICG.Lemmas.FloatErrorShapleyCore`) are `shapleyForPlayer`, `shapley`, `exploitability` of the model
  run with these operations: per coalition without the player one `sub'` and one `mul'` (the integer
  coefficient is converted exactly), the terms summed from `0` with `add'`, ONE `div'` by `n!`; for the
  exploitability the per-player values summed from `0` with `add'` and one `sub'` of `get_value(N)`.
  With the exact operations they are the model functions (`approx_exact`, `approx_exact_exploitability`, by `rfl`).

  With `B n δ = (2 + 2^n / n!)·δ`: every computed Shapley value is within `B n δ` of the exact one
  (`shapleyForPlayer_error`), their exact sum within `n·B n δ` of `v(N) − v(∅)` (`efficiency_error`), the computed
  exploitability within `n·B n δ + (n+1)·δ` (`exploitability_error`), hence `≥ −` that slack when `lower ≤ upper`
  (`exploitability_nonneg_approx`); the rounded functions raise exactly when, and what, the exact ones do
  (`…_error_iff`, `…_ok_iff`).  The `…_on` forms ask for the error bound only on the operations actually performed
  (`OpsErr`, `ExplOpsErr`), which is what relative error `u` and magnitudes `≤ M` give with `δ = u·M` (`…_relative`).
  The 3-player examples at the end show that the hypotheses are satisfiable and that the bounds are ATTAINED.
-/
import ICG.Lemmas.FloatErrorShapleyCore
import ICG.Props.C05
import ICG.Props.C06
import Mathlib.Tactic.NormNum
import Mathlib.Algebra.Order.Field.Rat
import Mathlib.Algebra.Order.Floor.Ring
import Mathlib.Data.Rat.Floor

namespace ICG.ApproxShapley
open ICG ICG.Rounding Finset

section exact
variable {α : Type} [Add α] [Sub α] [Mul α] [Div α] [Zero α] [NatCast α]

/-- the rounded functions ARE the model functions when nothing is rounded (all by `rfl`) -/
theorem approx_exact (n : Nat) (g : GetValues α) (single : Nat) (coefs : List Nat) (nFac i : Nat)
    (l : List α) :
    sumApprox (· + ·) l = listSum l ∧
    shapleyCoreApprox (· + ·) (· - ·) (· * ·) (· / ·) n g single coefs nFac
      = shapleyCore n g single coefs nFac ∧
    shapleyForPlayerApprox (· + ·) (· - ·) (· * ·) (· / ·) n g i = shapleyForPlayer n g i ∧
    shapleyApprox (· + ·) (· - ·) (· * ·) (· / ·) n g = shapley n g :=
  ⟨rfl, rfl, rfl, rfl⟩

theorem approx_exact_exploitability [One α] (n : Nat) (lo hi : Nat → α) (gv : Except Err α) (t : Table α) :
    exploitabilityApprox (· + ·) (· - ·) (· * ·) (· / ·) n lo hi gv = exploitability n lo hi gv ∧
    tableExploitabilityApprox (· + ·) (· - ·) (· * ·) (· / ·) t = t.exploitability :=
  ⟨rfl, rfl⟩

end exact

/-! ### the rounded functions raise exactly when the exact ones do

Rounding does not touch the control flow: every read from the game, the `fromiter` count check and the
coefficient lookup are those of the model, for EVERY game (raising ones included), every coefficient
list and every operations `add' sub' mul' div'` (no error hypothesis is needed here). -/
section errors
variable {α : Type} [Add α] [Sub α] [Mul α] [Div α] [Zero α] [NatCast α]
variable (add' sub' mul' div' : α → α → α)

theorem shapleyCore_error_iff (n : Nat) (g : GetValues α) (single : Nat) (coefs : List Nat) (nFac : Nat)
    (e : Err) :
    shapleyCoreApprox add' sub' mul' div' n g single coefs nFac = .error e ↔
      shapleyCore n g single coefs nFac = .error e := by
  unfold shapleyCoreApprox shapleyCore
  exact RaiseAlike.bind_same (fun _ => .bind_same fun _ => .bind_same fun _ => .bind_same fun _ => .ok) e

theorem shapleyForPlayer_error_iff (n : Nat) (g : GetValues α) (i : Nat) (e : Err) :
    shapleyForPlayerApprox add' sub' mul' div' n g i = .error e ↔ shapleyForPlayer n g i = .error e :=
  shapleyCore_error_iff add' sub' mul' div' n g _ _ _ e

theorem shapleyForPlayer_ok_iff (n : Nat) (g : GetValues α) (i : Nat) :
    (∃ x, shapleyForPlayerApprox add' sub' mul' div' n g i = .ok x) ↔ (∃ y, shapleyForPlayer n g i = .ok y) :=
  RaiseAlike.ok_iff (shapleyForPlayer_error_iff add' sub' mul' div' n g i)

theorem shapley_error_iff (n : Nat) (g : GetValues α) (e : Err) :
    shapleyApprox add' sub' mul' div' n g = .error e ↔ shapley n g = .error e := by
  unfold shapleyApprox shapley
  exact RaiseAlike.mapE (fun i _ => shapleyCore_error_iff add' sub' mul' div' n g _ _ _) e

theorem shapley_ok_iff (n : Nat) (g : GetValues α) :
    (∃ x, shapleyApprox add' sub' mul' div' n g = .ok x) ↔ (∃ y, shapley n g = .ok y) :=
  RaiseAlike.ok_iff (shapley_error_iff add' sub' mul' div' n g)

theorem exploitability_error_iff [One α] (n : Nat) (lo hi : Nat → α) (gv : Except Err α) (e : Err) :
    exploitabilityApprox add' sub' mul' div' n lo hi gv = .error e ↔
      exploitability n lo hi gv = .error e := by
  unfold exploitabilityApprox exploitability
  exact RaiseAlike.bind (.mapE fun i _ => shapleyForPlayer_error_iff add' sub' mul' div' n _ i)
    (fun _ _ => .bind_same fun _ => .ok) e

theorem exploitability_ok_iff [One α] (n : Nat) (lo hi : Nat → α) (gv : Except Err α) :
    (∃ x, exploitabilityApprox add' sub' mul' div' n lo hi gv = .ok x) ↔
      (∃ y, exploitability n lo hi gv = .ok y) :=
  RaiseAlike.ok_iff (exploitability_error_iff add' sub' mul' div' n lo hi gv)

theorem tableExploitability_error_iff [One α] (t : Table α) (e : Err) :
    tableExploitabilityApprox add' sub' mul' div' t = .error e ↔ t.exploitability = .error e :=
  exploitability_error_iff add' sub' mul' div' t.n t.lo t.hi _ e

end errors

variable {α : Type} [Field α] [LinearOrder α] [IsStrictOrderedRing α]

section sums
variable {add' : α → α → α} {δ : α}

theorem delta_nonneg (hadd : ∀ a b, |add' a b - (a + b)| ≤ δ) : 0 ≤ δ :=
  Rounding.delta_nonneg hadd

theorem sumApprox_error_map_on {ι : Type} (f' f ε : ι → α) (l : List ι)
    (hε : ∀ x ∈ l, |f' x - f x| ≤ ε x)
    (hadd : ∀ p ∈ sumOps add' 0 (l.map f'), |add' p.1 p.2 - (p.1 + p.2)| ≤ δ) :
    |sumApprox add' (l.map f') - listSum (l.map f)| ≤ (l.map ε).sum + (l.length : α) * δ := by
  have h := foldl_error f' f ε l 0 0 hε hadd
  rw [sub_self, abs_zero, zero_add] at h
  exact h

theorem sumApprox_error_map {ι : Type} (hadd : ∀ a b, |add' a b - (a + b)| ≤ δ) (f' f ε : ι → α)
    (l : List ι) (hε : ∀ x ∈ l, |f' x - f x| ≤ ε x) :
    |sumApprox add' (l.map f') - listSum (l.map f)| ≤ (l.map ε).sum + (l.length : α) * δ :=
  sumApprox_error_map_on f' f ε l hε (fun _ _ => hadd _ _)

theorem sumApprox_error_on (l : List α)
    (hadd : ∀ p ∈ sumOps add' 0 l, |add' p.1 p.2 - (p.1 + p.2)| ≤ δ) :
    |sumApprox add' l - listSum l| ≤ (l.length : α) * δ := by
  have h := sumApprox_error_map_on (add' := add') (δ := δ) id id (fun _ => 0) l
    (fun x _ => by rw [sub_self, abs_zero]) (by rwa [List.map_id])
  rwa [List.map_id, sum_map_const, mul_zero, zero_add] at h

theorem sumApprox_error (hadd : ∀ a b, |add' a b - (a + b)| ≤ δ) (l : List α) :
    |sumApprox add' l - listSum l| ≤ (l.length : α) * δ :=
  sumApprox_error_on l (fun _ _ => hadd _ _)

omit [LinearOrder α] [IsStrictOrderedRing α] in
theorem map_getD_range (l : List α) : (List.range l.length).map (fun k => l.getD k 0) = l := by
  apply List.ext_getElem (by simp)
  intro k h1 h2
  simp [List.getD_eq_getElem?_getD, h2]

/-- two lists of the same length whose entries differ by at most `ε k` at position `k`: the rounded
    sum of the first is within `Σ_k ε k + length·δ` of the exact sum of the second -/
theorem sumApprox_error_lists (hadd : ∀ a b, |add' a b - (a + b)| ≤ δ) (l' l : List α) (ε : Nat → α)
    (hlen : l'.length = l.length) (hε : ∀ k, k < l.length → |l'.getD k 0 - l.getD k 0| ≤ ε k) :
    |sumApprox add' l' - listSum l| ≤ ((List.range l.length).map ε).sum + (l.length : α) * δ := by
  have h := sumApprox_error_map hadd (fun k => l'.getD k 0) (fun k => l.getD k 0) ε
    (List.range l.length) (fun k hk => hε k (List.mem_range.mp hk))
  rw [map_getD_range l] at h
  rw [← hlen, map_getD_range l', hlen, List.length_range] at h
  exact h

end sums

/-! ### one rounded Shapley value, and efficiency -/
section shapleyErr
variable {add' sub' mul' div' : α → α → α} {δ : α}

theorem shapleyForPlayer_error_on {n i : Nat} (hi : i < n) (g : GetValues α) (v : Nat → α)
    (hg : Answers n g v) (h : OpsErr add' sub' mul' div' n v i δ) {φ : α}
    (hφ : shapleyForPlayer n g i = .ok φ) :
    ∃ φ', shapleyForPlayerApprox add' sub' mul' div' n g i = .ok φ' ∧ |φ' - φ| ≤ B n δ := by
  rw [shapleyForPlayer_ok hi g v hg] at hφ
  injection hφ with hφ
  subst hφ
  exact ⟨_, shapleyForPlayerApprox_ok add' sub' mul' div' hi g v hg, phiApprox_error_on hi h⟩

/-- On a complete game, for a player `i < n` (so `n ≥ 1`): the rounded
    computation succeeds and its result is within `B n δ = (2 + 2^n/n!)·δ` of the exact Shapley value. -/
theorem shapleyForPlayer_error (hadd : ∀ a b, |add' a b - (a + b)| ≤ δ)
    (hsub : ∀ a b, |sub' a b - (a - b)| ≤ δ) (hmul : ∀ a b, |mul' a b - a * b| ≤ δ)
    (hdiv : ∀ a b, |div' a b - a / b| ≤ δ) {n i : Nat} (hi : i < n) (v : Nat → α) {φ : α}
    (hφ : shapleyForPlayer n (completeGame v) i = .ok φ) :
    ∃ φ', shapleyForPlayerApprox add' sub' mul' div' n (completeGame v) i = .ok φ' ∧
      |φ' - φ| ≤ B n δ :=
  shapleyForPlayer_error_on hi _ v (answers_complete n v) (OpsErr.of_forall hadd hsub hmul hdiv n v i) hφ

/-- for every game that answers with `v`, e.g. the fully known value table (`C06.answers_table`) -/
theorem shapleyForPlayer_error_answers (hadd : ∀ a b, |add' a b - (a + b)| ≤ δ)
    (hsub : ∀ a b, |sub' a b - (a - b)| ≤ δ) (hmul : ∀ a b, |mul' a b - a * b| ≤ δ)
    (hdiv : ∀ a b, |div' a b - a / b| ≤ δ) {n i : Nat} (hi : i < n) (g : GetValues α) (v : Nat → α)
    (hg : Answers n g v) :
    ∃ φ φ', shapleyForPlayer n g i = .ok φ ∧
      shapleyForPlayerApprox add' sub' mul' div' n g i = .ok φ' ∧ |φ' - φ| ≤ B n δ :=
  ⟨_, _, shapleyForPlayer_ok hi g v hg, shapleyForPlayerApprox_ok add' sub' mul' div' hi g v hg,
    phiApprox_error_on hi (OpsErr.of_forall hadd hsub hmul hdiv n v i)⟩

theorem sum_map_close {ι : Type} (f' f ε : ι → α) (l : List ι) (hε : ∀ x ∈ l, |f' x - f x| ≤ ε x) :
    |(l.map f').sum - (l.map f).sum| ≤ (l.map ε).sum := by
  -- `foldl_error` with the exact addition, which has error `0`
  have h : |listSum (l.map f') - listSum (l.map f)| ≤ _ :=
    foldl_error (add' := (· + ·)) (δ := 0) f' f ε l 0 0 hε (fun p _ => by simp)
  rwa [listSum_eq_sum, listSum_eq_sum, sub_self, abs_zero, zero_add, mul_zero, add_zero] at h

theorem efficiency_error_on (n : Nat) (g : GetValues α) (v : Nat → α) (hg : Answers n g v)
    (h : ∀ i, i < n → OpsErr add' sub' mul' div' n v i δ) :
    ∃ l', shapleyApprox add' sub' mul' div' n g = .ok l' ∧ l'.length = n ∧
      |l'.sum - (v (grand n) - v 0)| ≤ (n : α) * B n δ := by
  obtain ⟨l, hl, hsum⟩ := C06.efficiency n g v hg
  rw [shapley_ok n g v hg] at hl
  injection hl with hl
  subst hl
  refine ⟨_, shapleyApprox_ok add' sub' mul' div' n g v hg, by simp, ?_⟩
  rw [← hsum]
  have := sum_map_close (phiApprox add' sub' mul' div' n v) (phi n v) (fun _ => B n δ) (List.range n)
    (fun i hi => phiApprox_error_on (List.mem_range.mp hi) (h i (List.mem_range.mp hi)))
  rwa [sum_map_const, List.length_range] at this

/-- `|Σ_i φ'_i − (v(N) − v(∅))| ≤ n·B n δ` (the final sum exact; for the rounded
    final sum see `efficiency_error_sum`). -/
theorem efficiency_error (hadd : ∀ a b, |add' a b - (a + b)| ≤ δ)
    (hsub : ∀ a b, |sub' a b - (a - b)| ≤ δ) (hmul : ∀ a b, |mul' a b - a * b| ≤ δ)
    (hdiv : ∀ a b, |div' a b - a / b| ≤ δ) (n : Nat) (v : Nat → α) :
    ∃ l', shapleyApprox add' sub' mul' div' n (completeGame v) = .ok l' ∧ l'.length = n ∧
      |l'.sum - (v (grand n) - v 0)| ≤ (n : α) * B n δ :=
  efficiency_error_on n _ v (answers_complete n v) (fun i _ => OpsErr.of_forall hadd hsub hmul hdiv n v i)

/-- … and with the final sum rounded as well (`sum(compute_shapley_value(game))` in floats) -/
theorem efficiency_error_sum (hadd : ∀ a b, |add' a b - (a + b)| ≤ δ)
    (hsub : ∀ a b, |sub' a b - (a - b)| ≤ δ) (hmul : ∀ a b, |mul' a b - a * b| ≤ δ)
    (hdiv : ∀ a b, |div' a b - a / b| ≤ δ) (n : Nat) (v : Nat → α) :
    ∃ l', shapleyApprox add' sub' mul' div' n (completeGame v) = .ok l' ∧
      |sumApprox add' l' - (v (grand n) - v 0)| ≤ (n : α) * B n δ + (n : α) * δ := by
  obtain ⟨l', hl', hlen, hs⟩ := efficiency_error hadd hsub hmul hdiv n v
  refine ⟨l', hl', ?_⟩
  have h1 := sumApprox_error hadd l'
  rw [listSum_eq_sum, hlen] at h1
  exact (abs_sub_le _ l'.sum _).trans (by linear_combination h1 + hs)

end shapleyErr

/-! ### the rounded exploitability -/
section expl
variable {add' sub' mul' div' : α → α → α} {δ : α}

def maxPhisApprox (add' sub' mul' div' : α → α → α) (n : Nat) (lo hi : Nat → α) : List α :=
  (List.range n).map (fun i => phiApprox add' sub' mul' div' n (maxGainValues i lo hi) i)

/-- absolute error `δ` on the operations `exploitabilityApprox` performs: those of every per-player
    Shapley value on its max-gain game, the additions of the running sum, the final subtraction -/
structure ExplOpsErr (add' sub' mul' div' : α → α → α) (n : Nat) (lo hi : Nat → α) (g δ : α) : Prop where
  phi : ∀ i, i < n → OpsErr add' sub' mul' div' n (maxGainValues i lo hi) i δ
  add : ∀ p ∈ sumOps add' 0 (maxPhisApprox add' sub' mul' div' n lo hi), |add' p.1 p.2 - (p.1 + p.2)| ≤ δ
  sub : |sub' (sumApprox add' (maxPhisApprox add' sub' mul' div' n lo hi)) g
      - (sumApprox add' (maxPhisApprox add' sub' mul' div' n lo hi) - g)| ≤ δ

omit [IsStrictOrderedRing α] in
theorem ExplOpsErr.of_forall (hadd : ∀ a b, |add' a b - (a + b)| ≤ δ)
    (hsub : ∀ a b, |sub' a b - (a - b)| ≤ δ) (hmul : ∀ a b, |mul' a b - a * b| ≤ δ)
    (hdiv : ∀ a b, |div' a b - a / b| ≤ δ) (n : Nat) (lo hi : Nat → α) (g : α) :
    ExplOpsErr add' sub' mul' div' n lo hi g δ :=
  ⟨fun i _ => OpsErr.of_forall hadd hsub hmul hdiv n _ i, fun _ _ => hadd _ _, hsub _ _⟩

theorem exploitability_error_on (n : Nat) (lo hi : Nat → α) (g : α)
    (h : ExplOpsErr add' sub' mul' div' n lo hi g δ) {e : α}
    (he : exploitability n lo hi (.ok g) = .ok e) :
    ∃ e', exploitabilityApprox add' sub' mul' div' n lo hi (.ok g) = .ok e' ∧
      |e' - e| ≤ (n : α) * B n δ + ((n : α) + 1) * δ := by
  rw [exploitability_eq] at he
  simp only at he
  injection he with he
  subst he
  refine ⟨_, by rw [exploitabilityApprox_eq]; rfl, ?_⟩
  have hs := sumApprox_error_map_on (add' := add') (δ := δ)
    (fun i => phiApprox add' sub' mul' div' n (maxGainValues i lo hi) i) (fun i => psi n hi lo i)
    (fun _ => B n δ) (List.range n)
    (fun i hi' => by
      have := phiApprox_error_on (List.mem_range.mp hi') (h.phi i (List.mem_range.mp hi'))
      rwa [phi_maxGain] at this)
    h.add
  rw [sum_map_const, List.length_range, listSum_map_range] at hs
  have hsub := abs_sub_error (b := g) (eb := 0) h.sub hs (by rw [sub_self, abs_zero])
  unfold maxPhisApprox at hsub
  linear_combination hsub

/-- When the exact `compute_exploitability` returns `e`, the rounded one
    returns some `e'` with `|e' − e| ≤ n·B n δ + (n+1)·δ`. -/
theorem exploitability_error (hadd : ∀ a b, |add' a b - (a + b)| ≤ δ)
    (hsub : ∀ a b, |sub' a b - (a - b)| ≤ δ) (hmul : ∀ a b, |mul' a b - a * b| ≤ δ)
    (hdiv : ∀ a b, |div' a b - a / b| ≤ δ) (n : Nat) (lo hi : Nat → α) (g : α) {e : α}
    (he : exploitability n lo hi (.ok g) = .ok e) :
    ∃ e', exploitabilityApprox add' sub' mul' div' n lo hi (.ok g) = .ok e' ∧
      |e' - e| ≤ (n : α) * B n δ + ((n : α) + 1) * δ :=
  exploitability_error_on n lo hi g (ExplOpsErr.of_forall hadd hsub hmul hdiv n lo hi g) he

theorem exploitability_nonneg_approx_on (n : Nat) (lo hi : Nat → α) (g : α)
    (hle : ∀ c, c < 2 ^ n → lo c ≤ hi c) (hres : hi 0 + g ≤ lo (grand n))
    (h : ExplOpsErr add' sub' mul' div' n lo hi g δ) :
    ∃ e', exploitabilityApprox add' sub' mul' div' n lo hi (.ok g) = .ok e' ∧
      -((n : α) * B n δ + ((n : α) + 1) * δ) ≤ e' := by
  have hid := C05.identity_general n lo hi g
  obtain ⟨e', he', herr⟩ := exploitability_error_on n lo hi g h hid
  refine ⟨e', he', ?_⟩
  have h0 := C05.weightedGap_nonneg n lo hi hle
  linarith only [(abs_le.mp herr).1, h0, hres]

/-- the clause "non-negative whenever lower ≤ upper, within float rounding as computed": `−slack ≤ e'`, with
    `get_value(N) = lower(N)` and `upper(∅) = 0` as on a table (`tableExploitability_nonneg_approx`) -/
theorem exploitability_nonneg_approx (hadd : ∀ a b, |add' a b - (a + b)| ≤ δ)
    (hsub : ∀ a b, |sub' a b - (a - b)| ≤ δ) (hmul : ∀ a b, |mul' a b - a * b| ≤ δ)
    (hdiv : ∀ a b, |div' a b - a / b| ≤ δ) (n : Nat) (lo hi : Nat → α) (g : α)
    (hle : ∀ c, c < 2 ^ n → lo c ≤ hi c) (h0 : hi 0 = 0) (hg : g = lo (grand n)) :
    ∃ e', exploitabilityApprox add' sub' mul' div' n lo hi (.ok g) = .ok e' ∧
      -((n : α) * B n δ + ((n : α) + 1) * δ) ≤ e' :=
  exploitability_nonneg_approx_on n lo hi g hle (by rw [h0, hg, zero_add])
    (ExplOpsErr.of_forall hadd hsub hmul hdiv n lo hi g)

/-- the rounded exploitability of a value table whose grand coalition is known (`get_value(N)` answers with
    `lower(N)`): when the exact `compute_exploitability` returns `e`, the rounded one returns some `e'` within the
    slack of `e` -/
theorem tableExploitability_error (hadd : ∀ a b, |add' a b - (a + b)| ≤ δ)
    (hsub : ∀ a b, |sub' a b - (a - b)| ≤ δ) (hmul : ∀ a b, |mul' a b - a * b| ≤ δ)
    (hdiv : ∀ a b, |div' a b - a / b| ≤ δ) (t : Table α) (hk : t.known (grand t.n) = true) {e : α}
    (he : t.exploitability = .ok e) :
    ∃ e', tableExploitabilityApprox add' sub' mul' div' t = .ok e' ∧
      |e' - e| ≤ (t.n : α) * B t.n δ + ((t.n : α) + 1) * δ := by
  have hgv : t.getValue (grand t.n) = .ok (t.lo (grand t.n)) := by
    unfold Table.getValue Table.rows
    rw [if_pos (grand_lt t.n), if_pos hk]
  unfold Table.exploitability at he
  unfold tableExploitabilityApprox
  rw [hgv] at he ⊢
  exact exploitability_error hadd hsub hmul hdiv t.n t.lo t.hi _ he

/-- from `C05.nonneg` (grand coalition known, `upper(∅) = 0`, `lower ≤ upper`): the rounded
    `compute_exploitability` of the table succeeds and is `≥ −slack` -/
theorem tableExploitability_nonneg_approx (hadd : ∀ a b, |add' a b - (a + b)| ≤ δ)
    (hsub : ∀ a b, |sub' a b - (a - b)| ≤ δ) (hmul : ∀ a b, |mul' a b - a * b| ≤ δ)
    (hdiv : ∀ a b, |div' a b - a / b| ≤ δ) (t : Table α) (hk : t.known (grand t.n) = true)
    (h0 : t.hi 0 = 0) (hle : ∀ c, c < 2 ^ t.n → t.lo c ≤ t.hi c) :
    ∃ e', tableExploitabilityApprox add' sub' mul' div' t = .ok e' ∧
      -((t.n : α) * B t.n δ + ((t.n : α) + 1) * δ) ≤ e' := by
  obtain ⟨x, hx, hx0⟩ := C05.nonneg t hk h0 hle
  obtain ⟨e', he', herr⟩ := tableExploitability_error hadd hsub hmul hdiv t hk hx
  exact ⟨e', he', (neg_le_of_abs_le herr).trans (sub_le_self _ hx0)⟩

/-- … and the rounded value of a table with degenerate intervals is within the slack of `0` -/
theorem tableExploitability_zero_approx (hadd : ∀ a b, |add' a b - (a + b)| ≤ δ)
    (hsub : ∀ a b, |sub' a b - (a - b)| ≤ δ) (hmul : ∀ a b, |mul' a b - a * b| ≤ δ)
    (hdiv : ∀ a b, |div' a b - a / b| ≤ δ) (t : Table α) (hk : t.known (grand t.n) = true)
    (h0 : t.hi 0 = 0) (heq : ∀ c, c < 2 ^ t.n → t.lo c = t.hi c) :
    ∃ e', tableExploitabilityApprox add' sub' mul' div' t = .ok e' ∧
      |e'| ≤ (t.n : α) * B t.n δ + ((t.n : α) + 1) * δ := by
  obtain ⟨e', he', herr⟩ := tableExploitability_error hadd hsub hmul hdiv t hk
    ((C05.zero_iff t hk h0 (fun c hc => (heq c hc).le)).mpr heq)
  exact ⟨e', he', by rwa [sub_zero] at herr⟩

end expl

/-! ### from relative (IEEE) error to the abstract `δ`

A float64 operation satisfies `|fl(a ∘ b) − (a ∘ b)| ≤ u·|a ∘ b|` with unit round-off `u = 2^-53` (no
overflow / underflow).  If the exact results of the operations that are PERFORMED (on the rounded
operands, as they occur) are bounded by `M` in magnitude, `δ = u·M` is an absolute error bound for them.
(A bound "for ALL `a b`" cannot hold in an unbounded field, which is why the error theorems above rest on
`…_on` forms.) -/
section relative
variable {add' sub' mul' div' : α → α → α} {u M : α}

theorem OpsErr.of_relative {n i : Nat} {v : Nat → α} (hu : 0 ≤ u)
    (hradd : ∀ a b, |add' a b - (a + b)| ≤ u * |a + b|)
    (hrsub : ∀ a b, |sub' a b - (a - b)| ≤ u * |a - b|)
    (hrmul : ∀ a b, |mul' a b - a * b| ≤ u * |a * b|)
    (hrdiv : ∀ a b, |div' a b - a / b| ≤ u * |a / b|)
    (hMsub : ∀ S, S < 2 ^ n → S.testBit i = false → |v (S ||| 2 ^ i) - v S| ≤ M)
    (hMmul : ∀ S, S < 2 ^ n → S.testBit i = false →
      |((coef n (size S) : Nat) : α) * sub' (v (S ||| 2 ^ i)) (v S)| ≤ M)
    (hMadd : ∀ p ∈ sumOps add' 0 ((withoutList n i).map (termApprox sub' mul' n i v)), |p.1 + p.2| ≤ M)
    (hMdiv : |numApprox add' sub' mul' n v i / (n.factorial : α)| ≤ M) :
    OpsErr add' sub' mul' div' n v i (u * M) :=
  ⟨fun S h1 h2 => relative_to_absolute hu (hrsub _ _) (hMsub S h1 h2),
    fun S h1 h2 => relative_to_absolute hu (hrmul _ _) (hMmul S h1 h2),
    fun p hp => relative_to_absolute hu (hradd _ _) (hMadd p hp),
    relative_to_absolute hu (hrdiv _ _) hMdiv⟩

/-- the float64 reading of `shapleyForPlayer_error`. Operations with relative error `u`, exact
    results of the performed operations bounded by `M`: the computed Shapley value is within
    `(2 + 2^n/n!)·u·M` of the exact one. -/
theorem shapleyForPlayer_error_relative {n i : Nat} (hi : i < n) (v : Nat → α) (hu : 0 ≤ u)
    (hradd : ∀ a b, |add' a b - (a + b)| ≤ u * |a + b|)
    (hrsub : ∀ a b, |sub' a b - (a - b)| ≤ u * |a - b|)
    (hrmul : ∀ a b, |mul' a b - a * b| ≤ u * |a * b|)
    (hrdiv : ∀ a b, |div' a b - a / b| ≤ u * |a / b|)
    (hMsub : ∀ S, S < 2 ^ n → S.testBit i = false → |v (S ||| 2 ^ i) - v S| ≤ M)
    (hMmul : ∀ S, S < 2 ^ n → S.testBit i = false →
      |((coef n (size S) : Nat) : α) * sub' (v (S ||| 2 ^ i)) (v S)| ≤ M)
    (hMadd : ∀ p ∈ sumOps add' 0 ((withoutList n i).map (termApprox sub' mul' n i v)), |p.1 + p.2| ≤ M)
    (hMdiv : |numApprox add' sub' mul' n v i / (n.factorial : α)| ≤ M) {φ : α}
    (hφ : shapleyForPlayer n (completeGame v) i = .ok φ) :
    ∃ φ', shapleyForPlayerApprox add' sub' mul' div' n (completeGame v) i = .ok φ' ∧
      |φ' - φ| ≤ B n (u * M) :=
  shapleyForPlayer_error_on hi _ v (answers_complete n v)
    (OpsErr.of_relative hu hradd hrsub hrmul hrdiv hMsub hMmul hMadd hMdiv) hφ

theorem ExplOpsErr.of_relative {n : Nat} {lo hi : Nat → α} {g : α} (hu : 0 ≤ u)
    (hradd : ∀ a b, |add' a b - (a + b)| ≤ u * |a + b|)
    (hrsub : ∀ a b, |sub' a b - (a - b)| ≤ u * |a - b|)
    (hphi : ∀ i, i < n → OpsErr add' sub' mul' div' n (maxGainValues i lo hi) i (u * M))
    (hMadd : ∀ p ∈ sumOps add' 0 (maxPhisApprox add' sub' mul' div' n lo hi), |p.1 + p.2| ≤ M)
    (hMsub : |sumApprox add' (maxPhisApprox add' sub' mul' div' n lo hi) - g| ≤ M) :
    ExplOpsErr add' sub' mul' div' n lo hi g (u * M) :=
  ⟨hphi, fun p hp => relative_to_absolute hu (hradd _ _) (hMadd p hp),
    relative_to_absolute hu (hrsub _ _) hMsub⟩

theorem exploitability_error_relative {n : Nat} {lo hi : Nat → α} {g : α} (hu : 0 ≤ u)
    (hradd : ∀ a b, |add' a b - (a + b)| ≤ u * |a + b|)
    (hrsub : ∀ a b, |sub' a b - (a - b)| ≤ u * |a - b|)
    (hphi : ∀ i, i < n → OpsErr add' sub' mul' div' n (maxGainValues i lo hi) i (u * M))
    (hMadd : ∀ p ∈ sumOps add' 0 (maxPhisApprox add' sub' mul' div' n lo hi), |p.1 + p.2| ≤ M)
    (hMsub : |sumApprox add' (maxPhisApprox add' sub' mul' div' n lo hi) - g| ≤ M) {e : α}
    (he : exploitability n lo hi (.ok g) = .ok e) :
    ∃ e', exploitabilityApprox add' sub' mul' div' n lo hi (.ok g) = .ok e' ∧
      |e' - e| ≤ (n : α) * B n (u * M) + ((n : α) + 1) * (u * M) :=
  exploitability_error_on n lo hi g (ExplOpsErr.of_relative hu hradd hrsub hphi hMadd hMsub) he

end relative

/-! ### concrete instances over `ℚ`

A 3-player game, every operation rounding UP (or DOWN) by `δ = 1/1000`: all three error bounds are
ATTAINED, and without the slack the non-negativity clause is false.  A second set of operations rounds
every result to the nearest multiple of `1/1000` (`δ = 1/2000`). -/


namespace Ex
/-- v = (0, 1, 2, 4, 3, 5, 6, 10) on ∅,{0},{1},{0,1},{2},{0,2},{1,2},N -/
def v3 : Nat → ℚ := fun c => [0, 1, 2, 4, 3, 5, 6, 10].getD c 0

def addUp (a b : ℚ) : ℚ := a + b + 1 / 1000
def subUp (a b : ℚ) : ℚ := a - b + 1 / 1000
def mulUp (a b : ℚ) : ℚ := a * b + 1 / 1000
def divUp (a b : ℚ) : ℚ := a / b + 1 / 1000
def addDn (a b : ℚ) : ℚ := a + b - 1 / 1000
def subDn (a b : ℚ) : ℚ := a - b - 1 / 1000
def mulDn (a b : ℚ) : ℚ := a * b - 1 / 1000
def divDn (a b : ℚ) : ℚ := a / b - 1 / 1000

theorem addUp_err : ∀ a b, |addUp a b - (a + b)| ≤ 1 / 1000 :=
  fun a b => abs_add_sub_self_le (by decide +kernel) (a + b)
theorem subUp_err : ∀ a b, |subUp a b - (a - b)| ≤ 1 / 1000 :=
  fun a b => abs_add_sub_self_le (by decide +kernel) (a - b)
theorem mulUp_err : ∀ a b, |mulUp a b - a * b| ≤ 1 / 1000 :=
  fun a b => abs_add_sub_self_le (by decide +kernel) (a * b)
theorem divUp_err : ∀ a b, |divUp a b - a / b| ≤ 1 / 1000 :=
  fun a b => abs_add_sub_self_le (by decide +kernel) (a / b)
theorem addDn_err : ∀ a b, |addDn a b - (a + b)| ≤ 1 / 1000 :=
  fun a b => abs_sub_sub_self_le (by decide +kernel) (a + b)
theorem subDn_err : ∀ a b, |subDn a b - (a - b)| ≤ 1 / 1000 :=
  fun a b => abs_sub_sub_self_le (by decide +kernel) (a - b)
theorem mulDn_err : ∀ a b, |mulDn a b - a * b| ≤ 1 / 1000 :=
  fun a b => abs_sub_sub_self_le (by decide +kernel) (a * b)
theorem divDn_err : ∀ a b, |divDn a b - a / b| ≤ 1 / 1000 :=
  fun a b => abs_sub_sub_self_le (by decide +kernel) (a / b)

/-- round to the nearest multiple of `1/1000` (ties up) -/
def rnd (x : ℚ) : ℚ := (⌊x * 1000 + 1 / 2⌋ : ℤ) / 1000
def addR (a b : ℚ) : ℚ := rnd (a + b)
def subR (a b : ℚ) : ℚ := rnd (a - b)
def mulR (a b : ℚ) : ℚ := rnd (a * b)
def divR (a b : ℚ) : ℚ := rnd (a / b)

theorem rnd_err (x : ℚ) : |rnd x - x| ≤ 1 / 2000 := by
  unfold rnd
  have h1 := Int.floor_le (x * 1000 + 1 / 2)
  have h2 := Int.lt_floor_add_one (x * 1000 + 1 / 2)
  exact abs_le.mpr ⟨by linear_combination (1 / 1000 : ℚ) * h2, by linear_combination (1 / 1000 : ℚ) * h1⟩
theorem addR_err : ∀ a b, |addR a b - (a + b)| ≤ 1 / 2000 := fun _ _ => rnd_err _
theorem subR_err : ∀ a b, |subR a b - (a - b)| ≤ 1 / 2000 := fun _ _ => rnd_err _
theorem mulR_err : ∀ a b, |mulR a b - a * b| ≤ 1 / 2000 := fun _ _ => rnd_err _
theorem divR_err : ∀ a b, |divR a b - a / b| ≤ 1 / 2000 := fun _ _ => rnd_err _

theorem B3 (δ : ℚ) : B 3 δ = 10 / 3 * δ := by
  unfold B; norm_num [Nat.factorial]

/-- the 3-player table of C05: ∅ and N known; lower = (0,1,1,2,0,2,3,6), upper = (0,3,2,5,4,6,3,6) -/
def t3 : Table ℚ := C05.exTable
theorem t3_hyps : t3.known (grand t3.n) = true ∧ t3.hi 0 = 0 ∧ (∀ c, c < 2 ^ t3.n → t3.lo c ≤ t3.hi c) := by
  decide +kernel

/-- a fully known table: every interval degenerate, exact exploitability `0` -/
def tDeg : Table ℚ := { n := 3, known := fun _ => true, lo := v3, hi := v3 }

theorem v3_shapley0 : shapleyForPlayer 3 (completeGame v3) 0 = .ok (7 / 3) := by decide +kernel
theorem t3_exploitability : exploitability 3 t3.lo t3.hi (.ok 6) = .ok (14 / 3) := by decide +kernel
end Ex

/-- the hypotheses of `sumApprox_error` are satisfiable, and its bound is attained -/
example : sumApprox Ex.addUp [1, 2, 3] = 6 + 3 / 1000 ∧ listSum ([1, 2, 3] : List ℚ) = 6 ∧
    |sumApprox Ex.addUp [1, 2, 3] - listSum ([1, 2, 3] : List ℚ)| ≤ (([1, 2, 3] : List ℚ).length : ℚ) * (1 / 1000) :=
  ⟨by decide +kernel, by decide +kernel, sumApprox_error Ex.addUp_err _⟩

/-- the hypotheses of `shapleyForPlayer_error` are satisfiable; the rounded value differs from the exact
    one; the bound `B 3 δ = (2 + 8/6)·δ = δ·10/3` is ATTAINED when every operation rounds up by `δ` -/
example : shapleyForPlayer 3 (completeGame Ex.v3) 0 = .ok (7 / 3) ∧
    shapleyForPlayerApprox Ex.addUp Ex.subUp Ex.mulUp Ex.divUp 3 (completeGame Ex.v3) 0 = .ok (701 / 300) ∧
    |(701 / 300 : ℚ) - 7 / 3| = B 3 (1 / 1000) := by
  decide +kernel

example : ∃ φ', shapleyForPlayerApprox Ex.addUp Ex.subUp Ex.mulUp Ex.divUp 3 (completeGame Ex.v3) 0 = .ok φ' ∧
    |φ' - 7 / 3| ≤ B 3 (1 / 1000) :=
  shapleyForPlayer_error Ex.addUp_err Ex.subUp_err Ex.mulUp_err Ex.divUp_err (by decide) Ex.v3 Ex.v3_shapley0

/-- rounding every result to the nearest multiple of `1/1000` (`δ = 1/2000`): `7/3 ↦ 2.333` -/
example : shapleyForPlayerApprox Ex.addR Ex.subR Ex.mulR Ex.divR 3 (completeGame Ex.v3) 0 = .ok (2333 / 1000) ∧
    (2333 / 1000 : ℚ) ≠ 7 / 3 ∧ |(2333 / 1000 : ℚ) - 7 / 3| ≤ B 3 (1 / 2000) := by
  decide +kernel

example : ∃ φ', shapleyForPlayerApprox Ex.addR Ex.subR Ex.mulR Ex.divR 3 (completeGame Ex.v3) 0 = .ok φ' ∧
    |φ' - 7 / 3| ≤ B 3 (1 / 2000) :=
  shapleyForPlayer_error Ex.addR_err Ex.subR_err Ex.mulR_err Ex.divR_err (by decide) Ex.v3 Ex.v3_shapley0

/-- efficiency: the rounded values `701/300, 1001/300, 1301/300` sum to `10 + 1/100`, `v(N) − v(∅) = 10`,
    and `3·B 3 δ = 1/100`: attained as well -/
example : shapleyApprox Ex.addUp Ex.subUp Ex.mulUp Ex.divUp 3 (completeGame Ex.v3)
      = .ok [701 / 300, 1001 / 300, 1301 / 300] ∧
    |([701 / 300, 1001 / 300, 1301 / 300] : List ℚ).sum - (Ex.v3 (grand 3) - Ex.v3 0)| = (3 : ℚ) * B 3 (1 / 1000) := by
  decide +kernel

example : ∃ l', shapleyApprox Ex.addUp Ex.subUp Ex.mulUp Ex.divUp 3 (completeGame Ex.v3) = .ok l' ∧
    l'.length = 3 ∧ |l'.sum - (Ex.v3 (grand 3) - Ex.v3 0)| ≤ ((3 : ℕ) : ℚ) * B 3 (1 / 1000) :=
  efficiency_error Ex.addUp_err Ex.subUp_err Ex.mulUp_err Ex.divUp_err 3 Ex.v3

/-- exploitability on the table of C05 (exact value `14/3`): rounding up everywhere gives `7021/1500`,
    the error `7/500 = 3·B 3 δ + 4·δ` is ATTAINED -/
example : Ex.t3.exploitability = .ok (14 / 3) ∧
    tableExploitabilityApprox Ex.addUp Ex.subUp Ex.mulUp Ex.divUp Ex.t3 = .ok (7021 / 1500) ∧
    |(7021 / 1500 : ℚ) - 14 / 3| = (3 : ℚ) * B 3 (1 / 1000) + ((3 : ℚ) + 1) * (1 / 1000) := by
  decide +kernel

example : ∃ e', exploitabilityApprox Ex.addUp Ex.subUp Ex.mulUp Ex.divUp 3 Ex.t3.lo Ex.t3.hi (.ok 6) = .ok e' ∧
    |e' - 14 / 3| ≤ ((3 : ℕ) : ℚ) * B 3 (1 / 1000) + (((3 : ℕ) : ℚ) + 1) * (1 / 1000) :=
  exploitability_error Ex.addUp_err Ex.subUp_err Ex.mulUp_err Ex.divUp_err 3 Ex.t3.lo Ex.t3.hi 6 Ex.t3_exploitability

/-- the hypotheses of `exploitability_nonneg_approx` / `tableExploitability_nonneg_approx` are satisfiable -/
example : ∃ e', tableExploitabilityApprox Ex.addR Ex.subR Ex.mulR Ex.divR Ex.t3 = .ok e' ∧
    -(((3 : ℕ) : ℚ) * B 3 (1 / 2000) + (((3 : ℕ) : ℚ) + 1) * (1 / 2000)) ≤ e' :=
  tableExploitability_nonneg_approx Ex.addR_err Ex.subR_err Ex.mulR_err Ex.divR_err Ex.t3
    Ex.t3_hyps.1 Ex.t3_hyps.2.1 Ex.t3_hyps.2.2

example : ∃ e', exploitabilityApprox Ex.addR Ex.subR Ex.mulR Ex.divR 3 Ex.t3.lo Ex.t3.hi (.ok 6) = .ok e' ∧
    -(((3 : ℕ) : ℚ) * B 3 (1 / 2000) + (((3 : ℕ) : ℚ) + 1) * (1 / 2000)) ≤ e' :=
  exploitability_nonneg_approx Ex.addR_err Ex.subR_err Ex.mulR_err Ex.divR_err 3 Ex.t3.lo Ex.t3.hi 6
    Ex.t3_hyps.2.2 Ex.t3_hyps.2.1 (by decide +kernel)

/-- the slack is necessary: on a table with degenerate intervals (exact exploitability `0`), operations
    that round DOWN by `δ` give a NEGATIVE computed exploitability, exactly `−slack` -/
example : Ex.tDeg.exploitability = .ok 0 ∧
    tableExploitabilityApprox Ex.addDn Ex.subDn Ex.mulDn Ex.divDn Ex.tDeg = .ok (-(7 / 500)) ∧
    (-(7 / 500) : ℚ) = -((3 : ℚ) * B 3 (1 / 1000) + ((3 : ℚ) + 1) * (1 / 1000)) := by
  decide +kernel

/-- the error cases: an incomplete table raises in rounded arithmetic exactly as it does exactly -/
example : ({ Ex.t3 with known := fun c => c == 0 } : Table ℚ).exploitability = .error .value ∧
    tableExploitabilityApprox Ex.addR Ex.subR Ex.mulR Ex.divR ({ Ex.t3 with known := fun c => c == 0 } : Table ℚ)
      = .error .value := by
  constructor <;> decide +kernel


/-! relative error: `u = 2^-53`, every exact result of a performed operation is `≤ 15` in magnitude
    (resp. `≤ 100` for the exploitability of the table of C05) -/
namespace Ex
def u64 : ℚ := 1 / 2 ^ 53
def addRel (a b : ℚ) : ℚ := (a + b) * (1 + u64)
def mulRel (a b : ℚ) : ℚ := (a * b) * (1 + u64)
def subRel (a b : ℚ) : ℚ := (a - b) * (1 - u64)
def divRel (a b : ℚ) : ℚ := (a / b) * (1 - u64)

theorem u64_nonneg : 0 ≤ u64 := by decide +kernel
theorem addRel_err : ∀ a b, |addRel a b - (a + b)| ≤ u64 * |a + b| :=
  fun a b => abs_mul_one_add_sub_self_le u64_nonneg (a + b)
theorem mulRel_err : ∀ a b, |mulRel a b - a * b| ≤ u64 * |a * b| :=
  fun a b => abs_mul_one_add_sub_self_le u64_nonneg (a * b)
theorem subRel_err : ∀ a b, |subRel a b - (a - b)| ≤ u64 * |a - b| :=
  fun a b => abs_mul_one_sub_sub_self_le u64_nonneg (a - b)
theorem divRel_err : ∀ a b, |divRel a b - a / b| ≤ u64 * |a / b| :=
  fun a b => abs_mul_one_sub_sub_self_le u64_nonneg (a / b)

theorem rel_sub_mag : ∀ S, S < 2 ^ 3 → S.testBit 0 = false → |v3 (S ||| 2 ^ 0) - v3 S| ≤ 15 := by
  decide +kernel
theorem rel_mul_mag : ∀ S, S < 2 ^ 3 → S.testBit 0 = false →
    |((coef 3 (size S) : Nat) : ℚ) * subRel (v3 (S ||| 2 ^ 0)) (v3 S)| ≤ 15 := by
  decide +kernel
theorem rel_add_mag : ∀ p ∈ sumOps addRel 0 ((withoutList 3 0).map (termApprox subRel mulRel 3 0 v3)),
    |p.1 + p.2| ≤ 15 := by
  decide +kernel
theorem rel_div_mag : |numApprox addRel subRel mulRel 3 v3 0 / ((3 : ℕ).factorial : ℚ)| ≤ 15 := by
  decide +kernel
end Ex

/-- the hypotheses of `shapleyForPlayer_error_relative` are satisfiable with the float64 unit round-off -/
example : ∃ φ', shapleyForPlayerApprox Ex.addRel Ex.subRel Ex.mulRel Ex.divRel 3 (completeGame Ex.v3) 0 = .ok φ' ∧
    |φ' - 7 / 3| ≤ B 3 (1 / 2 ^ 53 * 15) :=
  shapleyForPlayer_error_relative (by decide) Ex.v3 Ex.u64_nonneg Ex.addRel_err Ex.subRel_err Ex.mulRel_err
    Ex.divRel_err Ex.rel_sub_mag Ex.rel_mul_mag Ex.rel_add_mag Ex.rel_div_mag Ex.v3_shapley0

namespace Ex
theorem relE_sub_mag : ∀ i, i < 3 → ∀ S, S < 2 ^ 3 → S.testBit i = false →
    |maxGainValues i t3.lo t3.hi (S ||| 2 ^ i) - maxGainValues i t3.lo t3.hi S| ≤ 100 := by
  decide +kernel
theorem relE_mul_mag : ∀ i, i < 3 → ∀ S, S < 2 ^ 3 → S.testBit i = false →
    |((coef 3 (size S) : Nat) : ℚ)
      * subRel (maxGainValues i t3.lo t3.hi (S ||| 2 ^ i)) (maxGainValues i t3.lo t3.hi S)| ≤ 100 := by
  decide +kernel
theorem relE_add_mag : ∀ i, i < 3 →
    ∀ p ∈ sumOps addRel 0 ((withoutList 3 i).map (termApprox subRel mulRel 3 i (maxGainValues i t3.lo t3.hi))),
      |p.1 + p.2| ≤ 100 := by
  decide +kernel
theorem relE_div_mag : ∀ i, i < 3 →
    |numApprox addRel subRel mulRel 3 (maxGainValues i t3.lo t3.hi) i / ((3 : ℕ).factorial : ℚ)| ≤ 100 := by
  decide +kernel
theorem relE_sum_mag : ∀ p ∈ sumOps addRel 0 (maxPhisApprox addRel subRel mulRel divRel 3 t3.lo t3.hi),
    |p.1 + p.2| ≤ 100 := by
  decide +kernel
theorem relE_last_mag :
    |sumApprox addRel (maxPhisApprox addRel subRel mulRel divRel 3 t3.lo t3.hi) - 6| ≤ 100 := by
  decide +kernel
end Ex

/-- the hypotheses of `exploitability_error_relative` are satisfiable with the float64 unit round-off -/
example : ∃ e', exploitabilityApprox Ex.addRel Ex.subRel Ex.mulRel Ex.divRel 3 Ex.t3.lo Ex.t3.hi (.ok 6) = .ok e' ∧
    |e' - 14 / 3| ≤ ((3 : ℕ) : ℚ) * B 3 (1 / 2 ^ 53 * 100) + (((3 : ℕ) : ℚ) + 1) * (1 / 2 ^ 53 * 100) :=
  exploitability_error_relative Ex.u64_nonneg Ex.addRel_err Ex.subRel_err
    (fun i hi => OpsErr.of_relative Ex.u64_nonneg Ex.addRel_err Ex.subRel_err Ex.mulRel_err Ex.divRel_err
      (Ex.relE_sub_mag i hi) (Ex.relE_mul_mag i hi) (Ex.relE_add_mag i hi) (Ex.relE_div_mag i hi))
    Ex.relE_sum_mag Ex.relE_last_mag Ex.t3_exploitability

end ICG.ApproxShapley

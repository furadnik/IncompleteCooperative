/-
  ICG.Props.Compose — the downstream properties with their hypotheses discharged by the upstream ones.

  By design (DESIGN.md §6, "upstream functions are opaque parameters downstream") the theorems of C09, C11, C13,
  C16 and the environment clause of C08 are stated for an ARBITRARY bound computer `compute` and an ARBITRARY gap
  function `gap`, under hypotheses that are themselves other properties (`ComputeOK`, `KnowledgeOnly`, `RowsOnly`,
  `ComputeTotal`, `GapTotal`, "0 ≤ gap", "the gap does not increase under more knowledge", `t'.n = t.n`, …).
  This file instantiates them with the model's REAL computers `k.run`, `k ∈ {.sa, .sac, .sam r}`, and the REAL gap
  functions of the package (`Gap.fn`: l1, l∞, l2², exploitability; `NormGap.fn`: l1, l∞) and discharges every such
  hypothesis from C01/C04 (soundness), C05 (exploitability identity), C07 (more knowledge ⇒ nested intervals ⇒
  smaller gap), C08 (knowledge only): no abstract `compute` / `gap` is left in any statement below.

  Three families of statements, each an instance of one `…_of` theorem over a gap with `GapFacts`:
    * `…_norm (g : NormGap)`  over every `[AddCommGroup α] [LinearOrder α] [IsOrderedAddMonoid α]` (l1, l∞);
    * `… (g : Gap)`           over every `[Field α] [LinearOrder α] [IsStrictOrderedRing α]` (all four gaps;
                              exploitability with the side condition `v ∅ = 0` on the hidden game, `Gap.side`);
    * `…_l2`                  over ℝ, for the l2 norm itself (`gapL2`).
  "Hidden game of the class": `InClass k n v` = superadditive, and monotone non-increasing if `k` is `.sam r`.
  "Reachable": C09's `Reach` (constructor, then any sequence of successful reset / step / unstep with valid
  actions).  The generic proofs (over a gap with `GapFacts`) are in Lemmas/ComposeCore and Lemmas/ComposeSearch.

  Adapter: the `gap` parameter of the models has type `Table α → Except Err α`; the norms of ICG.Model.Shapley take
  `n lo hi`.  `gapL1 t = .ok (l1 t.n t.lo t.hi)` etc. (Lemmas/ComposeCore) are exactly `gap_func(incomplete_game)`.

  Exploitability raises when N is unknown, so it is not `GapTotal` (`gapTotal_iff`).  What the progress theorems and
  C13's `Hyps` need is definedness on the tables the environment hands the gap (`C09.DefinedOn`, `C13.GapDefined`:
  tables of `P.n` players knowing the initial coalitions, N among them); all four gaps have that (`Gap.defined`).
  Not composed: C12 (`evaluate`), whose hypotheses (`Isolated`, `Stateless`, …) are about the sharing of random
  sources, not conclusions of C01–C08.
-/
import ICG.Lemmas.ComposeSearch
import ICG.Props.C07L2


namespace ICG.Compose
open ICG Table Env ICG.Search ICG.SpecSA ICG.BoundsCommon
open ICG.C09 (Params Spec Reach Inv validStep validUnstep GapTotal)

variable {α : Type}

/-! ### the real gap functions, the class of the hidden game -/

/-- the gap functions available over ordered abelian groups -/
inductive NormGap where
  | l1 | linf
  deriving DecidableEq, Repr

/-- the gap functions of the package (`l2sq` is the square of `l2_norm`; the norm itself: `Props/C07L2`) -/
inductive Gap where
  | l1 | linf | l2sq | expl
  deriving DecidableEq, Repr

def NormGap.fn [Add α] [Sub α] [Zero α] [Max α] [Neg α] : NormGap → Table α → Except Err α
  | .l1 => gapL1
  | .linf => gapLinf

def Gap.fn [Add α] [Sub α] [Mul α] [Div α] [Zero α] [One α] [NatCast α] [Max α] [Neg α] :
    Gap → Table α → Except Err α
  | .l1 => gapL1
  | .linf => gapLinf
  | .l2sq => gapL2sq
  | .expl => gapExpl

/-- the side condition on the hidden game: `v ∅ = 0` for exploitability (the C05 identity), none otherwise -/
def Gap.side [Zero α] : Gap → (Nat → α) → Prop
  | .expl => fun v => v 0 = 0
  | _ => fun _ => True

theorem NormGap.facts [AddCommGroup α] [LinearOrder α] [IsOrderedAddMonoid α] (g : NormGap) :
    GapFacts (g.fn (α := α)) (fun _ => True) := by
  cases g
  · exact gapL1_facts
  · exact gapLinf_facts

theorem Gap.facts [Field α] [LinearOrder α] [IsStrictOrderedRing α] (g : Gap) :
    GapFacts (g.fn (α := α)) g.side := by
  cases g
  · exact gapL1_facts
  · exact gapLinf_facts
  · exact gapL2sq_facts
  · exact gapExpl_facts

/-! ### concrete 3-player instances for the `example`s (games of Lemmas/SpecSA3, SAMExample and C07 / C07Gaps) -/

namespace Ex

/-- 3 players, minimal information ∅, N, singletons (the order `minimal_game_coalitions` produces) -/
def P3 : Params := ⟨3, [0, 7, 1, 2, 4], none⟩

theorem P3_wf : P3.WF := ⟨by decide, by decide⟩
theorem P3_min : P3.Minimal := ⟨by decide, by decide, by decide⟩
theorem P3_ne : P3.explorable ≠ [] := by decide
theorem P3_expl : P3.explorable = [3, 5, 6] := by decide

/-- the constructor of the environment succeeds for every registered computer: a reachable state exists -/
theorem reach0 [AddCommGroup α] [LinearOrder α] [IsOrderedAddMonoid α] (k : Computer)
    (gap : Table α → Except Err α) (f g : Nat → α) :
    ∃ e, Reach (k.run : Table α → _) gap P3 e (Spec.init f g) :=
  let ⟨e, _, he⟩ := mkEnvWith_succeeds k (t0 := Table.init 3) rfl P3_wf P3_min P3_ne gap f g
  ⟨e, he⟩

theorem validActions_ne [AddCommGroup α] [LinearOrder α] [IsOrderedAddMonoid α] {k : Computer}
    {gap : Table α → Except Err α} {e : Env α} {f g : Nat → α}
    (he : Reach (k.run : Table α → _) gap P3 e (Spec.init f g)) : e.validActions ≠ [] :=
  List.ne_nil_of_mem ((C09.validActions_spec (C09.reach_inv_real k P3_wf he) 0).mpr
    (C09.validStep_iff.mpr ⟨3, by decide, rfl⟩))

/-- in the initial state of `P3` every explorable coalition of size 2 is a candidate of the linear step -/
theorem linCandidate [AddCommGroup α] [LinearOrder α] [IsOrderedAddMonoid α] {k : Computer}
    {gap : Table α → Except Err α} {e : Env α} {f g : Nat → α}
    (he : Reach (k.run : Table α → _) gap P3 e (Spec.init f g)) {a c : Nat}
    (hac : P3.explorable[a]? = some c) (hsz : size c = 2) : a ∈ e.linCandidates 2 := by
  have hinv := C09.reach_inv_real k P3_wf he
  have hnik := (C09.mem_explorable.mp (List.mem_of_getElem? hac)).2
  refine C16.mem_linCandidates.mpr ⟨c, by rw [hinv.ex]; exact hac, hsz, ?_⟩
  rw [hinv.known c]
  simp [Spec.knows, Spec.init, hnik]

theorem revealed_step_self (s : Spec α) (c : Nat) : (s.step c).revealed c = true :=
  (Bool.or_eq_true _ _).mpr (Or.inl (beq_self_eq_true c))

theorem revealed_step_of {s : Spec α} (c : Nat) {d : Nat} (h : s.revealed d = true) : (s.step c).revealed d = true :=
  (Bool.or_eq_true _ _).mpr (Or.inr h)

/-- reveal the three explorable coalitions of `P3` in any order: every step succeeds, the rewards are non-decreasing
    and ≤ 0, and the last one is 0 -/
theorem reveal_all [AddCommGroup α] [LinearOrder α] [IsOrderedAddMonoid α] {gap : Table α → Except Err α}
    {side : (Nat → α) → Prop} (hg : GapFacts gap side) (k : Computer) {v : Nat → α} (hcl : InClass k 3 v)
    (hside : side v) {e0 : Env α} (h0 : Reach (k.run : Table α → _) gap P3 e0 (Spec.init v v))
    {a1 a2 a3 c1 c2 c3 : Nat} (hc1 : P3.explorable[a1]? = some c1) (hc2 : P3.explorable[a2]? = some c2)
    (hc3 : P3.explorable[a3]? = some c3) (h12 : c2 ≠ c1) (h13 : c3 ≠ c1) (h23 : c3 ≠ c2)
    (hall : ∀ c ∈ P3.explorable, c = c1 ∨ c = c2 ∨ c = c3) :
    ∃ (e1 e2 e3 : Env α) (o1 o2 o3 : StepOut α) (r0 : α), e0.reward gap = .ok r0 ∧
      step k.run gap e0 a1 = .ok (e1, o1) ∧ step k.run gap e1 a2 = .ok (e2, o2) ∧
      step k.run gap e2 a3 = .ok (e3, o3) ∧
      r0 ≤ o1.reward ∧ o1.reward ≤ o2.reward ∧ o2.reward ≤ o3.reward ∧ o3.reward = 0 := by
  obtain ⟨e1, o1, r0, hs1, h1, hr0, hr1, m1, _⟩ := reach_step hg k P3_wf P3_min h0 hcl hside hc1 rfl
  have n12 : (c2 == c1) = false := beq_false_of_ne h12
  have n13 : (c3 == c1) = false := beq_false_of_ne h13
  have n23 : (c3 == c2) = false := beq_false_of_ne h23
  obtain ⟨e2, o2, r1, hs2, h2, hr1', hr2, m2, _⟩ := reach_step hg k P3_wf P3_min h1 hcl hside hc2
    (show (c2 == c1 || false) = false by rw [n12]; rfl)
  obtain ⟨e3, o3, r2, hs3, h3, hr2', hr3, m3, _⟩ := reach_step hg k P3_wf P3_min h2 hcl hside hc3
    (show (c3 == c2 || (c3 == c1 || false)) = false by rw [n23, n13]; rfl)
  rw [hr1] at hr1'
  rw [hr2] at hr2'
  cases hr1'
  cases hr2'
  have hz := reward_zero_of hg P3_min (C09.reach_inv_real k P3_wf h3) hside fun c hc => by
    rcases hall c hc with h | h | h <;> rw [h]
    · exact revealed_step_of _ (revealed_step_of _ (revealed_step_self _ _))
    · exact revealed_step_of _ (revealed_step_self _ _)
    · exact revealed_step_self _ _
  rw [hr3] at hz
  exact ⟨e1, e2, e3, o1, o2, o3, r0, hr0, hs1, hs2, hs3, m1, m2, m3, Except.ok.inj hz⟩

theorem exV_class (k : Computer) (hk : k.IsSA) : InClass k 3 exV :=
  ⟨exV_SA, fun h => (Computer.not_needsMono_of_isSA hk h).elim⟩

theorem sam_class (r : Nat) : InClass (.sam r) 3 SAMExample.v := ⟨SAMExample.sa, fun _ => SAMExample.monoDec⟩

theorem exVq_class (k : Computer) (hk : k.IsSA) : InClass k 3 C07.exVq :=
  ⟨C07.exVq_SA, fun h => (Computer.not_needsMono_of_isSA hk h).elim⟩

theorem exVq_side (g : Gap) : g.side C07.exVq := by
  cases g
  · trivial
  · trivial
  · trivial
  · show C07.exVq 0 = 0
    decide +kernel

end Ex

/-! ### C09: the reward is never positive, is zero when nothing is left, and never decreases -/

section env_group
variable [AddCommGroup α] [LinearOrder α] [IsOrderedAddMonoid α]
variable {k : Computer} {P : Params} {e e' : Env α} {s s' : Spec α}

/-- never positive, and defined (C09 `reward_nonpos` with `0 ≤ gap` from C01/C04 + C07) -/
theorem reward_nonpos_norm (k : Computer) (g : NormGap) (hP : P.WF) (hmin : P.Minimal)
    (h : Reach (k.run : Table α → _) g.fn P e s) (hcl : InClass k P.n s.full) :
    ∃ r, e.reward g.fn = .ok r ∧ r ≤ 0 :=
  reward_nonpos_of g.facts hmin (C09.reach_inv_real k hP h) hcl trivial

example (g : NormGap) : ∃ e : Env Int, Reach Computer.sac.run g.fn Ex.P3 e (Spec.init exV exV) ∧
    ∃ r, e.reward g.fn = .ok r ∧ r ≤ 0 := by
  obtain ⟨e, he⟩ := Ex.reach0 .sac g.fn exV exV
  exact ⟨e, he, reward_nonpos_norm .sac g Ex.P3_wf Ex.P3_min he (Ex.exV_class .sac trivial)⟩

example (r : Nat) (g : NormGap) :
    ∃ e : Env Int, Reach (Computer.sam r).run g.fn Ex.P3 e (Spec.init SAMExample.v SAMExample.v) ∧
      ∃ x, e.reward g.fn = .ok x ∧ x ≤ 0 := by
  obtain ⟨e, he⟩ := Ex.reach0 (.sam r) g.fn SAMExample.v SAMExample.v
  exact ⟨e, he, reward_nonpos_norm (.sam r) g Ex.P3_wf Ex.P3_min he (Ex.sam_class r)⟩

/-- zero once everything explorable is revealed (whatever the hidden game) -/
theorem reward_zero_full_norm (k : Computer) (g : NormGap) (hP : P.WF) (hmin : P.Minimal)
    (h : Reach (k.run : Table α → _) g.fn P e s) (hall : ∀ c ∈ P.explorable, s.revealed c = true) :
    e.reward g.fn = .ok 0 :=
  reward_zero_of g.facts hmin (C09.reach_inv_real k hP h) trivial hall

/-- a valid step never raises (C09 `step_succeeds`, `ComputeTotal` / `GapTotal` discharged) -/
theorem step_succeeds_norm (k : Computer) (g : NormGap) (hP : P.WF) (hmin : P.Minimal)
    (h : Reach (k.run : Table α → _) g.fn P e s) (hcl : InClass k P.n s.full) {a : Nat}
    (hv : validStep P s a = true) : ∃ e' out, step k.run g.fn e a = .ok (e', out) :=
  step_succeeds_of g.facts hmin (C09.reach_inv_real k hP h) hcl trivial hv

theorem unstep_succeeds_norm (k : Computer) (g : NormGap) (hP : P.WF) (hmin : P.Minimal)
    (h : Reach (k.run : Table α → _) g.fn P e s) (hcl : InClass k P.n s.full) {a : Nat}
    (hv : validUnstep P s a = true) : ∃ e' out, unstep k.run g.fn e a = .ok (e', out) :=
  unstep_succeeds_of g.facts hmin (C09.reach_inv_real k hP h) hcl trivial hv

/-- the reward never decreases along a step and stays ≤ 0 (C07 at the level of the environment) -/
theorem step_reward_mono_norm (k : Computer) (g : NormGap) (hP : P.WF) (hmin : P.Minimal)
    (h : Reach (k.run : Table α → _) g.fn P e s) (hcl : InClass k P.n s.full) {a : Nat} {out : StepOut α}
    (hs : step k.run g.fn e a = .ok (e', out)) :
    ∃ r, e.reward g.fn = .ok r ∧ r ≤ out.reward ∧ out.reward ≤ 0 :=
  step_reward_mono_of g.facts hmin (C09.reach_inv_real k hP h) hcl trivial hs

/-- reveal everything (coalitions 3, 5, 6 of the 3-player game `exV`), cached computer, l1 and l∞: every step
    succeeds, the rewards are non-decreasing and ≤ 0, and the last one is 0 -/
example (g : NormGap) : ∃ (e0 e1 e2 e3 : Env Int) (o1 o2 o3 : StepOut Int) (r0 : Int),
    Reach Computer.sac.run g.fn Ex.P3 e0 (Spec.init exV exV) ∧ e0.reward g.fn = .ok r0 ∧
    step Computer.sac.run g.fn e0 0 = .ok (e1, o1) ∧ step Computer.sac.run g.fn e1 1 = .ok (e2, o2) ∧
    step Computer.sac.run g.fn e2 2 = .ok (e3, o3) ∧
    r0 ≤ o1.reward ∧ o1.reward ≤ o2.reward ∧ o2.reward ≤ o3.reward ∧ o3.reward = 0 := by
  obtain ⟨e0, h0⟩ := Ex.reach0 .sac g.fn exV exV
  obtain ⟨e1, e2, e3, o1, o2, o3, r0, h⟩ := Ex.reveal_all g.facts .sac (Ex.exV_class .sac trivial) trivial h0
    (a1 := 0) (a2 := 1) (a3 := 2) (c1 := 3) (c2 := 5) (c3 := 6) (by decide) (by decide) (by decide) (by decide)
    (by decide) (by decide) (by decide)
  exact ⟨e0, e1, e2, e3, o1, o2, o3, r0, h0, h⟩

/-- more revealed, reward not smaller — between ANY two reachable states of the same hidden game -/
theorem reward_mono_norm (k : Computer) (g : NormGap) (hP : P.WF) (hmin : P.Minimal)
    (h : Reach (k.run : Table α → _) g.fn P e s) (h' : Reach (k.run : Table α → _) g.fn P e' s')
    (hfull : s'.full = s.full) (hle : ∀ c, s.revealed c = true → s'.revealed c = true)
    (hcl : InClass k P.n s.full) :
    ∃ r r', e.reward g.fn = .ok r ∧ e'.reward g.fn = .ok r' ∧ r ≤ r' ∧ r' ≤ 0 :=
  reward_mono_of g.facts hmin (C09.reach_inv_real k hP h) (C09.reach_inv_real k hP h') hfull hle hcl
    trivial

example (g : NormGap) : ∃ (e e' : Env Int) (s' : Spec Int) (r r' : Int),
    Reach Computer.sa.run g.fn Ex.P3 e (Spec.init exV exV) ∧ Reach Computer.sa.run g.fn Ex.P3 e' s' ∧
    s'.revealed 5 = true ∧ e.reward g.fn = .ok r ∧ e'.reward g.fn = .ok r' ∧ r ≤ r' ∧ r' ≤ 0 := by
  have hc := Ex.exV_class .sa trivial
  obtain ⟨e0, h0⟩ := Ex.reach0 .sa g.fn exV exV
  obtain ⟨e1, o1, hs1⟩ := step_succeeds_norm .sa g Ex.P3_wf Ex.P3_min h0 hc (a := 1) (by decide)
  have h1 := Reach.step (c := 5) h0 (by decide) (by decide) hs1
  obtain ⟨r, r', a, b, c, d⟩ := reward_mono_norm .sa g Ex.P3_wf Ex.P3_min h0 h1 rfl (by simp [Spec.init]) hc
  exact ⟨e0, e1, _, r, r', h0, h1, by simp [Spec.step], a, b, c, d⟩

/-! ### C08 (environment clause): step-then-unstep restores reward and observation -/

/-- undo (`EnvUndo.env_undo` with `ComputeOK`, `KnowledgeOnly` discharged by `EnvReal` and `RowsOnly gap` by
    C07's gap facts): no assumption on the hidden game -/
theorem step_unstep_restores_norm (k : Computer) (g : NormGap) (hP : P.WF)
    (h : Reach (k.run : Table α → _) g.fn P e s) {a : Nat} {e1 e2 : Env α} {o1 o2 : StepOut α}
    (h1 : step k.run g.fn e a = .ok (e1, o1)) (h2 : unstep k.run g.fn e1 a = .ok (e2, o2)) :
    EnvEq e2 e ∧ e2.actionMasks = e.actionMasks ∧ e2.state = e.state ∧ e2.done = e.done ∧
      o2.obs = e.state ∧ o2.done = e.done ∧ o2.chosen = o1.chosen ∧ e.reward g.fn = .ok o2.reward :=
  env_undo_of g.facts (C09.reach_inv_real k hP h) h1 h2

/-- for a hidden game of the class the round trip of a valid action never raises and ends in the same abstract
    state -/
theorem roundtrip_succeeds_norm (k : Computer) (g : NormGap) (hP : P.WF) (hmin : P.Minimal)
    (h : Reach (k.run : Table α → _) g.fn P e s) (hcl : InClass k P.n s.full) {a : Nat}
    (hv : validStep P s a = true) :
    ∃ e1 o1 e2 o2, step k.run g.fn e a = .ok (e1, o1) ∧ unstep k.run g.fn e1 a = .ok (e2, o2) ∧
      Inv (k.run : Table α → _) P e2 s :=
  roundtrip_succeeds_of g.facts hmin (C09.reach_inv_real k hP h) hcl trivial hv

example (r : Nat) (g : NormGap) : ∃ (e e1 e2 : Env Int) (o1 o2 : StepOut Int),
    Reach (Computer.sam r).run g.fn Ex.P3 e (Spec.init SAMExample.v SAMExample.v) ∧
    step (Computer.sam r).run g.fn e 2 = .ok (e1, o1) ∧ unstep (Computer.sam r).run g.fn e1 2 = .ok (e2, o2) ∧
    EnvEq e2 e ∧ o2.obs = e.state ∧ e.reward g.fn = .ok o2.reward := by
  obtain ⟨e, he⟩ := Ex.reach0 (.sam r) g.fn SAMExample.v SAMExample.v
  obtain ⟨e1, o1, e2, o2, h1, h2, _⟩ :=
    roundtrip_succeeds_norm (.sam r) g Ex.P3_wf Ex.P3_min he (Ex.sam_class r) (a := 2) (by decide)
  obtain ⟨a1, _, _, _, a5, _, _, a8⟩ := step_unstep_restores_norm (.sam r) g Ex.P3_wf he h1 h2
  exact ⟨e, e1, e2, o1, o2, he, h1, h2, a1, a5, a8⟩

/-! ### the constructor; C13's hypotheses; C16 -/

/-- the constructor `ICG_Gym(…)` never raises for a registered computer when the initial knowledge contains the
    minimal information and something is left to explore — whatever the hidden game and the gap function -/
theorem mkEnvWith_succeeds_real (k : Computer) {t0 : Table α} (hn : t0.n = P.n) (hP : P.WF) (hmin : P.Minimal)
    (hex : P.explorable ≠ []) (gap : Table α → Except Err α) (f g : Nat → α) :
    ∃ e, mkEnvWith (k.run : Table α → _) t0 P.ik P.budget f g = .ok e ∧
      Reach (k.run : Table α → _) gap P e (Spec.init f g) :=
  mkEnvWith_succeeds k hn hP hmin hex gap f g

example (k : Computer) : ∃ e : Env Int, mkEnvWith k.run (Table.init 3) Ex.P3.ik Ex.P3.budget exV exV = .ok e ∧
    Reach k.run NormGap.l1.fn Ex.P3 e (Spec.init exV exV) :=
  mkEnvWith_succeeds_real k rfl Ex.P3_wf Ex.P3_min Ex.P3_ne _ exV exV

/-- C16 `linReset_spec` with `ComputeOK` discharged and success added -/
theorem linReset_real (k : Computer) (gap : Table α → Except Err α) (hP : P.WF) (hmin : P.Minimal)
    (h : Reach (k.run : Table α → _) gap P e s) (hne : P.explorable ≠ []) (f g : Nat → α) :
    ∃ e' lin, linReset (k.run : Table α → _) e f g = .ok (e', lin) ∧
      Reach (k.run : Table α → _) gap P e' (Spec.init f g) ∧ e'.linState = .ok lin := by
  obtain ⟨e', obs, hr, hreach, _⟩ := reset_real k gap hP hmin h f g
  obtain ⟨lin, h1, _, h3⟩ := C16.linReset_spec (computer_ok k) hP (C09.reach_inv_real k hP h) hne hr
  exact ⟨e', lin, h1, hreach, h3⟩

example (r : Nat) : ∃ (e e' : Env Int) (lin : List Int),
    Reach (Computer.sam r).run NormGap.linf.fn Ex.P3 e (Spec.init exV exV) ∧
    linReset (Computer.sam r).run e SAMExample.v SAMExample.v = .ok (e', lin) ∧
    Reach (Computer.sam r).run NormGap.linf.fn Ex.P3 e' (Spec.init SAMExample.v SAMExample.v) := by
  obtain ⟨e, he⟩ := Ex.reach0 (.sam r) NormGap.linf.fn exV exV
  obtain ⟨e', lin, h1, h2, _⟩ := linReset_real (.sam r) _ Ex.P3_wf Ex.P3_min he Ex.P3_ne SAMExample.v SAMExample.v
  exact ⟨e, e', lin, he, h1, h2⟩

theorem NormGap.total (g : NormGap) : GapTotal (g.fn (α := α)) := by
  cases g
  · exact gapL1_total
  · exact gapLinf_total

/-- C13's `Hyps` is a theorem for every registered computer: the solver theorems of C13 apply with no hypothesis
    on computer or gap, for well-formed minimal parameters -/
theorem hyps_norm (k : Computer) (g : NormGap) (hP : P.WF) (hmin : P.Minimal) :
    C13.Hyps (k.run : Table α → _) g.fn P :=
  C13.real_hyps_defined k g.facts.rows (C13.GapDefined.of_total g.total P) hP hmin

/-- e.g. greedy: at every reachable state with a valid action the solver succeeds, returns a valid action of
    maximal immediate reward (lowest index among those), and leaves the environment as it found it -/
theorem greedy_real_norm (k : Computer) (g : NormGap) (hP : P.WF) (hmin : P.Minimal)
    (h : Reach (k.run : Table α → _) g.fn P e s) (hne : e.validActions ≠ []) :
    ∃ e' a m, greedy k.run g.fn false e = .ok (e', a) ∧ EnvEq e' e ∧ Inv (k.run : Table α → _) P e' s ∧
      a ∈ e.validActions ∧ C13.stepReward k.run g.fn e a = some m ∧
      (∀ b ∈ e.validActions, ∀ rb, C13.stepReward k.run g.fn e b = some rb → rb ≤ m) ∧
      (∀ b ∈ e.validActions, C13.stepReward k.run g.fn e b = some m → a ≤ b) :=
  C13.greedy_spec (hyps_norm k g hP hmin) false (C09.reach_inv_real k hP h) hne

example (g : NormGap) : ∃ (e e' : Env Int) (a : Nat),
    Reach Computer.sa.run g.fn Ex.P3 e (Spec.init exV exV) ∧ greedy Computer.sa.run g.fn false e = .ok (e', a) ∧
    EnvEq e' e ∧ a ∈ e.validActions := by
  obtain ⟨e, he⟩ := Ex.reach0 .sa g.fn exV exV
  have hne := Ex.validActions_ne he
  obtain ⟨e', a, _, h1, h2, _, h4, _⟩ := greedy_real_norm .sa g Ex.P3_wf Ex.P3_min he hne
  exact ⟨e, e', a, he, h1, h2, h4⟩

/-- C16, step, end to end: for every size `k < n` and every coalition the sampler can draw the linear step
    succeeds, reveals a previously unknown explorable coalition of that size and returns the inner environment's
    reward (never positive) and done flag; the observation is the size-aggregated inner observation -/
theorem linStep_real_norm (k : Computer) (g : NormGap) (hP : P.WF) (hmin : P.Minimal)
    (h : Reach (k.run : Table α → _) g.fn P e s) (hcl : InClass k P.n s.full) {sz chosen : Nat} (hk : sz < P.n)
    (hc : chosen ∈ e.linCandidates sz) :
    ∃ (e' : Env α) (out : StepOut α) (lin : List α) (c : Nat),
      linStep k.run g.fn e sz chosen = some (.ok (e', { out with obs := lin })) ∧
      P.explorable[chosen]? = some c ∧ size c = sz ∧ s.revealed c = false ∧
      Inv (k.run : Table α → _) P e' (s.step c) ∧ out.chosen = c ∧
      e'.reward g.fn = .ok out.reward ∧ out.reward ≤ 0 ∧ out.done = e'.done ∧ e'.linState = .ok lin :=
  linStep_of g.facts hmin (C09.reach_inv_real k hP h) hcl trivial hk hc

example (g : NormGap) : ∃ (e e' : Env Int) (out : StepOut Int),
    Reach Computer.sac.run g.fn Ex.P3 e (Spec.init exV exV) ∧
    linStep Computer.sac.run g.fn e 2 1 = some (.ok (e', out)) ∧ out.chosen = 5 ∧ out.reward ≤ 0 := by
  obtain ⟨e, he⟩ := Ex.reach0 .sac g.fn exV exV
  have hc : 1 ∈ e.linCandidates 2 := Ex.linCandidate he (c := 5) (by decide) (by decide +kernel)
  obtain ⟨e', out, lin, c, h1, h2, _, _, _, h6, _, h8, _⟩ :=
    linStep_real_norm .sac g Ex.P3_wf Ex.P3_min he (Ex.exV_class .sac trivial) (sz := 2) (by decide) hc
  have hc5 : c = 5 := by
    have : Ex.P3.explorable[1]? = some 5 := by decide
    rw [this] at h2
    exact (Option.some.inj h2).symm
  exact ⟨e, e', _, he, h1, by rw [← hc5]; exact h6, h8⟩

end env_group

/-! ### the same over ordered fields, for all four gap functions (exploitability: hidden game with `v ∅ = 0`) -/

section env_field
variable [Field α] [LinearOrder α] [IsStrictOrderedRing α]
variable {k : Computer} {P : Params} {e e' : Env α} {s s' : Spec α}

theorem reward_nonpos (k : Computer) (g : Gap) (hP : P.WF) (hmin : P.Minimal)
    (h : Reach (k.run : Table α → _) g.fn P e s) (hcl : InClass k P.n s.full) (hside : g.side s.full) :
    ∃ r, e.reward g.fn = .ok r ∧ r ≤ 0 :=
  reward_nonpos_of g.facts hmin (C09.reach_inv_real k hP h) hcl hside

example (g : Gap) : ∃ e : Env Rat, Reach Computer.sa.run g.fn Ex.P3 e (Spec.init C07.exVq C07.exVq) ∧
    ∃ r, e.reward g.fn = .ok r ∧ r ≤ 0 := by
  obtain ⟨e, he⟩ := Ex.reach0 .sa g.fn C07.exVq C07.exVq
  exact ⟨e, he, reward_nonpos .sa g Ex.P3_wf Ex.P3_min he (Ex.exVq_class .sa trivial) (Ex.exVq_side g)⟩

theorem reward_zero_full (k : Computer) (g : Gap) (hP : P.WF) (hmin : P.Minimal)
    (h : Reach (k.run : Table α → _) g.fn P e s) (hside : g.side s.full)
    (hall : ∀ c ∈ P.explorable, s.revealed c = true) : e.reward g.fn = .ok 0 :=
  reward_zero_of g.facts hmin (C09.reach_inv_real k hP h) hside hall

/-- a valid step / unstep never raises, exploitability included -/
theorem step_succeeds (k : Computer) (g : Gap) (hP : P.WF) (hmin : P.Minimal)
    (h : Reach (k.run : Table α → _) g.fn P e s) (hcl : InClass k P.n s.full) (hside : g.side s.full) {a : Nat}
    (hv : validStep P s a = true) : ∃ e' out, step k.run g.fn e a = .ok (e', out) :=
  step_succeeds_of g.facts hmin (C09.reach_inv_real k hP h) hcl hside hv

theorem unstep_succeeds (k : Computer) (g : Gap) (hP : P.WF) (hmin : P.Minimal)
    (h : Reach (k.run : Table α → _) g.fn P e s) (hcl : InClass k P.n s.full) (hside : g.side s.full) {a : Nat}
    (hv : validUnstep P s a = true) : ∃ e' out, unstep k.run g.fn e a = .ok (e', out) :=
  unstep_succeeds_of g.facts hmin (C09.reach_inv_real k hP h) hcl hside hv

theorem step_reward_mono (k : Computer) (g : Gap) (hP : P.WF) (hmin : P.Minimal)
    (h : Reach (k.run : Table α → _) g.fn P e s) (hcl : InClass k P.n s.full) (hside : g.side s.full) {a : Nat}
    {out : StepOut α} (hs : step k.run g.fn e a = .ok (e', out)) :
    ∃ r, e.reward g.fn = .ok r ∧ r ≤ out.reward ∧ out.reward ≤ 0 :=
  step_reward_mono_of g.facts hmin (C09.reach_inv_real k hP h) hcl hside hs

theorem reward_mono (k : Computer) (g : Gap) (hP : P.WF) (hmin : P.Minimal)
    (h : Reach (k.run : Table α → _) g.fn P e s) (h' : Reach (k.run : Table α → _) g.fn P e' s')
    (hfull : s'.full = s.full) (hle : ∀ c, s.revealed c = true → s'.revealed c = true)
    (hcl : InClass k P.n s.full) (hside : g.side s.full) :
    ∃ r r', e.reward g.fn = .ok r ∧ e'.reward g.fn = .ok r' ∧ r ≤ r' ∧ r' ≤ 0 :=
  reward_mono_of g.facts hmin (C09.reach_inv_real k hP h) (C09.reach_inv_real k hP h') hfull hle hcl
    hside

/-- all four gaps over `Rat`: reveal coalitions 6, 3, 5 in that order; the rewards are non-decreasing, ≤ 0, and
    the last one is 0 -/
example (g : Gap) : ∃ (e0 e1 e2 e3 : Env Rat) (o1 o2 o3 : StepOut Rat) (r0 : Rat),
    Reach Computer.sa.run g.fn Ex.P3 e0 (Spec.init C07.exVq C07.exVq) ∧ e0.reward g.fn = .ok r0 ∧
    step Computer.sa.run g.fn e0 2 = .ok (e1, o1) ∧ step Computer.sa.run g.fn e1 0 = .ok (e2, o2) ∧
    step Computer.sa.run g.fn e2 1 = .ok (e3, o3) ∧
    r0 ≤ o1.reward ∧ o1.reward ≤ o2.reward ∧ o2.reward ≤ o3.reward ∧ o3.reward = 0 := by
  obtain ⟨e0, h0⟩ := Ex.reach0 .sa g.fn C07.exVq C07.exVq
  obtain ⟨e1, e2, e3, o1, o2, o3, r0, h⟩ := Ex.reveal_all g.facts .sa (Ex.exVq_class .sa trivial) (Ex.exVq_side g) h0
    (a1 := 2) (a2 := 0) (a3 := 1) (c1 := 6) (c2 := 3) (c3 := 5) (by decide) (by decide) (by decide) (by decide)
    (by decide) (by decide) (by decide)
  exact ⟨e0, e1, e2, e3, o1, o2, o3, r0, h0, h⟩

/-- step then unstep restores the environment, its observation and its reward; all four gaps, since each reads the
    rows of the table only (exploitability through the C05 identity, error behaviour included) -/
theorem step_unstep_restores (k : Computer) (g : Gap) (hP : P.WF)
    (h : Reach (k.run : Table α → _) g.fn P e s) {a : Nat} {e1 e2 : Env α} {o1 o2 : StepOut α}
    (h1 : step k.run g.fn e a = .ok (e1, o1)) (h2 : unstep k.run g.fn e1 a = .ok (e2, o2)) :
    EnvEq e2 e ∧ e2.actionMasks = e.actionMasks ∧ e2.state = e.state ∧ e2.done = e.done ∧
      o2.obs = e.state ∧ o2.done = e.done ∧ o2.chosen = o1.chosen ∧ e.reward g.fn = .ok o2.reward :=
  env_undo_of g.facts (C09.reach_inv_real k hP h) h1 h2

theorem roundtrip_succeeds (k : Computer) (g : Gap) (hP : P.WF) (hmin : P.Minimal)
    (h : Reach (k.run : Table α → _) g.fn P e s) (hcl : InClass k P.n s.full) (hside : g.side s.full) {a : Nat}
    (hv : validStep P s a = true) :
    ∃ e1 o1 e2 o2, step k.run g.fn e a = .ok (e1, o1) ∧ unstep k.run g.fn e1 a = .ok (e2, o2) ∧
      Inv (k.run : Table α → _) P e2 s :=
  roundtrip_succeeds_of g.facts hmin (C09.reach_inv_real k hP h) hcl hside hv

example (g : Gap) : ∃ (e e1 e2 : Env Rat) (o1 o2 : StepOut Rat),
    Reach Computer.sac.run g.fn Ex.P3 e (Spec.init C07.exVq C07.exVq) ∧
    step Computer.sac.run g.fn e 1 = .ok (e1, o1) ∧ unstep Computer.sac.run g.fn e1 1 = .ok (e2, o2) ∧
    EnvEq e2 e ∧ o2.obs = e.state ∧ e.reward g.fn = .ok o2.reward := by
  obtain ⟨e, he⟩ := Ex.reach0 .sac g.fn C07.exVq C07.exVq
  obtain ⟨e1, o1, e2, o2, h1, h2, _⟩ := roundtrip_succeeds .sac g Ex.P3_wf Ex.P3_min he
    (Ex.exVq_class .sac trivial) (Ex.exVq_side g) (a := 1) (by decide)
  obtain ⟨a1, _, _, _, a5, _, _, a8⟩ := step_unstep_restores .sac g Ex.P3_wf he h1 h2
  exact ⟨e, e1, e2, o1, o2, he, h1, h2, a1, a5, a8⟩

/-- which of the four gap functions never raise: all but exploitability (ValueError when N is unknown) -/
theorem gapTotal_iff (g : Gap) : GapTotal (g.fn (α := α)) ↔ g ≠ .expl := by
  constructor
  · intro h hg
    subst hg
    obtain ⟨x, hx⟩ := h { n := 0, known := fun _ => false, lo := fun _ => 0, hi := fun _ => 0 }
    have := (C05.defined_iff (α := α) _).mp ⟨x, hx⟩
    cases this
  · intro hg
    cases g
    · exact gapL1_total
    · exact gapLinf_total
    · exact gapL2sq_total
    · exact absurd rfl hg

/-- every one of the four gap functions is defined on the tables the environment hands it (tables of `P.n` players
    that know the initial coalitions, N among them): the norms never raise, exploitability is defined exactly when N
    is known (`C05.defined_iff`).  No condition on the hidden game. -/
theorem Gap.defined (g : Gap) (hmin : P.Minimal) : C13.GapDefined (g.fn (α := α)) P := by
  intro t hn hk
  cases g
  · exact gapL1_total t
  · exact gapLinf_total t
  · exact gapL2sq_total t
  · refine (C05.defined_iff t).mpr ?_
    show t.known (2 ^ t.n - 1) = true
    rw [hn]
    exact hk _ hmin.2.1

theorem hyps (k : Computer) (g : Gap) (hP : P.WF) (hmin : P.Minimal) :
    C13.Hyps (k.run : Table α → _) g.fn P :=
  C13.real_hyps_defined k g.facts.rows (g.defined hmin) hP hmin

/-- greedy and worst-greedy (`worst = true`: minimal immediate reward), all four gaps, whatever the hidden game -/
theorem greedy_real (k : Computer) (g : Gap) (worst : Bool) (hP : P.WF) (hmin : P.Minimal)
    (h : Reach (k.run : Table α → _) g.fn P e s) (hne : e.validActions ≠ []) :
    ∃ e' a m, greedy k.run g.fn worst e = .ok (e', a) ∧ EnvEq e' e ∧ Inv (k.run : Table α → _) P e' s ∧
      a ∈ e.validActions ∧ C13.stepReward k.run g.fn e a = some m ∧
      (∀ b ∈ e.validActions, ∀ rb, C13.stepReward k.run g.fn e b = some rb →
        if worst then m ≤ rb else rb ≤ m) ∧
      (∀ b ∈ e.validActions, C13.stepReward k.run g.fn e b = some m → a ≤ b) :=
  C13.greedy_spec (hyps k g hP hmin) worst (C09.reach_inv_real k hP h) hne

/-- for a hidden game of the class the immediate rewards greedy compares are all ≤ 0, and the one it picks is not
    smaller than the current reward -/
theorem greedy_reward_bounds (k : Computer) (g : Gap) (hP : P.WF) (hmin : P.Minimal)
    (h : Reach (k.run : Table α → _) g.fn P e s) (hcl : InClass k P.n s.full) (hside : g.side s.full)
    {a : Nat} {m : α} (hm : C13.stepReward k.run g.fn e a = some m) :
    ∃ r, e.reward g.fn = .ok r ∧ r ≤ m ∧ m ≤ 0 := by
  unfold C13.stepReward at hm
  cases hs : step k.run g.fn e a with
  | error x => rw [hs] at hm; cases hm
  | ok p =>
    obtain ⟨e', out⟩ := p
    rw [hs] at hm
    cases hm
    exact step_reward_mono k g hP hmin h hcl hside hs

/-- all four gaps, exploitability included, both rules (3 players over `Rat`, reference computer) -/
example (g : Gap) (worst : Bool) : ∃ (e e' : Env Rat) (a : Nat) (m r : Rat),
    Reach Computer.sa.run g.fn Ex.P3 e (Spec.init C07.exVq C07.exVq) ∧
    greedy Computer.sa.run g.fn worst e = .ok (e', a) ∧ EnvEq e' e ∧ a ∈ e.validActions ∧
    C13.stepReward Computer.sa.run g.fn e a = some m ∧ e.reward g.fn = .ok r ∧ r ≤ m ∧ m ≤ 0 := by
  obtain ⟨e, he⟩ := Ex.reach0 .sa g.fn C07.exVq C07.exVq
  have hne := Ex.validActions_ne he
  obtain ⟨e', a, m, h1, h2, _, h4, h5, _⟩ := greedy_real .sa g worst Ex.P3_wf Ex.P3_min he hne
  obtain ⟨r, hr, hrm, hm0⟩ := greedy_reward_bounds .sa g Ex.P3_wf Ex.P3_min he (Ex.exVq_class .sa trivial)
    (Ex.exVq_side g) h5
  exact ⟨e, e', a, m, r, he, h1, h2, h4, h5, hr, hrm, hm0⟩

example : ∃ (e e' : Env Rat) (a : Nat),
    Reach Computer.sac.run Gap.expl.fn Ex.P3 e (Spec.init C07.exVq C07.exVq) ∧
    greedy Computer.sac.run Gap.expl.fn false e = .ok (e', a) ∧ EnvEq e' e ∧ a ∈ e.validActions := by
  obtain ⟨e, he⟩ := Ex.reach0 .sac Gap.expl.fn C07.exVq C07.exVq
  have hne := Ex.validActions_ne he
  obtain ⟨e', a, _, h1, h2, _, h4, _⟩ := greedy_real .sac .expl false Ex.P3_wf Ex.P3_min he hne
  exact ⟨e, e', a, he, h1, h2, h4⟩

theorem linStep_real (k : Computer) (g : Gap) (hP : P.WF) (hmin : P.Minimal)
    (h : Reach (k.run : Table α → _) g.fn P e s) (hcl : InClass k P.n s.full) (hside : g.side s.full)
    {sz chosen : Nat} (hk : sz < P.n) (hc : chosen ∈ e.linCandidates sz) :
    ∃ (e' : Env α) (out : StepOut α) (lin : List α) (c : Nat),
      linStep k.run g.fn e sz chosen = some (.ok (e', { out with obs := lin })) ∧
      P.explorable[chosen]? = some c ∧ size c = sz ∧ s.revealed c = false ∧
      Inv (k.run : Table α → _) P e' (s.step c) ∧ out.chosen = c ∧
      e'.reward g.fn = .ok out.reward ∧ out.reward ≤ 0 ∧ out.done = e'.done ∧ e'.linState = .ok lin :=
  linStep_of g.facts hmin (C09.reach_inv_real k hP h) hcl hside hk hc

example (g : Gap) : ∃ (e e' : Env Rat) (out : StepOut Rat),
    Reach Computer.sa.run g.fn Ex.P3 e (Spec.init C07.exVq C07.exVq) ∧
    linStep Computer.sa.run g.fn e 2 0 = some (.ok (e', out)) ∧ out.chosen = 3 ∧ out.reward ≤ 0 := by
  obtain ⟨e, he⟩ := Ex.reach0 .sa g.fn C07.exVq C07.exVq
  have hc : 0 ∈ e.linCandidates 2 := Ex.linCandidate he (c := 3) (by decide) (by decide +kernel)
  obtain ⟨e', out, lin, c, h1, h2, _, _, _, h6, _, h8, _⟩ :=
    linStep_real .sa g Ex.P3_wf Ex.P3_min he (Ex.exVq_class .sa trivial) (Ex.exVq_side g) (sz := 2)
      (by decide) hc
  have hc3 : c = 3 := by
    have : Ex.P3.explorable[0]? = some 3 := by decide
    rw [this] at h2
    exact (Option.some.inj h2).symm
  exact ⟨e, e', _, he, h1, by rw [← hc3]; exact h6, h8⟩

end env_field

/-! ### C11: exhaustive search and best-states with the real computers and gaps -/

section search
variable {γ : Type}

theorem run_keeps_n [Add α] [Sub α] [Max α] [Min α] (k : Computer) {t t' : Table α} (h : k.run t = .ok t') :
    t'.n = t.n := run_n k t t' h

/-- C11 `search_result` for the registered computers: every number of processes, any gap function, any
    content of the scratch table — the search returns the sequential map of `seqResult` -/
theorem search_result [Add α] [Sub α] [Max α] [Min α] [Zero α] (k : Computer) (gap : Table α → Except Err γ)
    (t : Table α) (v : Nat → α) (ko : Option Nat) (procs : Nat) (hp : 0 < procs) :
    getExploitabilities k.run gap t v ko procs =
      Search.mapE (C11.seqResult k.run gap t.n v (knownOf t)) (possibleSeqs (unknownOf t) ko) :=
  C11.search_result k.run gap (run_n k) t v ko procs hp

/-- 1 worker and 3 workers agree (3 players, cached computer, l1 over `Int`) -/
example : getExploitabilities Computer.sac.run (NormGap.l1.fn (α := Int)) Ex.exT exV (some 2) 1 =
    getExploitabilities Computer.sac.run NormGap.l1.fn Ex.exT exV (some 2) 3 := by
  rw [search_result .sac _ _ _ _ 1 (by decide), search_result .sac _ _ _ _ 3 (by decide)]

end search

section search_field
variable [Field α] [LinearOrder α] [IsStrictOrderedRing α]

/-- the gap does not increase under more knowledge (C11's reference quantity `gapOfKnowledge`, real computer,
    real gap): defined for both knowledge sets, non-increasing, non-negative; from C07 -/
theorem gapOfKnowledge_mono (k : Computer) (g : Gap) {n : Nat} {v : Nat → α} {K K' : Nat → Bool}
    (hmin : MinInfo n K) (hle : KnownLe K K') (hcl : InClass k n v) (hside : g.side v) :
    ∃ x x', C11.gapOfKnowledge k.run g.fn n v K = .ok x ∧ C11.gapOfKnowledge k.run g.fn n v K' = .ok x' ∧
      x' ≤ x ∧ 0 ≤ x' :=
  gapOfKnowledge_mono_of g.facts hmin hle hcl hside

example (g : Gap) : ∃ x x', C11.gapOfKnowledge Computer.sa.run g.fn 3 C07.exVq exKnown = .ok x ∧
    C11.gapOfKnowledge Computer.sa.run g.fn 3 C07.exVq exKnown' = .ok x' ∧ x' ≤ x ∧ 0 ≤ x' :=
  gapOfKnowledge_mono .sa g exKnown_minInfo exKnown_le (Ex.exVq_class .sa trivial) (Ex.exVq_side g)

/-- the sampled games `draw 0 … draw (reps−1)` are of the class and satisfy the gap's side condition -/
def Sampled (k : Computer) (g : Gap) (n : Nat) (draw : Nat → (Nat → α)) (reps : Nat) : Prop :=
  ∀ i, i < reps → InClass k n (draw i) ∧ g.side (draw i)

theorem Sampled.sample {k : Computer} {g : Gap} {t : Table α} {draw : Nat → (Nat → α)} {reps : Nat}
    (hcl : Sampled k g t.n draw reps) (hmin : MinInfo t.n t.known) :
    Sample k g.fn g.side t ((List.range reps).map draw) :=
  ⟨g.facts, hmin, classGames_range hcl⟩

/-- C11, best-states curve non-increasing, end to end: `get_best_exploitability` with a registered computer
    and a real gap function on sampled games of the class — for every number of worker processes — succeeds, and
    its curve of mean gaps does not increase from size `s` to `s+1` as long as a coalition is left to reveal. -/
theorem best_curve (k : Computer) (g : Gap) {procs : Nat} (hp : 0 < procs) (t : Table α)
    (hmin : MinInfo t.n t.known) (draw : Nat → (Nat → α)) (maxSteps : Nat) {reps : Nat} (hreps : 0 < reps)
    (hcl : Sampled k g t.n draw reps) :
    ∃ t' b, getBestExploitability k.run g.fn t draw maxSteps reps procs = .ok (t', b) ∧
      b.length = maxSteps + 1 ∧
      ∀ s, s + 1 ≤ maxSteps → s + 1 ≤ (unknownOf t).length →
        ∃ r1 a1 r2 a2, b[s]? = some (r1, a1) ∧ b[s + 1]? = some (r2, a2) ∧ mean r2 ≤ mean r1 :=
  best_curve_of k hp t draw maxSteps hreps (hcl.sample hmin)

/-- 3 players, minimal information, 2 sampled games (both `exVq`), sets of up to 3 coalitions, 2 workers -/
example (g : Gap) : ∃ t' b, getBestExploitability Computer.sa.run g.fn (C07.exTq exKnown)
      (fun _ => C07.exVq) 3 2 2 = .ok (t', b) ∧ b.length = 4 ∧
    ∀ s, s + 1 ≤ 3 → ∃ r1 a1 r2 a2, b[s]? = some (r1, a1) ∧ b[s + 1]? = some (r2, a2) ∧ mean r2 ≤ mean r1 := by
  obtain ⟨t', b, h1, h2, h3⟩ := best_curve .sa g (procs := 2) (by decide) (C07.exTq exKnown) exKnown_minInfo
    (fun _ => C07.exVq) 3 (reps := 2) (by decide) (fun _ _ => ⟨Ex.exVq_class .sa trivial, Ex.exVq_side g⟩)
  refine ⟨t', b, h1, h2, fun s hs => h3 s hs ?_⟩
  have : (unknownOf (C07.exTq exKnown)).length = 3 := by decide
  omega

/-- C11, best-states reports the minimum and a set attaining it, end to end: the row reported for size `s` is
    `colOf … q`, the vector of the real gaps of the reported set `q` on the sampled games, and no set of `s` unknown
    coalitions has a smaller mean gap — so no strategy evaluated on those games is better at step `s` -/
theorem best_states_min (k : Computer) (g : Gap) {procs : Nat} (hp : 0 < procs) (t : Table α)
    (hmin : MinInfo t.n t.known) (draw : Nat → (Nat → α)) (maxSteps : Nat) {reps : Nat} (hreps : 0 < reps)
    (hcl : Sampled k g t.n draw reps) :
    ∃ t' b, getBestExploitability k.run g.fn t draw maxSteps reps procs = .ok (t', b) ∧
      ∀ s, s ≤ maxSteps → s ≤ (unknownOf t).length →
        ∃ q, q.Sublist (unknownOf t) ∧ q.length = s ∧
          b[s]? = some (colOf k g.fn t ((List.range reps).map draw) q, q) ∧
          List.Forall₂ (fun v x => C11.gapOfKnowledge k.run g.fn t.n v (Kof (knownOf t) q) = .ok x ∧ 0 ≤ x)
            ((List.range reps).map draw) (colOf k g.fn t ((List.range reps).map draw) q) ∧
          ∀ q', q'.Sublist (unknownOf t) → q'.length = s →
            mean (colOf k g.fn t ((List.range reps).map draw) q) ≤
              mean (colOf k g.fn t ((List.range reps).map draw) q') :=
  best_min_of k hp t draw maxSteps hreps (hcl.sample hmin)

example (g : Gap) : ∃ t' b, getBestExploitability Computer.sac.run g.fn (C07.exTq exKnown)
      (fun _ => C07.exVq) 2 1 3 = .ok (t', b) ∧
    ∃ q, q.Sublist [3, 5, 6] ∧ q.length = 2 ∧
      b[2]? = some (colOf Computer.sac g.fn (C07.exTq exKnown) [C07.exVq] q, q) := by
  obtain ⟨t', b, h1, h2⟩ := best_states_min .sac g (procs := 3) (by decide) (C07.exTq exKnown) exKnown_minInfo
    (fun _ => C07.exVq) 2 (reps := 1) (by decide) (fun _ _ => ⟨Ex.exVq_class .sac trivial, Ex.exVq_side g⟩)
  have hu : unknownOf (C07.exTq exKnown) = [3, 5, 6] := by decide
  obtain ⟨q, a1, a2, a3, _⟩ := h2 2 (by decide) (by rw [hu]; decide)
  rw [hu] at a1
  exact ⟨t', b, h1, q, a1, a2, a3⟩

/-! ### C13: the expected-greedy search with the real computers and gaps -/

/-- expected greedy: curve non-increasing.  `order` is the iteration order of the Python set (any permutation). -/
theorem greedy_curve (k : Computer) (g : Gap) {procs : Nat} (hp : 0 < procs)
    (order : List Nat → List Nat → List Nat) (hperm : ∀ acts s, (order acts s).Perm s) (t : Table α)
    (hmin : MinInfo t.n t.known) (draw : Nat → (Nat → α)) {reps : Nat} (hcl : Sampled k g t.n draw reps)
    (explorable : List Nat) (maxSteps : Nat) (rows : List (List α)) (acts : List Nat)
    (h : expectedGreedy k.run g.fn order t ((List.range reps).map draw) explorable maxSteps procs =
      .ok (rows, acts)) :
    ∀ i, i < maxSteps → ∃ r1 r2, rows[i]? = some r1 ∧ rows[i + 1]? = some r2 ∧ mean r2 ≤ mean r1 :=
  greedy_curve_of k hp order hperm t _ (hcl.sample hmin) explorable maxSteps rows acts h

/-- expected greedy: never below the exhaustive optimum, equal for 0 and 1 reveals; `b` is what
    `get_best_exploitability` returns on the same sampled games (any two process counts) -/
theorem greedy_ge_best (k : Computer) (g : Gap) {procs procs' : Nat} (hp : 0 < procs) (hp' : 0 < procs')
    (order : List Nat → List Nat → List Nat) (hperm : ∀ acts s, (order acts s).Perm s) (t : Table α)
    (hmin : MinInfo t.n t.known) (draw : Nat → (Nat → α)) (maxSteps : Nat) {reps : Nat} (hreps : 0 < reps)
    (hcl : Sampled k g t.n draw reps) (rows : List (List α)) (acts : List Nat)
    (h : expectedGreedy k.run g.fn order t ((List.range reps).map draw) (unknownOf t) maxSteps procs =
      .ok (rows, acts)) :
    ∃ t' b, getBestExploitability k.run g.fn t draw maxSteps reps procs' = .ok (t', b) ∧
      (∀ i, i ≤ maxSteps → ∃ rg rb ab, rows[i]? = some rg ∧ b[i]? = some (rb, ab) ∧ mean rb ≤ mean rg) ∧
      (∀ i, i ≤ maxSteps → i ≤ 1 →
        ∃ rg rb ab, rows[i]? = some rg ∧ b[i]? = some (rb, ab) ∧ mean rb = mean rg) :=
  greedy_ge_best_of k hp hp' order hperm t draw maxSteps hreps (hcl.sample hmin) rows acts h

/-- the hypotheses are satisfiable: whenever the search on the 3-player game returns, its curve is non-increasing
    and dominated by best-states (that it does return for `maxSteps ≤` number of explorable coalitions is the
    AxisError domain note of `ExpectedGreedy`) -/
example (g : Gap) (rows : List (List Rat)) (acts : List Nat)
    (h : expectedGreedy Computer.sac.run g.fn ExpectedGreedy.demoOrder (C07.exTq exKnown)
      ((List.range 2).map (fun _ => C07.exVq)) (unknownOf (C07.exTq exKnown)) 3 1 = .ok (rows, acts)) :
    (∀ i, i < 3 → ∃ r1 r2, rows[i]? = some r1 ∧ rows[i + 1]? = some r2 ∧ mean r2 ≤ mean r1) ∧
    ∃ t' b, getBestExploitability Computer.sac.run g.fn (C07.exTq exKnown) (fun _ => C07.exVq) 3 2 4 = .ok (t', b) ∧
      ∀ i, i ≤ 3 → ∃ rg rb ab, rows[i]? = some rg ∧ b[i]? = some (rb, ab) ∧ mean rb ≤ mean rg := by
  have hs : Sampled .sac g (C07.exTq exKnown).n (fun _ => C07.exVq) 2 :=
    fun _ _ => ⟨Ex.exVq_class .sac trivial, Ex.exVq_side g⟩
  have hperm : ∀ acts s, (ExpectedGreedy.demoOrder acts s).Perm s := fun _ s => List.reverse_perm s
  refine ⟨greedy_curve .sac g (by decide) _ hperm _ exKnown_minInfo _ hs _ 3 rows acts h, ?_⟩
  obtain ⟨t', b, h1, h2, _⟩ := greedy_ge_best .sac g (procs' := 4) (by decide) (by decide) _ hperm _
    exKnown_minInfo _ 3 (by decide) hs rows acts h
  exact ⟨t', b, h1, h2⟩

end search_field

/-! ### the theorems are about the functions the native driver runs

They specialise — by unification alone — to the model instantiated with core `Rat`'s own instances. -/

example (k : Computer) (g : Gap) (P : Params) (hP : P.WF) (hmin : P.Minimal) (e : Env Rat) (s : Spec Rat)
    (h : @Reach Rat ⟨0⟩ Rat.instNeg Rat.instSub instDecidableEqRat
      (@Computer.run Rat Rat.instAdd Rat.instSub Rat.instMax Rat.instMin k)
      (@Gap.fn Rat Rat.instAdd Rat.instSub Rat.instMul Rat.instDiv ⟨0⟩ ⟨1⟩ Rat.instNatCast Rat.instMax Rat.instNeg g)
      P e s)
    (hcl : InClass k P.n s.full) (hside : g.side s.full) :
    ∃ r, @Env.reward Rat Rat.instNeg
      (@Gap.fn Rat Rat.instAdd Rat.instSub Rat.instMul Rat.instDiv ⟨0⟩ ⟨1⟩ Rat.instNatCast Rat.instMax Rat.instNeg g)
      e = .ok r ∧ r ≤ 0 :=
  reward_nonpos k g hP hmin h hcl hside

/-! ### the l2 norm itself, over the reals (`Props/C07L2`) -/

section real

/-- `l2_norm(game)` = `np.linalg.norm(upper − lower, 2)`, over ℝ -/
noncomputable def gapL2 (t : Table ℝ) : Except Err ℝ := .ok (C07.l2 t.n t.lo t.hi)

theorem gapL2_facts : GapFacts gapL2 (fun _ => True) :=
  GapFacts.of_norm C07.l2 (fun hw _ => by simp only [C07.l2, l2sq, hw]) C07.nonneg_l2
    (fun h => Real.sqrt_le_sqrt (GapMono.l2sq_mono h)) (fun h => by simp only [C07.l2, GapMono.l2sq_zero h, Real.sqrt_zero])

variable {k : Computer} {P : Params} {e e' : Env ℝ} {s : Spec ℝ}

theorem reward_nonpos_l2 (k : Computer) (hP : P.WF) (hmin : P.Minimal)
    (h : Reach (k.run : Table ℝ → _) gapL2 P e s) (hcl : InClass k P.n s.full) :
    ∃ r, e.reward gapL2 = .ok r ∧ r ≤ 0 :=
  reward_nonpos_of gapL2_facts hmin (C09.reach_inv_real k hP h) hcl trivial

theorem reward_zero_full_l2 (k : Computer) (hP : P.WF) (hmin : P.Minimal)
    (h : Reach (k.run : Table ℝ → _) gapL2 P e s) (hall : ∀ c ∈ P.explorable, s.revealed c = true) :
    e.reward gapL2 = .ok 0 :=
  reward_zero_of gapL2_facts hmin (C09.reach_inv_real k hP h) trivial hall

theorem step_reward_mono_l2 (k : Computer) (hP : P.WF) (hmin : P.Minimal)
    (h : Reach (k.run : Table ℝ → _) gapL2 P e s) (hcl : InClass k P.n s.full) {a : Nat} {out : StepOut ℝ}
    (hs : step k.run gapL2 e a = .ok (e', out)) :
    ∃ r, e.reward gapL2 = .ok r ∧ r ≤ out.reward ∧ out.reward ≤ 0 :=
  step_reward_mono_of gapL2_facts hmin (C09.reach_inv_real k hP h) hcl trivial hs

theorem step_unstep_restores_l2 (k : Computer) (hP : P.WF)
    (h : Reach (k.run : Table ℝ → _) gapL2 P e s) {a : Nat} {e1 e2 : Env ℝ} {o1 o2 : StepOut ℝ}
    (h1 : step k.run gapL2 e a = .ok (e1, o1)) (h2 : unstep k.run gapL2 e1 a = .ok (e2, o2)) :
    EnvEq e2 e ∧ o2.obs = e.state ∧ e.reward gapL2 = .ok o2.reward := by
  obtain ⟨a1, _, _, _, a5, _, _, a8⟩ := env_undo_of gapL2_facts (C09.reach_inv_real k hP h) h1 h2
  exact ⟨a1, a5, a8⟩

theorem sample_l2 {k : Computer} {t : Table ℝ} {draw : Nat → (Nat → ℝ)} {reps : Nat}
    (hcl : ∀ i, i < reps → InClass k t.n (draw i)) (hmin : MinInfo t.n t.known) :
    Sample k gapL2 (fun _ => True) t ((List.range reps).map draw) :=
  ⟨gapL2_facts, hmin, classGames_range fun i hi => ⟨hcl i hi, trivial⟩⟩

theorem best_curve_l2 (k : Computer) {procs : Nat} (hp : 0 < procs) (t : Table ℝ)
    (hmin : MinInfo t.n t.known) (draw : Nat → (Nat → ℝ)) (maxSteps : Nat) {reps : Nat} (hreps : 0 < reps)
    (hcl : ∀ i, i < reps → InClass k t.n (draw i)) :
    ∃ t' b, getBestExploitability k.run gapL2 t draw maxSteps reps procs = .ok (t', b) ∧
      b.length = maxSteps + 1 ∧
      ∀ s, s + 1 ≤ maxSteps → s + 1 ≤ (unknownOf t).length →
        ∃ r1 a1 r2 a2, b[s]? = some (r1, a1) ∧ b[s + 1]? = some (r2, a2) ∧ mean r2 ≤ mean r1 :=
  best_curve_of k hp t draw maxSteps hreps (sample_l2 hcl hmin)

theorem greedy_curve_l2 (k : Computer) {procs : Nat} (hp : 0 < procs)
    (order : List Nat → List Nat → List Nat) (hperm : ∀ acts s, (order acts s).Perm s) (t : Table ℝ)
    (hmin : MinInfo t.n t.known) (draw : Nat → (Nat → ℝ)) {reps : Nat}
    (hcl : ∀ i, i < reps → InClass k t.n (draw i))
    (explorable : List Nat) (maxSteps : Nat) (rows : List (List ℝ)) (acts : List Nat)
    (h : expectedGreedy k.run gapL2 order t ((List.range reps).map draw) explorable maxSteps procs =
      .ok (rows, acts)) :
    ∀ i, i < maxSteps → ∃ r1 r2, rows[i]? = some r1 ∧ rows[i + 1]? = some r2 ∧ mean r2 ≤ mean r1 :=
  greedy_curve_of k hp order hperm t _ (sample_l2 hcl hmin) explorable maxSteps rows acts h

example : ∃ (e e1 : Env ℝ) (o1 : StepOut ℝ) (r : ℝ),
    Reach Computer.sa.run gapL2 Ex.P3 e (Spec.init C07.exVr C07.exVr) ∧ e.reward gapL2 = .ok r ∧
    step Computer.sa.run gapL2 e 0 = .ok (e1, o1) ∧ r ≤ o1.reward ∧ o1.reward ≤ 0 := by
  have hc : InClass .sa 3 C07.exVr := ⟨C07.exVr_SA, fun h => h.elim⟩
  obtain ⟨e, he⟩ := Ex.reach0 .sa gapL2 C07.exVr C07.exVr
  obtain ⟨e1, o1, hs⟩ := step_succeeds_of gapL2_facts Ex.P3_min (C09.reach_inv_real .sa Ex.P3_wf he) hc
    trivial (a := 0) (by decide)
  obtain ⟨r, h1, h2, h3⟩ := step_reward_mono_l2 .sa Ex.P3_wf Ex.P3_min he hc hs
  exact ⟨e, e1, o1, r, he, h1, hs, h2, h3⟩

example : ∃ t' b, getBestExploitability Computer.sac.run gapL2 (C07.exTr exKnown) (fun _ => C07.exVr) 2 1 1 =
    .ok (t', b) ∧ b.length = 3 :=
  let ⟨t', b, h1, h2, _⟩ := best_curve_l2 .sac (procs := 1) (by decide) (C07.exTr exKnown) exKnown_minInfo
    (fun _ => C07.exVr) 2 (reps := 1) (by decide) (fun _ _ => ⟨C07.exVr_SA, fun h => h.elim⟩)
  ⟨t', b, h1, h2⟩

end real

end ICG.Compose

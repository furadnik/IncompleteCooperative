/-
  Property C06 — the Shapley value.

  "For every complete game (any real values with v(∅) = 0) the computed Shapley value of each player
   equals the average of that player's marginal contribution over all orderings of the players.
   Consequently the values sum to the grand coalition's value, relabelling players permutes them, null
   players get zero, and the result is linear in the game; the single-player and all-players entry
   points return the same numbers."

  Theorems about ICG.Model.Shapley, for every `n` and every field of characteristic 0 (only `efficiency` uses the
  characteristic).  A `Game` is its `get_values` callable `g`; `Answers n g v`: `g` answers with the values of `v` on
  the coalitions of the `n`-player game (`completeGame v`, or the fully known table: `answers_table`).  None of the
  theorems needs `v ∅ = 0`.
-/
import ICG.Lemmas.ShapleyBridge
import ICG.Lemmas.ShapleyOrderings
import ICG.Lemmas.ShapleySymmetry
import Mathlib.Algebra.Order.Ring.Rat

set_option linter.unusedSectionVars false

namespace ICG.C06
open ICG Finset

variable {α : Type} [Field α] [CharZero α]

/-- the value table with every coalition known is a complete game (its values are the upper column) -/
theorem answers_table {β : Type} (t : Table β) (hfull : ∀ c, c < 2 ^ t.n → t.known c = true) :
    Answers t.n t.gameValues t.hi :=
  fun _ hl => Norm.getValues_known t (fun c hc => ⟨hl c hc, hfull c (hl c hc)⟩)

/-- both entry points succeed on a complete game and return the closed form `phi n v i` -/
theorem computes (n : Nat) (g : GetValues α) (v : Nat → α) (hg : Answers n g v) :
    shapley n g = .ok ((List.range n).map (phi n v)) ∧
    ∀ i, i < n → shapleyForPlayer n g i = .ok (phi n v i) :=
  ⟨shapley_ok n g v hg, fun _ hi => shapleyForPlayer_ok hi g v hg⟩

/-- the all-players generator is the single-player function mapped over the players — for every game,
    raising ones included (core classes only). -/
theorem entry_points {β : Type} [Add β] [Sub β] [Mul β] [Div β] [Zero β] [NatCast β]
    (n : Nat) (g : GetValues β) :
    shapley n g = mapE (shapleyForPlayer n g) (List.range n) := by
  unfold shapley shapleyForPlayer
  congr 1
  funext i
  rw [fromPlayers_singleton]
  rfl

/-- an incomplete table: `compute_shapley_value` raises when some coalition is unknown (`n ≥ 1`); the error is the
    ValueError of `get_values`, the statement only says that there is one -/
theorem raises_on_unknown (t : Table α) (hn : 0 < t.n) (c : Nat) (hc : c < 2 ^ t.n)
    (hunk : t.known c = false) : ∃ e, t.shapley = .error e := by
  -- player 0 asks for every coalition: those without it, then those with it
  have hcore : ∃ e, shapleyCore t.n t.gameValues (singleton 0) (contributions t.n) (fact t.n) = .error e := by
    unfold shapleyCore
    rw [Norm.singleton_eq, fromiter_exclude hn]
    by_cases hb : c.testBit 0 = true
    · have hbad := gameValues_unknown t (ids := (excludeCoalition (2 ^ 0) (allCoalitions t.n)).map (· ||| 2 ^ 0))
        (fun d hd => by
          obtain ⟨e, he, rfl⟩ := List.mem_map.mp hd
          exact setBit_lt hn (mem_exclude.mp he).1)
        (List.mem_map.mpr ⟨_, mem_exclude.mpr ⟨clear_lt hn hc, testBit_clear_self hb⟩, set_clear hb⟩) hunk
      cases hwo : t.gameValues (excludeCoalition (2 ^ 0) (allCoalitions t.n)) with
      | error e => exact ⟨e, by simp only [bind, Except.bind, hwo]⟩
      | ok a => exact ⟨.value, by simp only [bind, Except.bind, hwo, hbad]⟩
    · have hbad := gameValues_unknown t (fun d hd => (mem_exclude.mp hd).1)
        (mem_exclude.mpr ⟨hc, Bool.eq_false_iff.mpr hb⟩) hunk
      exact ⟨.value, by simp only [bind, Except.bind, hbad]⟩
  obtain ⟨e, he⟩ := hcore
  obtain ⟨m, hm⟩ : ∃ m, t.n = m + 1 := ⟨t.n - 1, by omega⟩
  refine ⟨e, ?_⟩
  unfold Table.shapley shapley
  rw [hm, List.range_succ_eq_map, mapE, ← hm, he]
/-- efficiency: the values sum to `v(N) − v(∅)` -/
theorem efficiency (n : Nat) (g : GetValues α) (v : Nat → α) (hg : Answers n g v) :
    ∃ l, shapley n g = .ok l ∧ l.sum = v (grand n) - v 0 := by
  refine ⟨_, shapley_ok n g v hg, ?_⟩
  rw [← listSum_eq_sum, listSum_map_range, phi_efficiency]

/-- a null player (never changes the value of a coalition it joins) gets zero -/
theorem null_player {β : Type} [Field β] {n i : Nat} (hi : i < n) (g : GetValues β) (v : Nat → β)
    (hg : Answers n g v)
    (hnull : ∀ S, S < 2 ^ n → S.testBit i = false → v (S ||| 2 ^ i) = v S) :
    shapleyForPlayer n g i = .ok 0 := by
  rw [shapleyForPlayer_ok hi g v hg, phi_null v hnull]

/-- linear in the game -/
theorem linear {n i : Nat} (hi : i < n) (a : α) (v w : Nat → α) :
    ∃ x y z, shapleyForPlayer n (completeGame v) i = .ok x ∧
             shapleyForPlayer n (completeGame w) i = .ok y ∧
             shapleyForPlayer n (completeGame (fun c => a * v c + w c)) i = .ok z ∧
             z = a * x + y :=
  ⟨_, _, _, shapleyForPlayer_ok hi _ _ (answers_complete n v),
    shapleyForPlayer_ok hi _ _ (answers_complete n w),
    shapleyForPlayer_ok hi _ _ (answers_complete n _), phi_linear n i a v w⟩

/-- C06: on a complete game the computed Shapley value of player `i` is the average of `i`'s marginal
    contribution `v(pred ∪ {i}) − v(pred)` over all `n!` orderings of the players.
    (`shapleyOrd`, `marginal`, `predMask` are defined at the top of Lemmas/ShapleyOrderings.) -/
theorem orderings {n i : Nat} (hi : i < n) (g : GetValues α) (v : Nat → α) (hg : Answers n g v) :
    shapleyForPlayer n g i = .ok (shapleyOrd n v i) := by
  rw [shapleyForPlayer_ok hi g v hg, phi_eq_shapleyOrd hi]

theorem orderings_all {β : Type} [Field β] (n : Nat) (g : GetValues β) (v : Nat → β) (hg : Answers n g v) :
    shapley n g = .ok ((List.range n).map (shapleyOrd n v)) := by
  rw [shapley_ok n g v hg]
  congr 1
  apply List.map_congr_left
  intro i hi
  exact phi_eq_shapleyOrd (List.mem_range.mp hi) v

/-- the same with the executable enumeration `ICG.orderings` of Lemmas/ShapleyOrderings (first-element recursion) in
    place of Mathlib's `List.permutations` -/
theorem orderings_exec {n i : Nat} (hi : i < n) (g : GetValues α) (v : Nat → α) (hg : Answers n g v) :
    shapleyForPlayer n g i = .ok (shapleyOrdE n v i) := by
  rw [shapleyOrdE_eq]; exact orderings hi g v hg

/-- the orderings summed over are all of them, each once, `n!` in total -/
theorem orderings_complete (n : Nat) :
    (∀ σ : List Nat, σ ∈ (List.range n).permutations ↔ σ.Perm (List.range n)) ∧
    (List.range n).permutations.Nodup ∧ (List.range n).permutations.length = n.factorial :=
  ⟨fun _ => List.mem_permutations, List.nodup_permutations _ List.nodup_range, by
    rw [List.length_permutations, List.length_range]⟩

/-- the game `v` with player `j` renamed `σ j` -/
def relabel {n : Nat} (σ : Equiv.Perm (Fin n)) (v : Nat → α) : Nat → α := fun c => v (permMask σ.symm c)

theorem relabel_spec {β : Type} {n : Nat} (σ : Equiv.Perm (Fin n)) (v : Nat → β) (c : Nat) (hc : c < 2 ^ n) :
    relabel σ v (permMask σ c) = v c := by
  unfold relabel; rw [permMask_symm_permMask σ hc]

/-- for any permutation `σ` of the players: if `v'` is `v` relabelled by `σ`, player `σ i` gets in `v'`
    what player `i` gets in `v`. -/
theorem symmetry {n : Nat} (σ : Equiv.Perm (Fin n)) (v v' : Nat → α)
    (hv : ∀ c, c < 2 ^ n → v' (permMask σ c) = v c) (i : Fin n) :
    ∃ x, shapleyForPlayer n (completeGame v) i = .ok x ∧
         shapleyForPlayer n (completeGame v') (σ i) = .ok x :=
  ⟨_, shapleyForPlayer_ok i.isLt _ _ (answers_complete n v), by
    rw [shapleyForPlayer_ok (σ i).isLt _ _ (answers_complete n v'), phi_perm σ v v' hv i]⟩

theorem symmetry_relabel {n : Nat} (σ : Equiv.Perm (Fin n)) (v : Nat → α) (i : Fin n) :
    ∃ x, shapleyForPlayer n (completeGame v) i = .ok x ∧
         shapleyForPlayer n (completeGame (relabel σ v)) (σ i) = .ok x :=
  symmetry σ v (relabel σ v) (relabel_spec σ v) i

/-! ### a concrete 3-player instance -/

/-- v = (0, 1, 2, 6, 3, 4, 8, 12) on ∅,{0},{1},{0,1},{2},{0,2},{1,2},N -/
def exV : Nat → Rat := fun c => [0, 1, 2, 6, 3, 4, 8, 12].getD c 0

example : (List.range 3).permutations = [[0, 1, 2], [1, 0, 2], [2, 1, 0], [1, 2, 0], [2, 0, 1], [0, 2, 1]] := by
  simp [List.range_succ, List.permutations, List.permutationsAux_cons, List.permutationsAux_nil,
    List.permutationsAux2]
example : predMask [2, 0, 1] 0 = 4 ∧ predMask [2, 0, 1] 1 = 5 ∧ predMask [2, 0, 1] 2 = 0 := by decide +kernel
example : marginal exV [2, 0, 1] 1 = 8 := by decide +kernel
example : shapley 3 (completeGame exV) = .ok [5 / 2, 5, 9 / 2] := by decide +kernel
example : shapleyForPlayer 3 (completeGame exV) 1 = .ok 5 := by decide +kernel
example : ([[0, 1, 2], [1, 0, 2], [2, 1, 0], [1, 2, 0], [2, 0, 1], [0, 2, 1]].map (fun σ => marginal exV σ 1)).sum
    = 5 * 6 := by decide +kernel
example : ICG.orderings (List.range 3) = [[0, 1, 2], [0, 2, 1], [1, 0, 2], [1, 2, 0], [2, 0, 1], [2, 1, 0]] := by
  decide +kernel
example : shapleyOrdE 3 exV 0 = 5 / 2 ∧ shapleyOrdE 3 exV 1 = 5 ∧ shapleyOrdE 3 exV 2 = 9 / 2 := by
  decide +kernel
/-- a null player: player 2 never adds anything -/
example : ∀ S, S < 2 ^ 3 → S.testBit 2 = false →
    (fun c => ([0, 1, 2, 6, 0, 1, 2, 6].getD c 0 : Rat)) (S ||| 2 ^ 2)
      = (fun c => ([0, 1, 2, 6, 0, 1, 2, 6].getD c 0 : Rat)) S := by decide +kernel
/-- a relabelling: swap players 0 and 2 -/
example : (List.range 8).map (permMask (Equiv.swap (0 : Fin 3) 2)) = [0, 4, 2, 6, 1, 5, 3, 7] := by
  decide +kernel
/-- an incomplete table -/
example : ({ n := 3, known := fun c => c != 5, lo := exV, hi := exV } : Table Rat).shapley = .error .value := by
  decide +kernel
def exFull : Table Rat := { n := 3, known := fun _ => true, lo := exV, hi := exV }
example : Answers exFull.n exFull.gameValues exFull.hi := answers_table exFull (fun _ _ => rfl)

/-! ### the theorems above at the functions the native driver runs (`ICG.AtRat.*`: core `Rat`, core's instances) -/

theorem orderings_atRat {n i : Nat} (hi : i < n) (v : Nat → Rat) :
    AtRat.shapleyForPlayer n v i = .ok (shapleyOrd n v i) := orderings hi _ v (answers_complete n v)

theorem orderings_all_atRat (n : Nat) (v : Nat → Rat) :
    AtRat.shapley n v = .ok ((List.range n).map (shapleyOrd n v)) := orderings_all n _ v (answers_complete n v)

theorem orderings_table_atRat (t : Table Rat) (hfull : ∀ c, c < 2 ^ t.n → t.known c = true) :
    AtRat.tableShapley t = .ok ((List.range t.n).map (shapleyOrd t.n t.hi)) :=
  orderings_all t.n _ t.hi (answers_table t hfull)

theorem efficiency_atRat (n : Nat) (v : Nat → Rat) :
    ∃ l, AtRat.shapley n v = .ok l ∧ l.sum = v (grand n) - v 0 := efficiency n _ v (answers_complete n v)

theorem null_player_atRat {n i : Nat} (hi : i < n) (v : Nat → Rat)
    (hnull : ∀ S, S < 2 ^ n → S.testBit i = false → v (S ||| 2 ^ i) = v S) :
    AtRat.shapleyForPlayer n v i = .ok 0 := null_player hi _ v (answers_complete n v) hnull

theorem linear_atRat {n i : Nat} (hi : i < n) (a : Rat) (v w : Nat → Rat) :
    ∃ x y z, AtRat.shapleyForPlayer n v i = .ok x ∧ AtRat.shapleyForPlayer n w i = .ok y ∧
             AtRat.shapleyForPlayer n (fun c => a * v c + w c) i = .ok z ∧ z = a * x + y :=
  linear hi a v w

theorem symmetry_atRat {n : Nat} (σ : Equiv.Perm (Fin n)) (v v' : Nat → Rat)
    (hv : ∀ c, c < 2 ^ n → v' (permMask σ c) = v c) (i : Fin n) :
    ∃ x, AtRat.shapleyForPlayer n v i = .ok x ∧ AtRat.shapleyForPlayer n v' (σ i) = .ok x :=
  symmetry σ v v' hv i

theorem entry_points_atRat (n : Nat) (v : Nat → Rat) :
    AtRat.shapley n v = mapE (AtRat.shapleyForPlayer n v) (List.range n) := entry_points n _

end ICG.C06

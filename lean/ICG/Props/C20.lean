/-
  Property C20 — crash atomicity of saving a result.
  "If the process dies or is interrupted at any point while a result is being saved, the results file
   afterwards is either exactly the previous file or the complete new file."

  Theorems about the file-system model of ICG.Model.Store (part 2; DESIGN 3.7): paths ↦ bytes, a save is
  the list of file-system operations OBSERVED from the running `save_json` (harness/corr_store.py), a
  crash is "only the first k operations happened" (`crashAfter k`).
  Assumed, not proved (DESIGN 3.7 / 4): POSIX `rename` is atomic; a completed `write` is visible after
  the process dies; the path-based reading of descriptor operations is exact as long as no descriptor
  outlives a rename of its path — which the discipline demands ("nothing names the temporary after the
  rename", "the temporary is closed before").

  `atomic` / `atomic_new_complete`: under the discipline `Atomic p ops` the content of `p` after the first k operations
  is the old one or the complete new one; `atomicB_sound`: the Bool checker the driver evaluates implies the
  discipline; `truncate_not_atomic`: truncate-then-write (`open(path, "w")` on the target itself, then dump) has a
  crash point at which `p` is neither.
-/
import ICG.Model.Store

namespace ICG.C20
open ICG.Store

/-! ### the discipline as a proposition -/

/-- after the temporary was created: only writes / fsyncs to it and operations that do not name it, then
    its `close`, then nothing that names it -/
def WrittenClosed (src : String) (l : List FsOp) : Prop :=
  ∃ w b, l = w ++ FsOp.close src :: b ∧
    (∀ op ∈ w, (∃ c, op = FsOp.write src c) ∨ op = FsOp.fsync src ∨ op.mentions src = false) ∧
    (∀ op ∈ b, op.mentions src = false)

/-- somewhere in `pre` the temporary is created afresh, then fully written and closed -/
def Ready (src : String) (pre : List FsOp) : Prop :=
  ∃ a opn l, pre = a ++ opn :: l ∧ (opn = FsOp.openTrunc src ∨ opn = FsOp.openExcl src) ∧ WrittenClosed src l

/-- the target path is never opened for writing nor written; it changes only by one rename from a
    temporary that was fully written and closed, and nothing touches the target or names that temporary
    after the rename.  (Or nothing touches the target at all: the early return of `save_json`.) -/
def Atomic (t : String) (ops : List FsOp) : Prop :=
  (∀ op ∈ ops, op.touches t = false) ∨
  ∃ pre src post, ops = pre ++ FsOp.rename src t :: post ∧ src ≠ t ∧
    (∀ op ∈ pre, op.touches t = false) ∧ Ready src pre ∧
    (∀ op ∈ post, op.touches t = false ∧ op.mentions src = false)

/-- all bytes written to `src` by the operations of `l`, in order -/
def writtenTo (src : String) (l : List FsOp) : String :=
  l.foldl (fun acc op => match op with
    | .write p c => if p = src then acc ++ c else acc
    | _ => acc) ""

theorem run_nil (fs : Fs) : run [] fs = fs := rfl
theorem run_cons (op : FsOp) (ops : List FsOp) (fs : Fs) : run (op :: ops) fs = run ops (op.apply fs) := rfl
theorem run_append (a b : List FsOp) (fs : Fs) : run (a ++ b) fs = run b (run a fs) := by
  simp [run, List.foldl_append]

theorem not_touches_of_not_mentions (t : String) (op : FsOp) (h : op.mentions t = false) : op.touches t = false := by
  cases op with
  | openRead _ | close _ | fsync _ => rfl
  | _ => exact h

theorem Fs.set_ne (fs : Fs) {p q : String} (v : Option String) (h : q ≠ p) : fs.set p v q = fs q := if_neg h

theorem apply_untouched (fs : Fs) (op : FsOp) (t : String) (h : op.touches t = false) :
    (op.apply fs) t = fs t := by
  cases op with
  | openRead p | close p | fsync p | other p => rfl
  | openTrunc p | unlink p => exact Fs.set_ne fs _ (Ne.symm (beq_eq_false_iff_ne.mp h))
  | openExcl p | openKeep p =>
    dsimp only [FsOp.apply]
    cases fs p with
    | none => exact Fs.set_ne fs _ (Ne.symm (beq_eq_false_iff_ne.mp h))
    | some _ => rfl
  | write p c =>
    dsimp only [FsOp.apply]
    cases fs p with
    | none => rfl
    | some _ => exact Fs.set_ne fs _ (Ne.symm (beq_eq_false_iff_ne.mp h))
  | rename s d =>
    simp only [FsOp.touches, Bool.or_eq_false_iff, beq_eq_false_iff_ne, ne_eq] at h
    dsimp only [FsOp.apply]
    cases fs s with
    | none => rfl
    | some _ => exact (if_neg (Ne.symm h.2)).trans (if_neg (Ne.symm h.1))

theorem run_untouched (fs : Fs) (ops : List FsOp) (t : String) (h : ∀ op ∈ ops, op.touches t = false) :
    (run ops fs) t = fs t := by
  induction ops generalizing fs with
  | nil => rfl
  | cons op ops ih =>
    rw [run_cons, ih (op.apply fs) (fun o ho => h o (by simp [ho]))]
    exact apply_untouched fs op t (h op (by simp))

theorem crashAfter_zero (ops : List FsOp) (fs : Fs) : crashAfter 0 ops fs = fs := rfl

theorem crashAfter_all (ops : List FsOp) (fs : Fs) (k : Nat) (hk : ops.length ≤ k) :
    crashAfter k ops fs = run ops fs := by
  simp [crashAfter, List.take_of_length_le hk]

/-- the content at the target after `pre ++ rename src t :: tail`, `tail` not touching `t`, when the
    temporary exists: the temporary's content at rename time -/
theorem run_rename_tail (fs : Fs) (t src : String) (pre tail : List FsOp) (c : String)
    (hsrc : run pre fs src = some c) (htail : ∀ op ∈ tail, op.touches t = false) :
    run (pre ++ FsOp.rename src t :: tail) fs t = some c := by
  rw [run_append, run_cons, run_untouched _ tail t htail]
  simp [FsOp.apply, hsrc]

theorem run_rename_tail_missing (fs : Fs) (t src : String) (pre tail : List FsOp)
    (hsrc : run pre fs src = none) (hpre : ∀ op ∈ pre, op.touches t = false)
    (htail : ∀ op ∈ tail, op.touches t = false) :
    run (pre ++ FsOp.rename src t :: tail) fs t = fs t := by
  rw [run_append, run_cons, run_untouched _ tail t htail]
  simp only [FsOp.apply, hsrc]
  exact run_untouched fs pre t hpre

theorem take_split (pre : List FsOp) (x : FsOp) (post : List FsOp) (k : Nat) (hk : pre.length < k) :
    (pre ++ x :: post).take k = pre ++ x :: post.take (k - pre.length - 1) := by
  obtain ⟨j, rfl⟩ : ∃ j, k = pre.length + (j + 1) := ⟨k - pre.length - 1, by omega⟩
  rw [List.take_length_add_append, List.take_succ_cons, Nat.add_sub_cancel_left, Nat.add_sub_cancel]

theorem crashAfter_pre (pre rest : List FsOp) (fs : Fs) (t : String) (hpre : ∀ op ∈ pre, op.touches t = false)
    {k : Nat} (hk : k ≤ pre.length) : crashAfter k (pre ++ rest) fs t = fs t := by
  unfold crashAfter
  rw [List.take_append_of_le_length hk]
  exact run_untouched fs _ t (fun op ho => hpre op (List.mem_of_mem_take ho))

/-- where exactly the switch happens: up to the rename the old content, from the rename on the content
    the temporary had at rename time -/
theorem atomic_switch (t src : String) (pre post : List FsOp) (fs : Fs) (c : String)
    (hpre : ∀ op ∈ pre, op.touches t = false) (hpost : ∀ op ∈ post, op.touches t = false)
    (hsrc : run pre fs src = some c) (k : Nat) :
    (k ≤ pre.length → crashAfter k (pre ++ FsOp.rename src t :: post) fs t = fs t) ∧
    (pre.length < k → crashAfter k (pre ++ FsOp.rename src t :: post) fs t = some c) := by
  refine ⟨crashAfter_pre pre _ fs t hpre, fun hk => ?_⟩
  unfold crashAfter
  rw [take_split pre _ post k hk]
  exact run_rename_tail fs t src pre _ c hsrc (fun op ho => hpost op (List.mem_of_mem_take ho))

/-- a list that touches the target only by one rename onto it is atomic, whatever the source holds: if the source
    is missing the rename fails and nothing changes -/
theorem rename_atomic (t src : String) (pre post : List FsOp) (fs : Fs)
    (hpre : ∀ op ∈ pre, op.touches t = false) (hpost : ∀ op ∈ post, op.touches t = false) (k : Nat) :
    crashAfter k (pre ++ FsOp.rename src t :: post) fs t = fs t ∨
    crashAfter k (pre ++ FsOp.rename src t :: post) fs t = run (pre ++ FsOp.rename src t :: post) fs t := by
  by_cases hk : k ≤ pre.length
  · exact Or.inl (crashAfter_pre pre _ fs t hpre hk)
  · have hk' : pre.length < k := Nat.lt_of_not_le hk
    cases hsrc : run pre fs src with
    | some c =>
      right
      rw [(atomic_switch t src pre post fs c hpre hpost hsrc k).2 hk',
        run_rename_tail fs t src pre _ c hsrc hpost]
    | none =>
      left
      unfold crashAfter
      rw [take_split pre _ post k hk']
      exact run_rename_tail_missing fs t src pre _ hsrc hpre
        (fun op ho => hpost op (List.mem_of_mem_take ho))

/-- C20, positive part: for every operation list satisfying the discipline, every initial file
    system and every crash point k, the content of the target after the first k operations is either the
    old content or the content after the whole list (the complete new file: `atomic_new_complete`). -/
theorem atomic (t : String) (ops : List FsOp) (h : Atomic t ops) (fs : Fs) (k : Nat) :
    crashAfter k ops fs t = fs t ∨ crashAfter k ops fs t = run ops fs t := by
  rcases h with h | ⟨pre, src, post, rfl, _, hpre, _, hpost⟩
  · exact Or.inl (run_untouched fs _ t (fun op ho => h op (List.mem_of_mem_take ho)))
  · exact rename_atomic t src pre post fs hpre (fun op ho => (hpost op ho).1) k

/-! ### the new content is complete -/

theorem apply_unmentioned (fs : Fs) (op : FsOp) (t : String) (h : op.mentions t = false) :
    (op.apply fs) t = fs t := apply_untouched fs op t (not_touches_of_not_mentions t op h)

theorem run_unmentioned (fs : Fs) (ops : List FsOp) (t : String) (h : ∀ op ∈ ops, op.mentions t = false) :
    (run ops fs) t = fs t := run_untouched fs ops t (fun op ho => not_touches_of_not_mentions t op (h op ho))

def writtenAcc (src : String) (acc : String) (l : List FsOp) : String :=
  l.foldl (fun acc op => match op with
    | .write p c => if p = src then acc ++ c else acc
    | _ => acc) acc

theorem writtenTo_eq (src : String) (l : List FsOp) : writtenTo src l = writtenAcc src "" l := rfl

theorem writtenAcc_cons (src acc : String) (op : FsOp) (l : List FsOp) :
    writtenAcc src acc (op :: l) = writtenAcc src (writtenAcc src acc [op]) l := rfl

theorem writtenAcc_append (src acc : String) (a b : List FsOp) :
    writtenAcc src acc (a ++ b) = writtenAcc src (writtenAcc src acc a) b :=
  List.foldl_append

theorem writtenAcc_singleton_unmentioned (src acc : String) (op : FsOp) (h : op.mentions src = false) :
    writtenAcc src acc [op] = acc := by
  cases op with
  | write p c => exact if_neg (beq_eq_false_iff_ne.mp h)
  | _ => rfl

theorem writtenAcc_unmentioned (src acc : String) (l : List FsOp) (h : ∀ op ∈ l, op.mentions src = false) :
    writtenAcc src acc l = acc := by
  induction l with
  | nil => rfl
  | cons op l ih =>
    rw [writtenAcc_cons, writtenAcc_singleton_unmentioned src acc op (h op List.mem_cons_self)]
    exact ih fun o ho => h o (List.mem_cons_of_mem _ ho)

theorem apply_writing (src : String) (op : FsOp) (fs : Fs) (acc : String) (hfs : fs src = some acc)
    (hop : (∃ c, op = FsOp.write src c) ∨ op = FsOp.fsync src ∨ op.mentions src = false) :
    op.apply fs src = some (writtenAcc src acc [op]) := by
  rcases hop with ⟨c, rfl⟩ | rfl | hno
  · show (match fs src with | some s => fs.set src (some (s ++ c)) | none => fs) src = some (if src = src then _ else _)
    rw [hfs, if_pos rfl]
    exact if_pos rfl
  · exact hfs
  · rw [apply_unmentioned fs op src hno, writtenAcc_singleton_unmentioned src acc op hno]
    exact hfs

/-- while only writes / fsyncs to `src` and foreign operations happen, the file at `src` is what it was
    plus everything written to it -/
theorem run_writing (src : String) (w : List FsOp) (fs : Fs) (acc : String) (hfs : fs src = some acc)
    (hw : ∀ op ∈ w, (∃ c, op = FsOp.write src c) ∨ op = FsOp.fsync src ∨ op.mentions src = false) :
    run w fs src = some (writtenAcc src acc w) := by
  induction w generalizing fs acc with
  | nil => exact hfs
  | cons op w ih =>
    rw [run_cons, writtenAcc_cons]
    exact ih _ _ (apply_writing src op fs acc hfs (hw op List.mem_cons_self))
      fun o ho => hw o (List.mem_cons_of_mem _ ho)

theorem ready_content (src : String) (a l : List FsOp) (opn : FsOp) (fs : Fs)
    (hopn : opn = FsOp.openTrunc src ∨ opn = FsOp.openExcl src)
    (hfresh : opn = FsOp.openExcl src → run a fs src = none)
    (hwc : WrittenClosed src l) :
    run (a ++ opn :: l) fs src = some (writtenTo src l) := by
  obtain ⟨w, b, rfl, hw, hb⟩ := hwc
  have hopen : (opn.apply (run a fs)) src = some "" := by
    rcases hopn with rfl | rfl
    · simp [FsOp.apply, Fs.set]
    · simp [FsOp.apply, hfresh rfl, Fs.set]
  rw [run_append, run_cons, run_append, run_cons]
  rw [run_unmentioned _ b src hb]
  show run w (opn.apply (run a fs)) src = _
  rw [run_writing src w _ "" hopen hw]
  rw [writtenTo_eq, writtenAcc_append, writtenAcc_cons, writtenAcc_unmentioned src _ b hb]
  rfl

/-- C20, the new content is the complete new file: under the discipline (rename case), when the
    temporary is created afresh (`openTrunc`, or `openExcl` on a path that did not exist), the target
    holds, from the rename on, exactly the concatenation of all chunks written to the temporary — and
    before the rename exactly the old content. -/
theorem atomic_new_complete (t src : String) (a l post : List FsOp) (opn : FsOp) (fs : Fs)
    (hopn : opn = FsOp.openTrunc src ∨ opn = FsOp.openExcl src)
    (hfresh : opn = FsOp.openExcl src → run a fs src = none)
    (hwc : WrittenClosed src l)
    (hpre : ∀ op ∈ a ++ opn :: l, op.touches t = false)
    (hpost : ∀ op ∈ post, op.touches t = false) (k : Nat) :
    let ops := (a ++ opn :: l) ++ FsOp.rename src t :: post
    (k ≤ (a ++ opn :: l).length → crashAfter k ops fs t = fs t) ∧
    ((a ++ opn :: l).length < k → crashAfter k ops fs t = some (writtenTo src l)) ∧
    run ops fs t = some (writtenTo src l) := by
  have hc := ready_content src a l opn fs hopn hfresh hwc
  have hs := atomic_switch t src (a ++ opn :: l) post fs _ hpre hpost hc
  refine ⟨(hs k).1, (hs k).2, ?_⟩
  exact run_rename_tail fs t src _ post _ hc hpost

/-! ### the checker is sound -/

theorem of_ite_false_eq_true {m w : Bool} (h : (if m = true then false else w) = true) : m = false ∧ w = true := by
  cases m
  · exact ⟨rfl, h⟩
  · cases h

theorem writtenClosedB_sound (src : String) (l : List FsOp) (h : writtenClosedB src l = true) :
    WrittenClosed src l := by
  induction l with
  | nil => simp [writtenClosedB] at h
  | cons op l ih =>
    -- the three shapes of a step of `writtenClosedB`
    have step : ∀ (hrec : writtenClosedB src l = true)
        (hop : (∃ c, op = FsOp.write src c) ∨ op = FsOp.fsync src ∨ op.mentions src = false),
        WrittenClosed src (op :: l) := by
      intro hrec hop
      obtain ⟨w, b, rfl, hw, hb⟩ := ih hrec
      refine ⟨op :: w, b, rfl, ?_, hb⟩
      intro o ho
      rcases List.mem_cons.1 ho with rfl | ho
      · exact hop
      · exact hw o ho
    cases op with
    | close p =>
      change (if p = src then l.all (fun o => !o.mentions src) else writtenClosedB src l) = true at h
      by_cases hp : p = src
      · subst hp
        simp only [if_true, List.all_eq_true, Bool.not_eq_true'] at h
        exact ⟨[], l, rfl, by simp, h⟩
      · simp only [hp, if_false] at h
        exact step h (Or.inr (Or.inr (beq_eq_false_iff_ne.mpr hp)))
    | write p c =>
      change writtenClosedB src l = true at h
      by_cases hp : p = src
      · subst hp; exact step h (Or.inl ⟨c, rfl⟩)
      · exact step h (Or.inr (Or.inr (beq_eq_false_iff_ne.mpr hp)))
    | fsync p =>
      change writtenClosedB src l = true at h
      by_cases hp : p = src
      · subst hp; exact step h (Or.inr (Or.inl rfl))
      · exact step h (Or.inr (Or.inr (beq_eq_false_iff_ne.mpr hp)))
    | _ =>
      obtain ⟨hm, hrec⟩ := of_ite_false_eq_true h
      exact step hrec (Or.inr (Or.inr hm))

theorem readyB_sound (src : String) (pre : List FsOp) (h : readyB src pre = true) : Ready src pre := by
  induction pre with
  | nil => simp [readyB] at h
  | cons op l ih =>
    simp only [readyB, Bool.or_eq_true, Bool.and_eq_true, beq_iff_eq] at h
    rcases h with ⟨hop, hwc⟩ | h
    · exact ⟨[], op, l, rfl, hop, writtenClosedB_sound src l hwc⟩
    · obtain ⟨a, opn, l', rfl, hopn, hwc⟩ := ih h
      exact ⟨op :: a, opn, l', rfl, hopn, hwc⟩

theorem mem_takeWhile_imp {β : Type} (p : β → Bool) (l : List β) (x : β) (hx : x ∈ l.takeWhile p) : p x = true := by
  induction l with
  | nil => simp at hx
  | cons a l ih =>
    simp only [List.takeWhile_cons] at hx
    split at hx
    · rename_i hpa
      rcases List.mem_cons.1 hx with rfl | hx
      · exact hpa
      · exact ih hx
    · simp at hx

theorem atomicB_sound (t : String) (ops : List FsOp) (h : atomicB t ops = true) : Atomic t ops := by
  simp only [atomicB] at h
  have hsplit : ops = ops.takeWhile (fun o => !o.touches t) ++ ops.dropWhile (fun o => !o.touches t) :=
    (List.takeWhile_append_dropWhile).symm
  have hpre : ∀ op ∈ ops.takeWhile (fun o => !o.touches t), op.touches t = false := by
    intro op ho
    have := mem_takeWhile_imp _ _ _ ho
    simpa using this
  generalize ops.takeWhile (fun o => !o.touches t) = pre at h hsplit hpre
  generalize ops.dropWhile (fun o => !o.touches t) = rest at h hsplit
  cases rest with
  | nil =>
    left
    rw [hsplit, List.append_nil]
    exact hpre
  | cons op post =>
    cases op with
    | rename src dst =>
      simp only [Bool.and_eq_true, beq_iff_eq, bne_iff_ne, ne_eq, List.all_eq_true, Bool.not_eq_true'] at h
      obtain ⟨⟨⟨hdst, hne⟩, hready⟩, hpost⟩ := h
      subst hdst
      right
      exact ⟨pre, src, post, hsplit, hne, hpre, readyB_sound src pre hready, hpost⟩
    | _ => cases h

/-- what harness/corr_store.py relies on: a list the driver accepts is atomic at every crash point,
    from every initial file system -/
theorem atomicB_atomic (t : String) (ops : List FsOp) (h : atomicB t ops = true) (fs : Fs) (k : Nat) :
    crashAfter k ops fs t = fs t ∨ crashAfter k ops fs t = run ops fs t :=
  atomic t ops (atomicB_sound t ops h) fs k

/-! ### negative part: truncate-then-write -/

/-- C20, negative part: every operation list in which the target itself
    is opened with truncation has a crash point — right after the truncation — at which the target is
    neither the old file nor the new file, whenever the old file is not the empty file (an absent file
    included: the crash leaves an empty, unparsable file behind) and the complete new file is not empty
    (which is the case as soon as the truncation precedes the last write to the target). -/
theorem truncate_not_atomic (t : String) (pre post : List FsOp) (fs : Fs)
    (hold : fs t ≠ some "")
    (hnew : run (pre ++ FsOp.openTrunc t :: post) fs t ≠ some "") :
    ∃ k, k ≤ (pre ++ FsOp.openTrunc t :: post).length ∧
      crashAfter k (pre ++ FsOp.openTrunc t :: post) fs t = some "" ∧
      crashAfter k (pre ++ FsOp.openTrunc t :: post) fs t ≠ fs t ∧
      crashAfter k (pre ++ FsOp.openTrunc t :: post) fs t ≠ run (pre ++ FsOp.openTrunc t :: post) fs t := by
  have hk : crashAfter (pre.length + 1) (pre ++ FsOp.openTrunc t :: post) fs t = some "" := by
    unfold crashAfter
    rw [take_split pre _ post (pre.length + 1) (Nat.lt_succ_self _)]
    have : pre.length + 1 - pre.length - 1 = 0 := by rw [Nat.add_sub_cancel_left]
    rw [this, List.take_zero, run_append, run_cons, run_nil]
    exact if_pos rfl
  refine ⟨pre.length + 1, by simp, hk, ?_, ?_⟩
  · rw [hk]; exact fun h => hold h.symm
  · rw [hk]; exact fun h => hnew h.symm

/-- the hypothesis `hnew` at a crash point before the target is closed again: after the truncation the target has
    received only writes and fsyncs, at least one write non-empty -/
theorem truncate_then_write_new_nonempty (t : String) (pre w : List FsOp) (fs : Fs)
    (hw : ∀ op ∈ w, (∃ c, op = FsOp.write t c) ∨ op = FsOp.fsync t ∨ op.mentions t = false)
    (hne : writtenTo t w ≠ "") :
    run (pre ++ FsOp.openTrunc t :: w) fs t = some (writtenTo t w) ∧
    run (pre ++ FsOp.openTrunc t :: w) fs t ≠ some "" := by
  have h : run (pre ++ FsOp.openTrunc t :: w) fs t = some (writtenTo t w) := by
    rw [run_append, run_cons]
    exact run_writing t w _ "" (by simp [FsOp.apply, Fs.set]) hw
  exact ⟨h, by rw [h]; simpa using hne⟩

/-! ### concrete instances -/

/-- `save_json` as observed: read the old file, write a sibling, fsync, close, rename -/
def exRename : List FsOp :=
  [.openRead "data.json", .close "data.json", .openTrunc "data.json.tmp", .write "data.json.tmp" "{old,",
   .write "data.json.tmp" "new}", .fsync "data.json.tmp", .close "data.json.tmp",
   .rename "data.json.tmp" "data.json"]

/-- a `save_json` that opens the results file itself with "w", as observed: read the old file, truncate, dump,
    close -/
def exTruncate : List FsOp :=
  [.openRead "data.json", .close "data.json", .openTrunc "data.json", .write "data.json" "{old,",
   .write "data.json" "new}", .close "data.json"]

def exFs : Fs := fun q => if q = "data.json" then some "{old}" else none

example : atomicB "data.json" exRename = true := by decide
example : atomicB "data.json" exTruncate = false := by decide
/-- the early return (existing name): nothing touches the target -/
example : atomicB "data.json" [.openRead "data.json", .close "data.json"] = true := by decide
/-- copy-then-delete instead of rename is rejected -/
example : atomicB "data.json" [.openTrunc "t", .write "t" "x", .close "t", .openRead "t", .openTrunc "data.json",
    .write "data.json" "x", .close "data.json", .close "t", .unlink "t"] = false := by decide
/-- renaming a temporary that is still open is rejected; so is touching it afterwards -/
example : atomicB "data.json" [.openTrunc "t", .write "t" "x", .rename "t" "data.json", .close "t"] = false := by decide
example : atomicB "data.json" [.openTrunc "t", .write "t" "x", .close "t", .rename "t" "data.json", .unlink "t"] = false := by
  decide

example : (List.range 9).map (fun k => crashAfter k exRename exFs "data.json") =
    [some "{old}", some "{old}", some "{old}", some "{old}", some "{old}", some "{old}", some "{old}", some "{old}",
     some "{old,new}"] := by decide

example : (List.range 7).map (fun k => crashAfter k exTruncate exFs "data.json") =
    [some "{old}", some "{old}", some "{old}", some "", some "{old,", some "{old,new}", some "{old,new}"] := by decide

example : ∃ k, k ≤ exTruncate.length ∧ crashAfter k exTruncate exFs "data.json" = some "" ∧
    crashAfter k exTruncate exFs "data.json" ≠ exFs "data.json" ∧
    crashAfter k exTruncate exFs "data.json" ≠ run exTruncate exFs "data.json" :=
  truncate_not_atomic "data.json" [.openRead "data.json", .close "data.json"]
    [.write "data.json" "{old,", .write "data.json" "new}", .close "data.json"] exFs (by decide) (by decide)

/-- the observed rename list ends with the complete new file -/
example : run exRename exFs "data.json" = some "{old,new}" := by decide

end ICG.C20

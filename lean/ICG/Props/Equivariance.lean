/-
  ICG.Props.Equivariance — equivariance theorems backing the metamorphic oracles of the differential test.

  The differential test compares the Python code with itself on transformed inputs (terminal values
  scaled by 2^-30, games scaled by a power of two, games shifted by a huge additive game).  Here the same
  statements are proved about the model functions the driver runs:

  1. REGRET (C14)      — scaling all terminal values by `c > 0` scales every cumulative regret by `c` and
                          leaves every current strategy, every cumulative strategy and every average
                          strategy unchanged; one iteration from any state, every history, plain and plus;
                          errors are preserved too (statement with `Except.map`).
  2. BOUNDS (C01–C04, C08) — positive homogeneity of `loSpec` / `upSpec` / `samB` / `samUp` and of what the
                          computers `sa`, `sac`, `sam r` return; additive shift for `loSpec` / `upSpec`,
                          `sa`, `sac`.
  3. NORMALISATION (C15) — scale invariance of `normVal`; shift invariance of `closedW`, and of `normVal`
                          whenever the additivity test decides the same way (`rtol = 0`, or both games
                          outside the tolerance window).
  4. GAPS (C05, C07)    — homogeneity of the norms of the gap vector and of `compute_exploitability`.
  5. examples: the hypotheses are satisfiable and the conclusions are not trivial.
-/
import ICG.Lemmas.EquivarianceCore
import ICG.Lemmas.RegretTree
import ICG.Props.C14
import ICG.Props.C15
import ICG.Props.C05
import Mathlib.Algebra.Order.Ring.Abs
import Mathlib.Algebra.Order.BigOperators.Group.Finset
import Mathlib.Algebra.BigOperators.Ring.Finset

set_option linter.unusedSectionVars false

namespace ICG.Equivariance
open ICG ICG.Regret

/-! ## 1. the regret minimiser -/

section regret
variable {α : Type} [Field α] [LinearOrder α] [IsStrictOrderedRing α]

/-- terminal values and used-action lists of successive `regret_min_iteration` calls -/
abbrev History (α : Type) := List (List α × List (List Nat))

/-- stops at the first call that raises -/
def run (rm : RM α) (h : History α) : Except Err (RM α) :=
  h.foldlM (fun rm p => rm.iterate p.1 p.2) rm

def scaleHistory (c : α) (h : History α) : History α := h.map (fun p => (p.1.map (c * ·), p.2))

/-- for `c > 0`: same distribution, same uniform fallback when no regret is positive, same error when there is one -/
theorem regret_matching_row_scale {c : α} (hc : 0 < c) (m : Nat) (row : List α) (used : List Nat) :
    regretMatchingRow m (row.map (c * ·)) used = regretMatchingRow m row used :=
  regretMatchingRow_scale hc m row used

theorem current_strategy_scale {c : α} (hc : 0 < c) (rm : RM α) :
    (∀ mc, (scaleRM c rm).regretMatching mc = rm.regretMatching mc) ∧
    (∀ cs, (scaleRM c rm).regretMatchingOf cs = rm.regretMatchingOf cs) := by
  refine ⟨regretMatching_scale hc rm, fun cs => ?_⟩
  unfold RM.regretMatchingOf
  exact bind_congr_eq (fun mc => regretMatching_scale hc rm mc)

/-- the average strategy reads the cumulative strategy only -/
theorem average_strategy_scale (c : α) (rm : RM α) (cs : List Nat) :
    (scaleRM c rm).averageStrategy cs = rm.averageStrategy cs := rfl

theorem scaleRM_fields (c : α) (rm : RM α) :
    (scaleRM c rm).regret = rm.regret.map (List.map (c * ·)) ∧ (scaleRM c rm).strategy = rm.strategy ∧
    (scaleRM c rm).iteration = rm.iteration ∧ (scaleRM c rm).plus = rm.plus ∧ (scaleRM c rm).n = rm.n ∧
    (scaleRM c rm).m = rm.m ∧ (scaleRM c rm).R = rm.R ∧ (scaleRM c rm).limit = rm.limit ∧
    (scaleRM c rm).rankToId = rm.rankToId ∧ (scaleRM c rm).idToRank = rm.idToRank ∧
    (scaleRM c rm).pidMap = rm.pidMap :=
  ⟨rfl, rfl, rfl, rfl, rfl, rfl, rfl, rfl, rfl, rfl, rfl⟩

theorem run_equivariant {c : α} (hc : 0 < c) (h : History α) (rm : RM α) :
    run (scaleRM c rm) (scaleHistory c h) = Except.map (scaleRM c) (run rm h) := by
  unfold run scaleHistory
  rw [List.foldlM_map]
  exact foldlM_map (fun s p => iterate_scale hc s p.1 p.2) h rm

/-- all regrets of a fresh object are 0 -/
theorem scaleRM_new (c : α) {p : Policy} {n limit : Nat} {plus : Bool} {rm : RM α}
    (h : RM.new (α := α) p n limit plus = .ok rm) : scaleRM c rm = rm := by
  obtain ⟨_, t, _, rfl⟩ := new_ok h
  have : scaleRows c (RM.fresh (α := α) p n limit plus t).regret = (RM.fresh p n limit plus t).regret :=
    zeros2_scale c _ _
  unfold scaleRM
  rw [this]

/-- from any pair of states related by the scaling the two runs raise the same error or end in related states -/
theorem history_scale_from {c : α} (hc : 0 < c) (rm : RM α) (h : History α) :
    (∀ e, run rm h = .error e → run (scaleRM c rm) (scaleHistory c h) = .error e) ∧
    (∀ rm', run rm h = .ok rm' → run (scaleRM c rm) (scaleHistory c h) = .ok (scaleRM c rm')) := by
  have hrun := run_equivariant hc h rm
  exact ⟨fun e he => by rw [hrun, he]; rfl, fun rm' hok => by rw [hrun, hok]; rfl⟩

/-- **the metamorphic oracle of the regret stream, as a theorem**: construct a minimiser (any policy, `n`, limit,
    plain or plus), run any history, and run it again with all terminal values multiplied by `c > 0`.  Either both
    runs raise the same error, or both return with regrets scaled by `c` and the same current, cumulative and average
    strategies at every node, and the same iteration counter. -/
theorem history_scale {c : α} (hc : 0 < c) {p : Policy} {n limit : Nat} {plus : Bool} {rm : RM α}
    (hnew : RM.new (α := α) p n limit plus = .ok rm) (h : History α) :
    (∀ e, run rm h = .error e → run rm (scaleHistory c h) = .error e) ∧
    (∀ rm', run rm h = .ok rm' → ∃ rm'', run rm (scaleHistory c h) = .ok rm'' ∧
      rm''.regret = rm'.regret.map (List.map (c * ·)) ∧
      (∀ mc, rm''.regretMatching mc = rm'.regretMatching mc) ∧
      (∀ cs, rm''.regretMatchingOf cs = rm'.regretMatchingOf cs) ∧
      rm''.strategy = rm'.strategy ∧
      (∀ cs, rm''.averageStrategy cs = rm'.averageStrategy cs) ∧
      rm''.iteration = rm'.iteration) := by
  have hrun := run_equivariant hc h rm
  rw [scaleRM_new c hnew] at hrun
  refine ⟨fun e he => ?_, fun rm' hok => ?_⟩
  · rw [hrun, he]; rfl
  · refine ⟨scaleRM c rm', by rw [hrun, hok]; rfl, rfl, (current_strategy_scale hc rm').1,
      (current_strategy_scale hc rm').2, rfl, fun cs => rfl, rfl⟩

/-- the hypotheses of C14's `tree_invariant` are scale invariant -/
theorem validInput_scale {c : α} (hc : 0 < c) {rm : RM α} {t : List α} {u : List (List Nat)}
    (h : ValidInput rm t u) : ValidInput (scaleRM c rm) (t.map (c * ·)) u := by
  obtain ⟨h1, h2, h3⟩ := h
  refine ⟨h1, by simpa using h2, ?_⟩
  intro x hx
  obtain ⟨y, hy, rfl⟩ := List.mem_map.mp hx
  exact mul_nonneg hc.le (h3 y hy)

/-- with C14's `tree_invariant`: from a reachable state and an admissible input BOTH iterations return -/
theorem iterate_scale_reachable {c : α} (hc : 0 < c) {p : Policy} {rm : RM α} (h : C14.TreeReachable p rm)
    {t : List α} {u : List (List Nat)} (hin : ValidInput rm t u) :
    ∃ rm', rm.iterate t u = .ok rm' ∧ (scaleRM c rm).iterate (t.map (c * ·)) u = .ok (scaleRM c rm') := by
  obtain ⟨rm', hok, _⟩ := (C14.tree_invariant h).2 t u hin
  exact ⟨rm', hok, by rw [iterate_scale hc, hok]; rfl⟩

end regret

/-! ## 2. the superadditive bounds -/

section bounds_general
variable {α : Type} [Add α] [Sub α] [LinearOrder α]

def mapVals (f : α → α) (t : Table α) : Table α := mapTable (fun _ => f) t

theorem mapVals_fields (f : α → α) (t : Table α) :
    (mapVals f t).n = t.n ∧ (mapVals f t).known = t.known ∧
    (∀ c, (mapVals f t).lo c = f (t.lo c)) ∧ (∀ c, (mapVals f t).hi c = f (t.hi c)) :=
  ⟨rfl, rfl, fun _ => rfl, fun _ => rfl⟩

/-- every registered computer (`sa`, `sac`, `sam r`) commutes with every monotone additive map: all rows, both
    columns, flags included -/
theorem run_ordHom {f : α → α} (hf : OrdHom f) (k : Computer) (t : Table α) (hmin : MinInfo t.n t.known)
    (hinv : t.Inv) : ∃ t', k.run t = .ok t' ∧ k.run (mapVals f t) = .ok (mapVals f t') := by
  apply run_mapTable k (fun _ => f) t hmin hinv
  · intro c
    cases k with
    | sa => exact loSpec_hom hf t.known t.lo c
    | sac => exact loSpec_hom hf t.known t.lo c
    | sam r => exact samB_hom hf t.n t.known t.lo r c
  · intro c
    cases k with
    | sa => exact upSpec_hom hf t.n t.known t.lo c
    | sac => exact upSpec_hom hf t.n t.known t.lo c
    | sam r => exact samUp_hom hf t.n t.known t.lo r c

end bounds_general

section bounds_hom
variable {α : Type} [Ring α] [LinearOrder α] [IsOrderedRing α]

theorem ordHom_mul {k : α} (hk : 0 ≤ k) : OrdHom (fun x : α => k * x) :=
  ⟨fun _ _ h => mul_le_mul_of_nonneg_left h hk, fun a b => mul_add k a b, fun a b => mul_sub k a b⟩

/-- **positive homogeneity of the specification**: `k ≥ 0` suffices, and no minimal information is needed -/
theorem bounds_homogeneous {k : α} (hk : 0 ≤ k) (n : Nat) (known : Nat → Bool) (v : Nat → α) (c : Nat) :
    loSpec known (fun c => k * v c) c = k * loSpec known v c ∧
    upSpec n known (fun c => k * v c) c = k * upSpec n known v c :=
  ⟨loSpec_hom (ordHom_mul hk) known v c, upSpec_hom (ordHom_mul hk) n known v c⟩

theorem sam_bounds_homogeneous {k : α} (hk : 0 ≤ k) (n : Nat) (known : Nat → Bool) (v : Nat → α) (r c : Nat) :
    samB n known (fun c => k * v c) r c = k * samB n known v r c ∧
    samUp n known (fun c => k * v c) r c = k * samUp n known v r c :=
  ⟨samB_hom (ordHom_mul hk) n known v r c, samUp_hom (ordHom_mul hk) n known v r c⟩

theorem computers_homogeneous {k : α} (hk : 0 ≤ k) (t : Table α) (hmin : MinInfo t.n t.known) (hinv : t.Inv) :
    (∃ t', sa t = .ok t' ∧ sa (mapVals (k * ·) t) = .ok (mapVals (k * ·) t')) ∧
    (∃ t', sac t = .ok t' ∧ sac (mapVals (k * ·) t) = .ok (mapVals (k * ·) t')) ∧
    (∀ r, ∃ t', sam r t = .ok t' ∧ sam r (mapVals (k * ·) t) = .ok (mapVals (k * ·) t')) :=
  ⟨run_ordHom (ordHom_mul hk) .sa t hmin hinv, run_ordHom (ordHom_mul hk) .sac t hmin hinv,
   fun r => run_ordHom (ordHom_mul hk) (.sam r) t hmin hinv⟩

end bounds_hom

section bounds_group
variable {α : Type} [AddCommGroup α] [LinearOrder α] [IsOrderedAddMonoid α]

theorem ordHom_nsmul (k : ℕ) : OrdHom (fun x : α => k • x) :=
  ⟨fun _ _ h => nsmul_le_nsmul_right h k, fun a b => nsmul_add a b k, fun a b => nsmul_sub a b k⟩

/-- no multiplication on `α` needed -/
theorem bounds_nsmul (k : ℕ) (n : Nat) (known : Nat → Bool) (v : Nat → α) (c : Nat) :
    loSpec known (fun c => k • v c) c = k • loSpec known v c ∧
    upSpec n known (fun c => k • v c) c = k • upSpec n known v c :=
  ⟨loSpec_hom (ordHom_nsmul k) known v c, upSpec_hom (ordHom_nsmul k) n known v c⟩

/-- the additive game with weights `w` on the players `< n`: `a(S) = Σ_{i ∈ S, i < n} w i`; in the
    model's own terms it is `listSum ((players S).map w)` -/
abbrev addGame (n : Nat) (w : Nat → α) (c : Nat) : α := Norm.bsum n w c

theorem addGame_eq_listSum {n : Nat} (w : Nat → α) {c : Nat} (hc : c < 2 ^ n) :
    addGame n w c = listSum ((players c).map w) := (Norm.listSum_players hc w).symm

theorem addGame_singleton {n i : Nat} (w : Nat → α) (hi : i < n) : addGame n w (2 ^ i) = w i :=
  Norm.bsum_two_pow w hi

/-- **additive shift of the specification**: no side condition; the minimal information is needed only for the
    computers to run -/
theorem bounds_shift (n : Nat) (w : Nat → α) (m : Nat) (known : Nat → Bool) (v : Nat → α) (c : Nat) :
    loSpec known (fun c => v c + addGame n w c) c = loSpec known v c + addGame n w c ∧
    upSpec m known (fun c => v c + addGame n w c) c = upSpec m known v c + addGame n w c :=
  ⟨loSpec_family (fun c p => p + Norm.bsum n w c) (fun _ => shift_mono _) known v (shift_split n w) c,
   upSpec_family (fun c p => p + Norm.bsum n w c) (fun _ => shift_mono _) m known v (shift_split n w)
    (fun _ _ hT p q => shift_sup n w (SpecSA.mem_knownSupers.mp hT).2.1 p q) c⟩

def shiftTable (n : Nat) (w : Nat → α) (t : Table α) : Table α :=
  mapTable (fun c p => p + addGame n w c) t

theorem shiftTable_fields (n : Nat) (w : Nat → α) (t : Table α) :
    (shiftTable n w t).n = t.n ∧ (shiftTable n w t).known = t.known ∧
    (∀ c, (shiftTable n w t).lo c = t.lo c + addGame n w c) ∧
    (∀ c, (shiftTable n w t).hi c = t.hi c + addGame n w c) :=
  ⟨rfl, rfl, fun _ => rfl, fun _ => rfl⟩

/-- **additive shift of the exact computers**.  Not stated for `sam r`: its monotone closure takes a maximum over
    supersets, which a non-constant shift does not commute with (`sam_shift_fails` below). -/
theorem computers_shift (n : Nat) (w : Nat → α) (t : Table α) (hmin : MinInfo t.n t.known) (hinv : t.Inv) :
    (∃ t', sa t = .ok t' ∧ sa (shiftTable n w t) = .ok (shiftTable n w t')) ∧
    (∃ t', sac t = .ok t' ∧ sac (shiftTable n w t) = .ok (shiftTable n w t')) :=
  ⟨run_mapTable .sa _ t hmin hinv (fun c => (bounds_shift n w t.n t.known t.lo c).1)
      (fun c => (bounds_shift n w t.n t.known t.lo c).2),
   run_mapTable .sac _ t hmin hinv (fun c => (bounds_shift n w t.n t.known t.lo c).1)
      (fun c => (bounds_shift n w t.n t.known t.lo c).2)⟩

end bounds_group

/-! ## 3. normalisation -/

section norm
open ICG.Norm ICG.C15 Finset
variable {α : Type} [Field α] [LinearOrder α] [IsStrictOrderedRing α] [DecidableLE α] [DecidableEq α]

omit [LinearOrder α] [IsStrictOrderedRing α] [DecidableLE α] [DecidableEq α] in
theorem closedW_scale (k : α) (v : Nat → α) (c : Nat) :
    closedW (fun c => k * v c) c = k * closedW v c := by
  unfold closedW
  have : ((players c).map fun i => k * v (singleton i)) = ((players c).map fun i => v (singleton i)).map (k * ·) := by
    rw [List.map_map]; rfl
  rw [this, Norm.listSum_eq_sum, Norm.listSum_eq_sum, sum_scale, mul_sub]

omit [DecidableEq α] [DecidableLE α] in
/-- the additivity test has a relative tolerance only (`atol = 0`), so `k ≠ 0` of either sign will do -/
theorem additive_scale {k : α} (hk : k ≠ 0) (n : Nat) (rtol : α) (v : Nat → α) :
    Additive n rtol (fun c => k * v c) ↔ Additive n rtol v := by
  unfold C15.Additive
  rw [closedW_scale, ← Finset.mul_sum, abs_mul, abs_mul, mul_left_comm]
  exact mul_le_mul_iff_right₀ (abs_pos.mpr hk)

/-- **scale invariance of the normal form**, `k ≠ 0` of either sign -/
theorem normVal_scale {k : α} (hk : k ≠ 0) {rtol : α} (hr : 0 ≤ rtol) (n : Nat) (v : Nat → α) (c : Nat) :
    normVal n rtol (fun c => k * v c) c = normVal n rtol v c := by
  by_cases ha : Additive n rtol v
  · rw [normVal_of_additive ha, normVal_of_additive ((additive_scale hk n rtol v).mpr ha)]
  · have ha' : ¬ Additive n rtol (fun c => k * v c) := fun h => ha ((additive_scale hk n rtol v).mp h)
    have hg : closedW v (grand n) ≠ 0 := fun h => ha (additive_of_surplus_zero hr h)
    have hg' : closedW (fun c => k * v c) (grand n) ≠ 0 := by
      rw [closedW_scale]; exact mul_ne_zero hk hg
    rw [normVal_of_scale hg ha, normVal_of_scale hg' ha', closedW_scale, closedW_scale,
      mul_div_mul_left _ _ hk]

/-- the case of the metamorphic oracle (a positive power of two), as an equation of functions -/
theorem normVal_scale_pos {k : α} (hk : 0 < k) {rtol : α} (hr : 0 ≤ rtol) (n : Nat) (v : Nat → α) :
    normVal n rtol (fun c => k * v c) = normVal n rtol v :=
  funext (normVal_scale hk.ne' hr n v)

/-- the same for what the code does, `_normalize_icg` on the complete tables -/
theorem normalizeIcg_scale {k : α} (hk : k ≠ 0) {rtol : α} (hr : 0 ≤ rtol) (n : Nat) (v : Nat → α) :
    ∃ t' t'', normalizeIcg rtol (fullTable n v) = .ok t' ∧
      normalizeIcg rtol (fullTable n (fun c => k * v c)) = .ok t'' ∧
      ∀ c, c < 2 ^ n → t''.lo c = t'.lo c ∧ t''.hi c = t'.hi c := by
  obtain ⟨t', h1, hf1, hl1⟩ := normalizeIcg_closed rtol (fullTable n v) (fullOn_fullTable n v)
  obtain ⟨t'', h2, hf2, hl2⟩ := normalizeIcg_closed rtol (fullTable n (fun c => k * v c)) (fullOn_fullTable n _)
  refine ⟨t', t'', h1, h2, fun c hc => ?_⟩
  have hlo : t''.lo c = t'.lo c := by
    rw [hl2 c hc, hl1 c hc]; exact normVal_scale hk hr n v c
  exact ⟨hlo, by rw [hf2.hi_eq c hc, hf1.hi_eq c hc, hlo]⟩

omit [LinearOrder α] [IsStrictOrderedRing α] [DecidableLE α] [DecidableEq α] in
theorem closedW_shift (n : Nat) (w : Nat → α) (v : Nat → α) {c : Nat} (hc : c < 2 ^ n) :
    closedW (fun c => v c + Norm.bsum n w c) c = closedW v c := by
  rw [closedW_eq hc, closedW_eq hc]
  have : Norm.bsum n (fun i => v (2 ^ i) + Norm.bsum n w (2 ^ i)) c =
      Norm.bsum n (fun i => v (2 ^ i)) c + Norm.bsum n w c := by
    rw [Norm.bsum_congr n (g := fun i => v (2 ^ i) + w i) (fun i hi => by rw [Norm.bsum_two_pow w hi])]
    unfold Norm.bsum
    rw [← Finset.sum_add_distrib]
    apply Finset.sum_congr rfl
    intro i _
    split <;> simp
  rw [this, add_sub_add_right_eq_sub]

omit [DecidableEq α] [DecidableLE α] [IsStrictOrderedRing α] in
/-- the surplus is the same, but the tolerance window `rtol·|Σ singletons|` moves to `rtol·|Σ singletons + Σ w|` -/
theorem additive_shift_iff (n : Nat) (w : Nat → α) (rtol : α) (v : Nat → α) :
    Additive n rtol (fun c => v c + Norm.bsum n w c) ↔
      |closedW v (grand n)| ≤ rtol * |(∑ i ∈ range n, v (2 ^ i)) + ∑ i ∈ range n, w i| := by
  unfold C15.Additive
  rw [closedW_shift n w v (grand_lt n), ← Finset.sum_add_distrib]
  have : ∑ i ∈ range n, (v (2 ^ i) + Norm.bsum n w (2 ^ i)) = ∑ i ∈ range n, (v (2 ^ i) + w i) :=
    Finset.sum_congr rfl (fun i hi => by rw [Norm.bsum_two_pow w (Finset.mem_range.mp hi)])
  rw [this]

omit [IsStrictOrderedRing α] in
/-- **shift invariance of the normal form**, whenever the additivity test decides the same way for `v + a` and `v` -/
theorem normVal_shift_of_same_test (n : Nat) (w : Nat → α) (rtol : α) (v : Nat → α)
    (hsame : Additive n rtol (fun c => v c + Norm.bsum n w c) ↔ Additive n rtol v) {c : Nat} (hc : c < 2 ^ n) :
    normVal n rtol (fun c => v c + Norm.bsum n w c) c = normVal n rtol v c := by
  have hb : closedAdditive n rtol (fun c => v c + Norm.bsum n w c) = closedAdditive n rtol v := by
    rw [Bool.eq_iff_iff, closedAdditive_iff_Additive, closedAdditive_iff_Additive]; exact hsame
  unfold normVal
  rw [hb, closedW_shift n w v hc, closedW_shift n w v (grand_lt n)]

/-- the exact test never sees the shift -/
theorem normVal_shift_rtol_zero (n : Nat) (w : Nat → α) (v : Nat → α) {c : Nat} (hc : c < 2 ^ n) :
    normVal n 0 (fun c => v c + Norm.bsum n w c) c = normVal n 0 v c := by
  apply normVal_shift_of_same_test n w 0 v _ hc
  rw [additive_zero_iff, additive_zero_iff, closedW_shift n w v (grand_lt n)]

/-- both games outside the tolerance window -/
theorem normVal_shift_outside (n : Nat) (w : Nat → α) (rtol : α) (v : Nat → α)
    (h1 : rtol * |∑ i ∈ range n, v (2 ^ i)| < |closedW v (grand n)|)
    (h2 : rtol * |(∑ i ∈ range n, v (2 ^ i)) + ∑ i ∈ range n, w i| < |closedW v (grand n)|)
    {c : Nat} (hc : c < 2 ^ n) :
    normVal n rtol (fun c => v c + Norm.bsum n w c) c = normVal n rtol v c := by
  apply normVal_shift_of_same_test n w rtol v _ hc
  rw [additive_shift_iff]
  unfold C15.Additive
  exact ⟨fun h => absurd h (not_le.mpr h2), fun h => absurd h (not_le.mpr h1)⟩

end norm

/-! ## 4. exploitability and the norms of the gap vector -/

section gaps
open Finset
variable {α : Type} [Field α] [LinearOrder α] [IsStrictOrderedRing α]

theorem widths_scale (k : α) (n : Nat) (lo hi : Nat → α) :
    widths n (fun c => k * lo c) (fun c => k * hi c) = (widths n lo hi).map (k * ·) := by
  unfold widths
  rw [List.map_map]
  exact List.map_congr_left (fun c _ => (mul_sub k (hi c) (lo c)).symm)

/-- `absv x = max x (-x)`, and `k * ·` is monotone for `k ≥ 0`, so it commutes with the `max` -/
theorem absv_scale {k : α} (hk : 0 ≤ k) (x : α) : absv (k * x) = k * absv x := by
  unfold absv
  rw [← mul_neg, ← (ordHom_mul hk).mono.map_max]

theorem l1_homogeneous {k : α} (hk : 0 ≤ k) (n : Nat) (lo hi : Nat → α) :
    l1 n (fun c => k * lo c) (fun c => k * hi c) = k * l1 n lo hi := by
  unfold l1
  rw [widths_scale, List.map_map, ← listSum_scale, List.map_map]
  congr 1
  exact List.map_congr_left (fun x _ => absv_scale hk x)

/-- raises on the same inputs -/
theorem linf_homogeneous {k : α} (hk : 0 ≤ k) (n : Nat) (lo hi : Nat → α) :
    linf n (fun c => k * lo c) (fun c => k * hi c) = Except.map (k * ·) (linf n lo hi) := by
  unfold linf
  have : (widths n (fun c => k * lo c) (fun c => k * hi c)).map absv =
      ((widths n lo hi).map absv).map (k * ·) := by
    rw [widths_scale, List.map_map, List.map_map]
    exact List.map_congr_left (fun x _ => absv_scale hk x)
  rw [this, listMax?_map (ordHom_mul hk).mono]
  cases listMax? ((widths n lo hi).map absv) <;> rfl

theorem l2sq_homogeneous (k : α) (n : Nat) (lo hi : Nat → α) :
    l2sq n (fun c => k * lo c) (fun c => k * hi c) = k ^ 2 * l2sq n lo hi := by
  unfold l2sq
  rw [widths_scale, List.map_map, ← listSum_scale, List.map_map]
  congr 1
  exact List.map_congr_left (fun x _ => by
    show k * x * (k * x) = k ^ 2 * (x * x)
    rw [mul_mul_mul_comm, ← sq])

theorem weightedGap_scale (k : α) (n : Nat) (lo hi : Nat → α) :
    C05.weightedGap n (fun c => k * lo c) (fun c => k * hi c) = k * C05.weightedGap n lo hi := by
  unfold C05.weightedGap
  rw [Finset.mul_sum]
  exact Finset.sum_congr rfl (fun c _ => by rw [← mul_sub, mul_div_assoc])

/-- `compute_exploitability` is linear in the two bound columns, so every `k` will do; it raises on the scaled table
    exactly when it raises on the table -/
theorem exploitability_homogeneous (k : α) (t : Table α) :
    (mapVals (k * ·) t).exploitability = Except.map (k * ·) t.exploitability := by
  cases hk : t.known (grand t.n) with
  | true =>
    rw [C05.identity t hk, C05.identity (mapVals (k * ·) t) hk]
    show Except.ok _ = Except.ok _
    congr 1
    show C05.weightedGap t.n (fun c => k * t.lo c) (fun c => k * t.hi c) - k * t.hi 0 = _
    rw [weightedGap_scale]
    exact (mul_sub k _ _).symm
  | false => rw [C05.undefined t hk, C05.undefined (mapVals (k * ·) t) hk]; rfl

end gaps

/-! ## 5. the hypotheses are satisfiable and the conclusions are not trivial -/

/-- `Rat` with core's instances is what the driver runs; the theorems, stated over an ordered field, apply to it -/
example (c : Rat) (hc : 0 < c) (rm : RM Rat) (t : List Rat) (u : List (List Nat)) :
    RM.iterate (α := Rat) (scaleRM c rm) (t.map (c * ·)) u =
      Except.map (scaleRM c) (RM.iterate (α := Rat) rm t u) :=
  iterate_scale (α := ℚ) hc rm t u

example (c : Rat) (hc : 0 < c) (m : Nat) (row : List Rat) (used : List Nat) :
    regretMatchingRow (α := Rat) m (row.map (c * ·)) used = regretMatchingRow (α := Rat) m row used :=
  regret_matching_row_scale (α := ℚ) hc m row used

/-- a row with a positive regret: the strategy is not uniform, and it is the same after scaling by
    `2^-30` — while a NEGATIVE factor changes it (so `c > 0` is needed) -/
example : regretMatchingRow (α := Rat) 3 [1/6, 1/6, 3/2] [] = .ok [1/11, 1/11, 9/11] ∧
    regretMatchingRow (α := Rat) 3 ([1/6, 1/6, 3/2].map ((1 / 2 ^ 30 : Rat) * ·)) [] = .ok [1/11, 1/11, 9/11] ∧
    regretMatchingRow (α := Rat) 3 ([1/6, 1/6, 3/2].map ((-1 : Rat) * ·)) [] = .ok [1/3, 1/3, 1/3] := by
  decide +kernel

/-- the uniform fallback, before and after scaling -/
example : regretMatchingRow (α := Rat) 3 [0, -1, -1/3] [1] = .ok [1/2, 0, 1/2] ∧
    regretMatchingRow (α := Rat) 3 ([0, -1, -1/3].map ((1 / 2 ^ 30 : Rat) * ·)) [1] = .ok [1/2, 0, 1/2] := by
  decide +kernel

/-- two iterations of the plus variant on `n = 3`, `limit = 2` with the repository's test vector, and the
    same with all terminal values multiplied by `2^-30`: the regrets are scaled (and are not all zero, so the
    two states differ), the root strategy is the non-uniform `[1/11, 1/11, 9/11]` in both, cumulative and
    average strategies agree -/
example : C14.holds (do
    let k : Rat := 1 / 2 ^ 30
    let u : List (List Nat) := [[3, 5], [5, 6], [3, 6]]
    let rm ← RM.new (α := Rat) Policy.repaired 3 2 true
    let a ← rm.iterate [1, 0, 0] u
    let a ← a.iterate [0, 2, 1] u
    let b ← rm.iterate ([1, 0, 0].map (k * ·)) u
    let b ← b.iterate ([0, 2, 1].map (k * ·)) u
    let σa ← a.regretMatching 0
    let σb ← b.regretMatching 0
    let avga ← a.averageStrategy []
    let avgb ← b.averageStrategy []
    pure (decide (b.regret = a.regret.map (List.map (k * ·)) ∧ a.regret ≠ b.regret ∧
      σa = [1/11, 1/11, 9/11] ∧ σb = σa ∧ a.strategy = b.strategy ∧
      avga = [0, 0, 0, 4/9, 0, 4/9, 1/9, 0] ∧ avgb = avga))) = true := by
  decide +kernel

/-- the same for the plain variant -/
example : C14.holds (do
    let k : Rat := 1 / 2 ^ 30
    let u : List (List Nat) := [[3, 5], [5, 6], [3, 6]]
    let rm ← RM.new (α := Rat) Policy.repaired 3 2 false
    let a ← rm.iterate [1, 0, 0] u
    let a ← a.iterate [0, 2, 1] u
    let b ← rm.iterate ([1, 0, 0].map (k * ·)) u
    let b ← b.iterate ([0, 2, 1].map (k * ·)) u
    let σa ← a.regretMatching 0
    let σb ← b.regretMatching 0
    pure (decide (b.regret = a.regret.map (List.map (k * ·)) ∧ a.regret ≠ b.regret ∧
      σb = σa ∧ σa ≠ [1/3, 1/3, 1/3] ∧ a.strategy = b.strategy))) = true := by
  decide +kernel

/-- `history_scale` applied: a constructed minimiser exists, so the theorem is not vacuous -/
example : ∃ rm : RM ℚ, RM.new Policy.repaired 3 2 true = .ok rm ∧
    ∀ h : History ℚ, ∀ rm', run rm h = .ok rm' →
      ∃ rm'', run rm (scaleHistory (1 / 2 ^ 30) h) = .ok rm'' ∧
        rm''.regret = rm'.regret.map (List.map ((1 / 2 ^ 30 : ℚ) * ·)) ∧ rm''.strategy = rm'.strategy := by
  obtain ⟨rm, hnew, _⟩ := C14.constructible_repaired (α := ℚ) (n := 3) (by decide) 2 true
  refine ⟨rm, hnew, fun h rm' hok => ?_⟩
  obtain ⟨rm'', h1, h2, _, _, h5, _⟩ := (history_scale (c := (1 / 2 ^ 30 : ℚ)) (one_div_pos.mpr (pow_pos two_pos 30)) hnew h).2 rm' hok
  exact ⟨rm'', h1, h2, h5⟩

/-! ### bounds -/

/-- rows `0 .. 7` (lower, upper) of a computed 3-player table; `[]` when the computer raised -/
def rowsOf (r : Except Err (Table Int)) : List (Int × Int) :=
  match r with
  | .ok t => (List.range 8).map (fun c => (t.lo c, t.hi c))
  | .error _ => []

/-- weights of an additive game with entries of both signs -/
def exW : Nat → Int := fun i => [5, -3, 2].getD i 0

open BoundsCommon in
/-- the hypotheses hold on the 3-player example tables -/
example :
    (∃ t', sa Ex.exT = .ok t' ∧ sa (mapVals (3 * ·) Ex.exT) = .ok (mapVals (3 * ·) t')) ∧
    (∃ t', sac Ex.exT = .ok t' ∧ sac (mapVals (3 * ·) Ex.exT) = .ok (mapVals (3 * ·) t')) ∧
    (∀ r, ∃ t', sam r Ex.samT = .ok t' ∧ sam r (mapVals (3 * ·) Ex.samT) = .ok (mapVals (3 * ·) t')) ∧
    (∃ t', sa Ex.exT = .ok t' ∧ sa (shiftTable 3 exW Ex.exT) = .ok (shiftTable 3 exW t')) ∧
    (∃ t', sac Ex.exT = .ok t' ∧ sac (shiftTable 3 exW Ex.exT) = .ok (shiftTable 3 exW t')) :=
  ⟨(computers_homogeneous (by decide) Ex.exT Ex.exT_min Ex.exT_agree.inv).1,
   (computers_homogeneous (by decide) Ex.exT Ex.exT_min Ex.exT_agree.inv).2.1,
   (computers_homogeneous (by decide) Ex.samT Ex.samT_min Ex.samT_agree.inv).2.2,
   (computers_shift 3 exW Ex.exT Ex.exT_min Ex.exT_agree.inv).1,
   (computers_shift 3 exW Ex.exT Ex.exT_min Ex.exT_agree.inv).2⟩

open BoundsCommon in
/-- the conclusions observed: the unknown rows 3, 5, 6 have proper intervals, which are multiplied by 3, resp. moved
    by `a(S)` (`a = (0, 5, -3, 2, 2, 7, -1, 4)` on the ids `0 .. 7`) -/
example :
    rowsOf (sa Ex.exT) = [(0, 0), (1, 1), (2, 2), (3, 8), (1, 1), (2, 7), (3, 8), (9, 9)] ∧
    rowsOf (sa (mapVals (3 * ·) Ex.exT)) =
      [(0, 0), (3, 3), (6, 6), (9, 24), (3, 3), (6, 21), (9, 24), (27, 27)] ∧
    rowsOf (sac (mapVals (3 * ·) Ex.exT)) =
      [(0, 0), (3, 3), (6, 6), (9, 24), (3, 3), (6, 21), (9, 24), (27, 27)] ∧
    rowsOf (sa (shiftTable 3 exW Ex.exT)) =
      [(0, 0), (6, 6), (-1, -1), (5, 10), (3, 3), (9, 14), (2, 7), (13, 13)] ∧
    rowsOf (sac (shiftTable 3 exW Ex.exT)) =
      [(0, 0), (6, 6), (-1, -1), (5, 10), (3, 3), (9, 14), (2, 7), (13, 13)] ∧
    rowsOf (sam 1 Ex.samT) = [(0, 0), (-1, -1), (-1, -1), (-2, -1), (-1, -1), (-2, -1), (-2, -1), (-2, -2)] ∧
    rowsOf (sam 1 (mapVals (3 * ·) Ex.samT)) =
      [(0, 0), (-3, -3), (-3, -3), (-6, -3), (-3, -3), (-6, -3), (-6, -3), (-6, -6)] := by
  decide +kernel

open BoundsCommon in
/-- **the SAM approximation is NOT shift equivariant** (why `computers_shift` stops at `sa`, `sac`): on the
    SAM example table shifted by `exW`, row 3 comes out as `(2, -4)`, the shifted result has `(0, 1)` -/
theorem sam_shift_fails :
    rowsOf (sam 0 (shiftTable 3 exW Ex.samT)) ≠ rowsOf (Except.map (shiftTable 3 exW) (sam 0 Ex.samT)) := by
  decide +kernel

/-! ### normalisation -/

def exG : Nat → Rat := fun c => [0, 1, 2, 4, 1, 3, 5, 9].getD c 0
/-- singletons `1, -1, 0` (sum 0), grand coalition 1: surplus 1, tolerance window `rtol · 0` -/
def exH : Nat → Rat := fun c => [0, 1, -1, 1, 0, 2, 0, 1].getD c 0

example (k rtol : Rat) (hk : k ≠ 0) (hr : 0 ≤ rtol) (n : Nat) (v : Nat → Rat) (c : Nat) :
    Norm.normVal (α := Rat) n rtol (fun c => k * v c) c = Norm.normVal (α := Rat) n rtol v c :=
  normVal_scale (α := ℚ) hk hr n v c

/-- a game outside the window: the normal form is the non-trivial `w / w(N)`, the same for `2^-30 • v`
    and for `-v`; and the same after a huge additive shift with `rtol = 0` -/
example :
    (List.range 8).map (Norm.normVal (α := Rat) 3 Norm.defaultRtol exG) = [0, 0, 0, 1/5, 0, 1/5, 2/5, 1] ∧
    (List.range 8).map (Norm.normVal (α := Rat) 3 Norm.defaultRtol (fun c => (1 / 2 ^ 30 : Rat) * exG c)) =
      [0, 0, 0, 1/5, 0, 1/5, 2/5, 1] ∧
    (List.range 8).map (Norm.normVal (α := Rat) 3 Norm.defaultRtol (fun c => (-1 : Rat) * exG c)) =
      [0, 0, 0, 1/5, 0, 1/5, 2/5, 1] ∧
    (List.range 8).map (Norm.normVal (α := Rat) 3 0 (fun c => exG c + Norm.bsum 3 (fun _ => (2 : Rat) ^ 40) c)) =
      [0, 0, 0, 1/5, 0, 1/5, 2/5, 1] := by
  decide +kernel

/-- **a shift DOES change the additivity test for `rtol > 0`**: `exH` has surplus 1 and singleton sum 0, so
    it is never additive up to `rtol`; shifted by 1000 per player the window is `rtol · 3000` and, with
    `rtol = 1/2`, the game is declared additive — the normal form changes from `w / w(N)` to 0.  This is
    why `normVal_shift_of_same_test` has its hypothesis. -/
example :
    Norm.normVal (α := Rat) 3 (1/2) exH 7 = 1 ∧
    Norm.normVal (α := Rat) 3 (1/2) (fun c => exH c + Norm.bsum 3 (fun _ => (1000 : Rat)) c) 7 = 0 ∧
    Norm.closedW (α := Rat) (fun c => exH c + Norm.bsum 3 (fun _ => (1000 : Rat)) c) 7 = Norm.closedW exH 7 := by
  decide +kernel

/-! ### gaps -/

/-- degree 1 for `l1`, degree 2 for `l2sq`, on bounds with non-zero widths -/
example :
    l1 (α := Rat) 3 (fun c => 3 * exG c) (fun c => 3 * (exG c + 1)) = 24 ∧ l1 (α := Rat) 3 exG (fun c => exG c + 1) = 8 ∧
    l2sq (α := Rat) 3 (fun c => 3 * exG c) (fun c => 3 * (exG c + 1)) = 72 ∧
    l2sq (α := Rat) 3 exG (fun c => exG c + 1) = 8 := by
  decide +kernel

end ICG.Equivariance

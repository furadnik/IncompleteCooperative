/-
  Extra check X-mul — the `multiplicative` sub-package: theorems about ICG.Model.Mul for every linearly ordered field
  `α` (ℚ and ℝ at once) and every number of players.

  multiplicative_factor.py: `factor` itself is characterised in Lemmas/MulFactor.lean; here the four functions on
  tables, their order relations, and NaN entries.
  max_xos_approximation.py, on complete games `okGet v`: that the square-root-free comparisons of the model mean what the
  code compares; `_approx_xos_subroutine`, `_max_subroutine` (its postcondition and termination: Lemmas/MulXos.lean),
  `_compute_approximation` entry by entry; the composition returns on the domain α > 0, β ≥ 1/2, ε > 0, v(∅) = 0,
  singletons ≥ 1 and is a lower bound of monotone submodular games.  FINDING: it is not a lower bound for monotone
  subadditive games, the class the code's docstring names (6 players at α = β = 1, ε = 1/8; 10 players at the default
  parameters); FINDING 2 (an `example`): for β < 1/2 the candidate loop repeats its state.  Three of the statements are
  repeated for `AtRat.*`, the instantiation at core `Rat` that the driver runs.
  Not covered by theorems: games with unknown coalitions / ids ≥ 2^n inside the Max-XOS routines (the model threads
  `get_value` errors through; the correspondence stream exercises the error paths), and float64 rounding.

  The fuels in the closed examples (13, 40, 100, 300, 400, 4100) are any numbers with `n < fuel·ε²`, the hypothesis of
  `maxSubroutine_terminates`; by `maxSubroutine_fuel_irrelevant` a larger one gives the same answer.  One example takes
  the fuel 2, which violates it, to show the out-of-fuel answer.
-/
import ICG.Lemmas.MulFactor
import ICG.Lemmas.MulCompose
import ICG.Lemmas.MulPin10
import Mathlib.Algebra.Order.Field.Rat

namespace ICG.Mul
open ICG

set_option linter.unusedSectionVars false
variable {α : Type} [Field α] [LinearOrder α] [IsStrictOrderedRing α]

/-! ## multiplicative_factor.py -/

example : factor [(3 : Rat), 4, 5] [1, 2, 2] = .ok 3 := by decide +kernel
example : factor [(3 : Rat), 4, 5] [1, 2, 6] = .error .assert := by decide +kernel
example : factor [(3 : Rat), 4, 5] [1, 0, 2] = .error .assert := by decide +kernel
example : factor ([] : List Rat) [] = .error .value := by decide +kernel
/-- numpy broadcasting: a one-player game against a two-player game is stretched, 0 against 2 players is ValueError -/
example : factor [(6 : Rat)] [1, 2, 3] = .ok 6 := by decide +kernel
example : factor ([] : List Rat) [1, 2, 3] = .error .value := by decide +kernel

/-! ### the four functions on tables -/

/-- `mul_factor_lower_upper_bound` -/
theorem lowerUpperBound_ok_iff (inc : Table α) (m : α) :
    lowerUpperBound inc = .ok m ↔
      GuardFn inc.n inc.hi inc.lo ∧ (∀ c, 0 < c → c < 2 ^ inc.n → inc.hi c ≤ m * inc.lo c) ∧
        (∃ c, 0 < c ∧ c < 2 ^ inc.n ∧ inc.hi c = m * inc.lo c) := by
  rw [lowerUpperBound_eq]; exact factorFn_result _ _ _ _

/-- a value read with `get_values()` in front of the factor: the table must be complete -/
theorem ite_full_eq_ok_iff {b : Bool} {x : Except Err α} {m : α} :
    (if b then x else .error .value) = .ok m ↔ b = true ∧ x = .ok m := by
  cases b <;> simp

/-- `mul_factor_to_lower_bound` (games with the same number of players) -/
theorem toLowerBound_ok_iff (game inc : Table α) (hn : game.n = inc.n) (m : α) :
    toLowerBound game inc = .ok m ↔
      game.full = true ∧ GuardFn inc.n game.hi inc.lo ∧
        (∀ c, 0 < c → c < 2 ^ inc.n → game.hi c ≤ m * inc.lo c) ∧
        (∃ c, 0 < c ∧ c < 2 ^ inc.n ∧ game.hi c = m * inc.lo c) := by
  rw [toLowerBound_eq game inc hn, ite_full_eq_ok_iff, factorFn_result]

/-- `mul_factor_upper_to_approximation` -/
theorem upperToApproximation_ok_iff (approx inc : Table α) (hn : approx.n = inc.n) (m : α) :
    upperToApproximation approx inc = .ok m ↔
      approx.full = true ∧ GuardFn inc.n inc.hi approx.hi ∧
        (∀ c, 0 < c → c < 2 ^ inc.n → inc.hi c ≤ m * approx.hi c) ∧
        (∃ c, 0 < c ∧ c < 2 ^ inc.n ∧ inc.hi c = m * approx.hi c) := by
  rw [upperToApproximation_eq approx inc hn, ite_full_eq_ok_iff, factorFn_result]

/-- `mul_factor_to_approximation` -/
theorem toApproximation_ok_iff (game approx : Table α) (hn : game.n = approx.n) (m : α) :
    toApproximation game approx = .ok m ↔
      approx.full = true ∧ game.full = true ∧ GuardFn game.n game.hi approx.hi ∧
        (∀ c, 0 < c → c < 2 ^ game.n → game.hi c ≤ m * approx.hi c) ∧
        (∃ c, 0 < c ∧ c < 2 ^ game.n ∧ game.hi c = m * approx.hi c) := by
  rw [toApproximation_eq game approx hn, ite_full_eq_ok_iff, ite_full_eq_ok_iff, factorFn_result]

/-- `get_values()` raises ValueError unless every coalition is known — whatever the other argument is -/
theorem toLowerBound_unknown (game inc : Table α) (h : game.full = false) :
    toLowerBound game inc = .error .value := by
  unfold toLowerBound; rw [getValues_none, h]; rfl

theorem upperToApproximation_unknown (approx inc : Table α) (h : approx.full = false) :
    upperToApproximation approx inc = .error .value := by
  unfold upperToApproximation; rw [getValues_none, h]; rfl

theorem toApproximation_unknown (game approx : Table α) (h : approx.full = false ∨ game.full = false) :
    toApproximation game approx = .error .value := by
  unfold toApproximation
  rw [getValues_none, getValues_none]
  rcases h with h | h
  · rw [h]; rfl
  · rw [h]; cases approx.full <;> rfl

/-- for `0 < lower ≤ v ≤ upper`: `mul_factor_lower_upper_bound ≥ mul_factor_to_lower_bound(v)`, both succeed -/
theorem lowerUpper_ge_toLower (game inc : Table α) (hn : game.n = inc.n) (hn0 : inc.n ≠ 0)
    (hfull : game.full = true) (hpos : ∀ c, 0 < c → c < 2 ^ inc.n → 0 < inc.lo c)
    (hlo : ∀ c, 0 < c → c < 2 ^ inc.n → inc.lo c ≤ game.hi c)
    (hhi : ∀ c, 0 < c → c < 2 ^ inc.n → game.hi c ≤ inc.hi c) :
    ∃ m₁ m₂, lowerUpperBound inc = .ok m₁ ∧ toLowerBound game inc = .ok m₂ ∧ m₂ ≤ m₁ := by
  rw [lowerUpperBound_eq, toLowerBound_eq game inc hn, if_pos hfull]
  exact factorFn_both_ok_of_le hn0 ⟨hlo, hpos⟩ hhi

/-- for `0 < approx ≤ v ≤ upper`: `mul_factor_upper_to_approximation ≥ mul_factor_to_approximation(v)` -/
theorem upperApprox_ge_toApprox (game approx inc : Table α) (hn : game.n = inc.n) (hna : approx.n = inc.n)
    (hn0 : inc.n ≠ 0) (hfull : game.full = true) (hafull : approx.full = true)
    (hpos : ∀ c, 0 < c → c < 2 ^ inc.n → 0 < approx.hi c)
    (hlo : ∀ c, 0 < c → c < 2 ^ inc.n → approx.hi c ≤ game.hi c)
    (hhi : ∀ c, 0 < c → c < 2 ^ inc.n → game.hi c ≤ inc.hi c) :
    ∃ m₁ m₂, upperToApproximation approx inc = .ok m₁ ∧ toApproximation game approx = .ok m₂ ∧ m₂ ≤ m₁ := by
  rw [upperToApproximation_eq approx inc hna, toApproximation_eq game approx (hn.trans hna.symm), if_pos hafull,
    if_pos hafull, if_pos hfull, hn]
  exact factorFn_both_ok_of_le hn0 ⟨hlo, hpos⟩ hhi

/-- chain rule: `max upper/approx ≤ (max upper/lower)·(max lower/approx)` -/
theorem upperApprox_le_chain {n : Nat} {hi lo a : Nat → α} {m₁ m₂ m₃ : α}
    (h₁ : factorFn n hi lo = .ok m₁) (h₂ : factorFn n lo a = .ok m₂) (h₃ : factorFn n hi a = .ok m₃) :
    m₃ ≤ m₁ * m₂ := by
  obtain ⟨-, hub1, -⟩ := (factorFn_result n hi lo m₁).mp h₁
  obtain ⟨-, hub2, -⟩ := (factorFn_result n lo a m₂).mp h₂
  have hm : 0 ≤ m₁ := le_trans zero_le_one (factorFn_ge_one h₁)
  refine factorFn_least h₃ _ ?_
  intro d h0 hd
  calc hi d ≤ m₁ * lo d := hub1 d h0 hd
    _ ≤ m₁ * (m₂ * a d) := mul_le_mul_of_nonneg_left (hub2 d h0 hd) hm
    _ = m₁ * m₂ * a d := (mul_assoc _ _ _).symm

/-! #### a concrete 2-player instance: 0 < a ≤ lo ≤ v ≤ hi on the coalitions 1, 2, 3 -/

def exVec (l : List Rat) : Nat → Rat := fun c => l.getD c 0
def exInc : Table Rat := { n := 2, known := fun c => c == 0, lo := exVec [0, 1, 2, 2], hi := exVec [0, 3, 4, 5] }
def exGame : Table Rat := { n := 2, known := fun _ => true, lo := exVec [0, 2, 3, 4], hi := exVec [0, 2, 3, 4] }
def exApprox : Table Rat := { n := 2, known := fun _ => true, lo := exVec [0, 1 / 2, 1, 2], hi := exVec [0, 1 / 2, 1, 2] }

example : lowerUpperBound exInc = .ok 3 := by decide +kernel
example : toLowerBound exGame exInc = .ok 2 := by decide +kernel
example : upperToApproximation exApprox exInc = .ok 6 := by decide +kernel
example : toApproximation exGame exApprox = .ok 4 := by decide +kernel
example : toLowerBound exInc exInc = .error .value := by decide +kernel          -- unknown coalitions
example : lowerUpperBound ({ n := 0, known := fun _ => true, lo := exVec [0], hi := exVec [0] } : Table Rat)
    = .error .value := by decide +kernel                                          -- n = 0
example : ∃ m₁ m₂, lowerUpperBound exInc = .ok m₁ ∧ toLowerBound exGame exInc = .ok m₂ ∧ m₂ ≤ m₁ :=
  lowerUpper_ge_toLower exGame exInc rfl (by decide) (by decide +kernel)
    (fun c h0 hc => (by decide +kernel : ∀ c, c < 4 → 0 < c → 0 < exInc.lo c) c hc h0)
    (fun c _ hc => (by decide +kernel : ∀ c, c < 4 → exInc.lo c ≤ exGame.hi c) c hc)
    (fun c _ hc => (by decide +kernel : ∀ c, c < 4 → exGame.hi c ≤ exInc.hi c) c hc)
example : ∃ m₁ m₂, upperToApproximation exApprox exInc = .ok m₁ ∧ toApproximation exGame exApprox = .ok m₂ ∧ m₂ ≤ m₁ :=
  upperApprox_ge_toApprox exGame exApprox exInc rfl rfl (by decide) (by decide +kernel) (by decide +kernel)
    (fun c h0 hc => (by decide +kernel : ∀ c, c < 4 → 0 < c → 0 < exApprox.hi c) c hc h0)
    (fun c _ hc => (by decide +kernel : ∀ c, c < 4 → exApprox.hi c ≤ exGame.hi c) c hc)
    (fun c _ hc => (by decide +kernel : ∀ c, c < 4 → exGame.hi c ≤ exInc.hi c) c hc)

/-! ### NaN entries -/

/-- on vectors without NaN the NaN-aware function is `factor` -/
theorem factorN_finite (num den : List α) : factorN (num.map some) (den.map some) = factor num den := by
  unfold factorN factor
  rw [broadcast_map]
  cases hb : broadcast num den with
  | error e => rfl
  | ok pairs =>
    simp only [Except.map, List.all_map, Function.comp_def, Prod.map, geN, posN, List.map_map, quotN]
    have : (List.map (fun x => some (x.1 / x.2)) pairs) = (pairs.map (fun p => p.1 / p.2)).map some := by
      rw [List.map_map]; rfl
    rw [this, allSome_map_some]

/-- a NaN never reaches `np.max` -/
theorem factorN_never_nan (num den : List (Option α)) : factorN num den ≠ .error .nan := by
  unfold factorN
  cases hb : broadcast num den with
  | error e =>
    intro h
    have : e = .nan := by simpa using h
    subst this
    unfold broadcast at hb
    split at hb
    · cases hb
    · split at hb <;> cases hb
  | ok pairs =>
    dsimp only
    by_cases h1 : pairs.all (fun p => geN p.1 p.2) = true
    · rw [if_pos h1]
      by_cases h2 : den.all posN = true
      · rw [if_pos h2]
        have : ∀ x ∈ pairs.map quotN, x ≠ none := by
          intro x hx
          obtain ⟨p, hp, rfl⟩ := List.mem_map.mp hx
          have hge := List.all_eq_true.mp h1 p hp
          obtain ⟨a, b⟩ := p
          cases a <;> cases b <;> simp [geN] at hge
          simp [quotN]
        obtain ⟨r, hr⟩ := allSome_isSome_of _ this
        rw [hr]
        split
        · rename_i heq; cases heq
        · split <;> simp
      · rw [if_neg h2]; simp
    · rw [if_neg h1]; simp

theorem getElem_pair_mem_zip {β γ : Type} {a : List β} {b : List γ} {i : Nat} (hi : i < a.length)
    (hi' : i < b.length) : (a[i], b[i]) ∈ a.zip b := by
  have : (a.zip b)[i]'(by rw [List.length_zip]; omega) = (a[i], b[i]) := List.getElem_zip
  exact this ▸ List.getElem_mem _

/-- a NaN anywhere in two vectors of equal length: AssertionError -/
theorem factorN_nan_assert {num den : List (Option α)} (hlen : num.length = den.length)
    (h : none ∈ num ∨ none ∈ den) : factorN num den = .error .assert := by
  unfold factorN
  rw [broadcast_of_length_eq hlen]
  dsimp only
  by_cases h1 : (num.zip den).all (fun p => geN p.1 p.2) = true
  · exfalso
    have hall := List.all_eq_true.mp h1
    -- the row that holds the NaN fails `>=`
    rcases h with h | h
    · obtain ⟨i, hi, hget⟩ := List.getElem_of_mem h
      have := hall _ (getElem_pair_mem_zip hi (hlen ▸ hi))
      rw [hget] at this
      simp [geN] at this
    · obtain ⟨i, hi, hget⟩ := List.getElem_of_mem h
      have := hall _ (getElem_pair_mem_zip (hlen ▸ hi) hi)
      rw [hget] at this
      cases num[i] <;> simp [geN] at this
  · rw [if_neg h1]

example : factorN [some (3 : Rat), none, some 5] [some 1, some 2, some 2] = .error .assert := by decide +kernel
example : factorN [some (3 : Rat), some 4, some 5] [some 1, some 2, some 2] = .ok 3 := by decide +kernel

/-! ## max_xos_approximation.py -/

/-! ### the comparisons that involve `sqrt(n)` -/

theorem le_iff_sq_of_nonneg {t x : α} (ht : 0 ≤ t) : t ≤ x ↔ 0 ≤ x ∧ t * t ≤ x * x :=
  ⟨fun h => ⟨le_trans ht h, mul_self_le_mul_self ht h⟩,
   fun h => (mul_self_le_mul_self_iff ht h.1).mpr h.2⟩

theorem le_iff_sq_of_nonpos {t x : α} (ht : t ≤ 0) : t ≤ x ↔ 0 ≤ x ∨ x * x ≤ t * t := by
  rcases le_or_gt 0 x with hx | hx
  · exact ⟨fun _ => Or.inl hx, fun _ => le_trans ht hx⟩
  · rw [← neg_le_neg_iff, mul_self_le_mul_self_iff (neg_nonneg.mpr hx.le) (neg_nonneg.mpr ht), neg_mul_neg, neg_mul_neg]
    exact ⟨Or.inr, fun h => h.resolve_left (not_le.mpr hx)⟩

/-- `geSqrt x c n` decides `x ≥ c·√n`: for every `s ≥ 0` with `s² = n` -/
theorem geSqrt_iff (x c : α) (n : Nat) (s : α) (hs : 0 ≤ s) (hss : s * s = (n : α)) :
    geSqrt x c n = true ↔ c * s ≤ x := by
  unfold geSqrt
  rw [show c * c * (n : α) = (c * s) * (c * s) by rw [← hss, mul_mul_mul_comm]]
  by_cases hc : 0 ≤ c
  · rw [if_pos hc, le_iff_sq_of_nonneg (mul_nonneg hc hs), Bool.and_eq_true, decide_eq_true_eq, decide_eq_true_eq]
  · rw [if_neg hc, le_iff_sq_of_nonpos (mul_nonpos_of_nonpos_of_nonneg (not_le.mp hc).le hs), Bool.or_eq_true,
      decide_eq_true_eq, decide_eq_true_eq]

/-- the real number a k-value stands for, given `s = √n` -/
def kValue (n : Nat) (s : α) : KVal → α
  | .sqrtMul k => (2 : α) ^ k * s
  | .full => (n : α)

theorem cast_four_pow (k : Nat) : ((4 ^ k : Nat) : α) = (2 : α) ^ k * (2 : α) ^ k := by
  rw [← mul_pow, Nat.cast_pow]; norm_num

/-- `len(constructed) + 1 >= k_value`: `KVal.reached` means `m ≥ 2^k·√n` resp. `m ≥ n` -/
theorem reached_iff (n : Nat) (kv : KVal) (m : Nat) (s : α) (hs : 0 ≤ s) (hss : s * s = (n : α)) :
    kv.reached n m = true ↔ kValue n s kv ≤ (m : α) := by
  cases kv with
  | full => exact decide_eq_true_iff.trans Nat.cast_le.symm
  | sqrtMul k =>
    show decide (4 ^ k * n ≤ m * m) = true ↔ (2 : α) ^ k * s ≤ (m : α)
    rw [decide_eq_true_iff, le_iff_sq_of_nonneg (mul_nonneg (pow_nonneg zero_le_two k) hs), ← Nat.cast_le (α := α),
      Nat.cast_mul, Nat.cast_mul, cast_four_pow, ← hss]
    rw [mul_mul_mul_comm ((2 : α) ^ k) s]
    exact (and_iff_right (Nat.cast_nonneg m)).symm

/-- `_get_k_r_values`: the k-values are `2^k·√n` for exactly the exponents with `4^k < n` (then `n`), the r-values the
    powers of two below `n²` (then `n²`) -/
theorem kr_values (n : Nat) :
    (∀ k, k ∈ kExps n ↔ 4 ^ k < n) ∧ (∀ rv, rv ∈ rVals n ↔ (∃ r, rv = 2 ^ r ∧ 2 ^ r < n ^ 2) ∨ rv = n ^ 2) :=
  ⟨fun _ => mem_kExps, fun _ => mem_rVals⟩

/-- what is abstracted in the loop test of `_get_k_r_values`: over the reals `2^k·√n < n ⇔ 4^k < n` -/
theorem kr_loop_test (n k : Nat) (s : α) (hs : 0 ≤ s) (hss : s * s = (n : α)) :
    (2 : α) ^ k * s < (n : α) ↔ 4 ^ k < n := by
  have h2 : (0 : α) ≤ (2 : α) ^ k := pow_nonneg zero_le_two k
  rw [← Nat.cast_lt (α := α), cast_four_pow, ← hss, ← mul_self_lt_mul_self_iff h2 hs]
  rcases hs.eq_or_lt with rfl | hpos
  · rw [mul_zero, mul_zero]; exact ⟨fun h => absurd h (lt_irrefl _), fun h => absurd h (not_lt.mpr h2)⟩
  · exact mul_lt_mul_iff_of_pos_right hpos

example : kVals 10 = [.sqrtMul 0, .sqrtMul 1, .full] ∧ rVals 10 = [1, 2, 4, 8, 16, 32, 64, 100] := by decide +kernel
example : kVals 0 = [.full] ∧ rVals 0 = [0] ∧ kVals 4 = [.sqrtMul 0, .full] ∧ rVals 1 = [1] := by decide +kernel
/-- the loop index of the r-axis never exceeds the r-value it stands for (`new_value` uses the index) -/
example : ∀ (j rv : Nat), (rVals 7)[j]? = some rv → j ≤ rv := fun j rv => index_le_rVals 7 j rv

/-! ### `_approx_xos_subroutine` -/

section group
variable {β : Type} [AddCommGroup β]

/-- the additive vector holds the marginal contributions along the players of the coalition in increasing order;
    the queried ids are exactly the prefixes `c % 2^(p+1)` -/
theorem approxXos_spec (v : Nat → β) (c : Nat) :
    approxXos (okGet v) c =
      .ok ((players c).map (fun p => (p, v (c % 2 ^ (p + 1)) - v (c % 2 ^ p))),
           (players c).map (fun p => c % 2 ^ (p + 1))) := approxXos_okGet v c

/-- telescoping: the additive vector sums to `v(coalition) − v(∅)` -/
theorem approxXos_sum (v : Nat → β) (c : Nat) :
    ∃ av q, approxXos (okGet v) c = .ok (av, q) ∧ (av.map Prod.snd).sum = v c - v 0 := by
  refine ⟨_, _, approxXos_okGet v c, ?_⟩
  rw [List.map_map]
  exact marginals_sum_players v c

/-- the queried ids: one per player, the prefix of the coalition up to and including that player; the last one is
    the coalition itself -/
theorem approxXos_queried_prefixes (v : Nat → β) (c : Nat) :
    ∃ av q, approxXos (okGet v) c = .ok (av, q) ∧ q.length = size c ∧
      (∀ x ∈ q, x &&& c = x ∧ x ≠ 0) ∧ (c ≠ 0 → q.getLast? = some c) := by
  refine ⟨_, _, approxXos_okGet v c, ?_, ?_, ?_⟩
  · rw [List.length_map, size_eq_length_players]
  · intro x hx
    obtain ⟨p, hp, rfl⟩ := List.mem_map.mp hx
    refine ⟨sub_of_testBit fun i hi => ?_, fun h0 => ?_⟩
    · rw [Nat.testBit_mod_two_pow, Bool.and_eq_true] at hi
      exact hi.2
    · have : (c % 2 ^ (p + 1)).testBit p = true := by
        rw [Nat.testBit_mod_two_pow, mem_players.mp hp, decide_eq_true (Nat.lt_succ_self p)]; rfl
      rw [h0, Nat.zero_testBit] at this
      cases this
  · intro hc
    -- the last player `p` of the increasing list is the largest: no bit of `c` above it
    obtain ⟨l, p, hl⟩ := (List.eq_nil_or_concat (players c)).resolve_left (players_ne_nil hc)
    have hs := players_pairwise c
    rw [List.concat_eq_append] at hl
    rw [hl, List.map_append, List.map_singleton, List.getLast?_concat, Option.some.injEq]
    refine mod_two_pow_eq_self_of_no_high fun i hi => Bool.eq_false_iff.mpr fun hci => ?_
    have hmem := mem_players.mpr hci
    rw [hl] at hmem hs
    rcases List.mem_append.mp hmem with h | h
    · have := (List.pairwise_append.mp hs).2.2 i h p List.mem_cons_self
      omega
    · have := List.mem_singleton.mp h
      omega

end group

example : approxXos (okGet (exVec [0, 1, 2, 6, 3, 4, 8, 12])) 5 = .ok ([(0, 1), (2, 3)], [1, 5]) := by decide +kernel
example : approxXos (okGet (exVec [0, 1, 2, 6, 3, 4, 8, 12])) 7 = .ok ([(0, 1), (1, 5), (2, 6)], [1, 3, 7]) := by
  decide +kernel

/-! ### `_max_subroutine` -/

/-- integer `size = s`: the result has at most `s − 1` players (or is empty): `len(result) + 1 ≤ max(s, 1)` -/
theorem maxSubroutine_size_int (v : Nat → α) (n coalition s : Nat) (eps : α) (fuel : Nat) (r : Nat) (qs : List Nat)
    (h : maxSubroutine (okGet v) n coalition (fun m => decide (s ≤ m)) eps fuel = .ok (r, qs)) :
    size r + 1 ≤ max s 1 := by
  rcases (maxSubroutine_result v n coalition _ eps fuel r qs h).2.1 with h0 | h0
  · rw [h0, size_zero]; omega
  · have : ¬ s ≤ size r := of_decide_eq_false h0
    omega

/-- `size` a k-value: `len(result) < 2^k·√n` resp. `< n` (or the result is empty) -/
theorem maxSubroutine_size_kval (v : Nat → α) (n coalition : Nat) (kv : KVal) (eps : α) (fuel : Nat) (r : Nat)
    (qs : List Nat) (h : maxSubroutine (okGet v) n coalition (kv.reached n) eps fuel = .ok (r, qs)) :
    r = 0 ∨ (match kv with
             | .sqrtMul k => size r * size r < 4 ^ k * n
             | .full => size r < n) := by
  rcases (maxSubroutine_result v n coalition _ eps fuel r qs h).2.1 with h0 | h0
  · exact Or.inl h0
  · right
    cases kv with
    | sqrtMul k => exact Nat.lt_of_not_le (of_decide_eq_false h0)
    | full => exact Nat.lt_of_not_le (of_decide_eq_false h0)

/-- the answer does not depend on the fuel once it suffices -/
theorem maxSubroutine_fuel_irrelevant (get : Nat → Except Err α) (n coalition : Nat) (reached : Nat → Bool) (eps : α)
    {fuel fuel' : Nat} (hle : fuel ≤ fuel') (res : Nat × List Nat)
    (h : maxSubroutine get n coalition reached eps fuel = .ok res) :
    maxSubroutine get n coalition reached eps fuel' = .ok res := by
  -- every branch of the definition but the last, the call of `maxLoop`, is the same for both fuels
  revert h
  unfold maxSubroutine
  split
  · exact id
  split
  · exact id
  split
  · split
    · exact id
    · split
      · exact id
      · exact maxLoop_fuel_le get coalition reached _ _ _ _ hle _ _ res
  · exact id

theorem maxSubroutine_empty (get : Nat → Except Err α) (n : Nat) (reached : Nat → Bool) (eps : α) (fuel : Nat) :
    maxSubroutine get n 0 reached eps fuel = .ok (0, []) := rfl

/-- a singleton value below 1 inside the coalition: AssertionError -/
theorem maxSubroutine_assertion (v : Nat → α) (n coalition : Nat) (reached : Nat → Bool) (eps : α) (fuel : Nat)
    (hc : coalition ≠ 0) (h1 : ∃ p ∈ players coalition, v (singleton p) < 1) :
    maxSubroutine (okGet v) n coalition reached eps fuel = .error .assert := by
  unfold maxSubroutine
  rw [if_neg hc, singles_okGet]
  dsimp only
  obtain ⟨p, hp, hlt⟩ := h1
  rw [if_neg (fun h => not_le.mpr hlt ((all_singles_ge_one v _).mp h p hp))]

def exV3 : Nat → Rat := exVec [0, 1, 2, 6, 3, 4, 8, 12]
/-- on `exV3` the greedy with eps = 1/2 and size 3 keeps {1, 2}; size 2 keeps one player -/
example : maxSubroutine (okGet exV3) 3 7 (fun m => decide (3 ≤ m)) (1 / 2) 13 = .ok (6, [1, 2, 4, 5, 6]) := by
  decide +kernel
example : maxSubroutine (okGet exV3) 3 7 (fun m => decide (2 ≤ m)) (1 / 2) 13 = .ok (4, [1, 2, 4]) := by
  decide +kernel
example : maxSubroutine (okGet exV3) 3 7 (fun m => decide (1 ≤ m)) (1 / 2) 13 = .ok (0, []) := by decide +kernel
/-- too little fuel is reported, never silently truncated -/
example : maxSubroutine (okGet exV3) 3 7 (fun m => decide (4 ≤ m)) (1 / 2) 2 = .error .other := by decide +kernel
example : ∃ res, maxSubroutine (okGet exV3) 3 7 (fun m => decide (4 ≤ m)) (1 / 2) 13 = .ok res :=
  maxSubroutine_terminates exV3 3 7 _ (1 / 2) 13 (by decide)
    (by decide +kernel) (by decide +kernel) (by decide +kernel)

/-! ### `_compute_approximation` -/

theorem approximation_empty {v : Nat → α} {n : Nat} {cands : List (List (List Nat))} {alpha beta : α}
    (h1 : ∀ p, p < n → 1 ≤ v (singleton p)) (hu : ((4 : Nat) : α) * alpha * beta ≠ 0) {vals : List α}
    (h : computeApproximation (okGet v) n cands alpha beta = .ok vals) : vals[0]? = some 0 := by
  rw [approximation_entry h1 hu h (Nat.two_pow_pos n)]; simp

/-- the value of a coalition is at least every singleton value inside it -/
theorem approximation_ge_singleton {v : Nat → α} {n : Nat} {cands : List (List (List Nat))} {alpha beta : α}
    (h1 : ∀ p, p < n → 1 ≤ v (singleton p)) (hu : ((4 : Nat) : α) * alpha * beta ≠ 0) {vals : List α}
    (h : computeApproximation (okGet v) n cands alpha beta = .ok vals) {c p : Nat} (hc : c < 2 ^ n)
    (hp : c.testBit p = true) : ∃ x, vals[c]? = some x ∧ v (singleton p) ≤ x := by
  have h0 : c ≠ 0 := by rintro rfl; simp at hp
  refine ⟨_, approximation_entry h1 hu h hc, ?_⟩
  rw [if_neg h0]
  exact le_trans (le_msOf v hp) (le_approxValue_self _ _ _ _)

/-- the value of a coalition is at least `len(cand & coalition)·r/(4αβ)` for every candidate of a cell with index `r` -/
theorem approximation_ge_candidate {v : Nat → α} {n : Nat} {cands : List (List (List Nat))} {alpha beta : α}
    (h1 : ∀ p, p < n → 1 ≤ v (singleton p)) (hu : ((4 : Nat) : α) * alpha * beta ≠ 0) {vals : List α}
    (h : computeApproximation (okGet v) n cands alpha beta = .ok vals) {c r cand : Nat} (hc : c < 2 ^ n) (h0 : c ≠ 0)
    (hin : InCell cands r cand) :
    ∃ x, vals[c]? = some x ∧ ((size (inter cand c) * r : Nat) : α) / (((4 : Nat) : α) * alpha * beta) ≤ x := by
  refine ⟨_, approximation_entry h1 hu h hc, ?_⟩
  rw [if_neg h0]
  exact newValue_le_approxValue _ _ _ _ hin

/-- monotone with respect to inclusion when `4αβ > 0` -/
theorem approximation_monotone {v : Nat → α} {n : Nat} {cands : List (List (List Nat))} {alpha beta : α}
    (h1 : ∀ p, p < n → 1 ≤ v (singleton p)) (hu : 0 < ((4 : Nat) : α) * alpha * beta) {vals : List α}
    (h : computeApproximation (okGet v) n cands alpha beta = .ok vals) {c c' : Nat} (hc' : c' < 2 ^ n)
    (hsub : c &&& c' = c) : ∃ x y, vals[c]? = some x ∧ vals[c']? = some y ∧ x ≤ y := by
  have hc : c < 2 ^ n := lt_of_le_of_lt (sub_le hsub) hc'
  refine ⟨_, _, approximation_entry h1 hu.ne' h hc, approximation_entry h1 hu.ne' h hc', ?_⟩
  by_cases h0 : c = 0
  · rw [if_pos h0]
    by_cases h0' : c' = 0
    · rw [if_pos h0']
    · rw [if_neg h0']
      obtain ⟨p, hp, he⟩ := msOf_mem v h0'
      have hp' : p < n := lt_of_testBit hc' hp
      calc (0 : α) ≤ 1 := zero_le_one
        _ ≤ v (singleton p) := h1 p hp'
        _ = msOf v c' := he.symm
        _ ≤ _ := le_approxValue_self _ _ _ _
  · have h0' : c' ≠ 0 := by
      rintro rfl
      exact h0 (by simpa using hsub.symm)
    rw [if_neg h0, if_neg h0']
    exact approxValue_mono hu cands hsub (msOf_mono v hsub h0)

/-- lower bound for monotone submodular games with `v(∅) ≥ 0`: if every candidate of cell `r` lies inside a coalition
    along whose id order each of its players has a marginal contribution ≥ `r/(4αβ)` (`Witnessed`), then no entry
    exceeds the game -/
theorem approximation_lower_bound_submodular {v : Nat → α} {n : Nat} (hv : MonoSubmod n v)
    {cands : List (List (List Nat))} {alpha beta : α} (h1 : ∀ p, p < n → 1 ≤ v (singleton p))
    (hu : ((4 : Nat) : α) * alpha * beta ≠ 0) (hw : Witnessed n v (((4 : Nat) : α) * alpha * beta) cands)
    {vals : List α} (h : computeApproximation (okGet v) n cands alpha beta = .ok vals) {c : Nat} (hc : c < 2 ^ n) :
    ∃ x, vals[c]? = some x ∧ x ≤ v c := by
  refine ⟨_, approximation_entry h1 hu h hc, ?_⟩
  by_cases h0 : c = 0
  · rw [if_pos h0, h0]; exact hv.empty
  · rw [if_neg h0]; exact approxValue_le_game hv hw hc h0

/-- the candidate {0,1,2} in cell r = 2 gives `|S ∩ {0,1,2}|·2/(4αβ)`: with α = 1 below the singletons everywhere,
    with α = 1/4 it beats them on {0}, {0,1}, {0,2}, {1,2}, {0,1,2} -/
example : computeApproximation (okGet exV3) 3 [[[], [], [7]]] 1 1 = .ok [0, 1, 2, 2, 3, 3, 3, 3] := by decide +kernel
example : computeApproximation (okGet exV3) 3 [[[], [], [7]]] (1 / 4) 1 = .ok [0, 2, 2, 4, 3, 4, 4, 6] := by
  decide +kernel
example : computeApproximation (okGet (exVec [0, 1 / 2, 2, 6, 3, 4, 8, 12])) 3 [] 1 1 = .error .assert := by
  decide +kernel

/-! ### the composition `compute_max_xos_approximation` -/

/-- the whole computation returns on the domain `n > 0, v(∅) = 0, singletons ≥ 1, α > 0, β ≥ 1/2, ε > 0`
    with `n < fuel·ε²`: it returns a pair (no `Err.other`: neither out of fuel nor a repeating loop state) -/
theorem maxXos_returns {n : Nat} {v : Nat → α} {alpha beta eps : α} {fuelMax : Nat}
    (hd : Domain n v alpha beta eps fuelMax) :
    ∃ q vals, maxXos (okGet v) n alpha beta eps fuelMax = .ok (q, vals) := by
  obtain ⟨arr, q, hc⟩ := candidates_returns hd
  have hu : (0 : α) < ((4 : Nat) : α) * alpha * beta :=
    mul_pos (mul_pos (Nat.cast_pos.mpr (by omega)) hd.alpha_pos) (lt_of_lt_of_le (by norm_num) hd.beta_ge)
  exact ⟨q, _, maxXos_eq_ok_iff.mpr ⟨arr, hc, approximation_vector v n arr alpha beta hd.singles hu.ne'⟩⟩

/-- what incomplete_cooperative/tests/test_multiplicative.py (`test_is_lower_bound`, on coverage and budget games) checks,
    proved for monotone SUBMODULAR games: the approximated game is a lower bound -/
theorem maxXos_lower_bound_submodular {n : Nat} {v : Nat → α} (hv : MonoSubmod n v) {alpha beta eps : α}
    {fuelMax : Nat} (ha : 0 < alpha) (hb : 0 < beta) (h1 : ∀ p, p < n → 1 ≤ v (singleton p))
    {q : List Nat} {vals : List α} (h : maxXos (okGet v) n alpha beta eps fuelMax = .ok (q, vals)) :
    ∀ c, c < 2 ^ n → ∃ x, vals[c]? = some x ∧ x ≤ v c := by
  have hu : (0 : α) < ((4 : Nat) : α) * alpha * beta := mul_pos (mul_pos (Nat.cast_pos.mpr (by omega)) ha) hb
  obtain ⟨arr, hc, ha'⟩ := maxXos_eq_ok_iff.mp h
  exact fun c hcl => approximation_lower_bound_submodular hv h1 hu.ne'
    (candidates_witnessed v n alpha beta eps fuelMax hu arr q hc) ha' hcl

/-- coverage of the items {x} and {x, y} (weights 1 and 2) by players 0 and 1: v = (0, 1, 3, 3) — monotone and
    submodular, not additive -/
def cov2 : Nat → Rat := exVec [0, 1, 3, 3]

theorem cov2_monoSubmod : MonoSubmod 2 cov2 where
  mono := fun a b hab hb =>
    (by decide +kernel : ∀ b, b < 4 → ∀ a, a < 4 → a &&& b = a → cov2 a ≤ cov2 b) b hb a
      (lt_of_le_of_lt (sub_le hab) hb) hab
  submod := fun a b p hab hb hp hbp =>
    (by decide +kernel : ∀ b, b < 4 → ∀ a, a < 4 → ∀ p, p < 2 → a &&& b = a → b.testBit p = false →
      cov2 (addPlayer b p) - cov2 b ≤ cov2 (addPlayer a p) - cov2 a) b hb a (lt_of_le_of_lt (sub_le hab) hb) p hp hab hbp
  empty := by decide +kernel

example : maxXos (okGet cov2) 2 1 1 (1 / 4) 40 = .ok ([1, 2], [0, 1, 3, 3]) := by decide +kernel
example : ∀ c, c < 2 ^ 2 → ∃ x, [(0 : Rat), 1, 3, 3][c]? = some x ∧ x ≤ cov2 c :=
  maxXos_lower_bound_submodular cov2_monoSubmod (by decide +kernel) (by decide +kernel)
    (by decide +kernel)
    (by decide +kernel : maxXos (okGet cov2) 2 1 1 (1 / 4) 40 = .ok ([1, 2], [0, 1, 3, 3]))
example : Domain 2 cov2 1 1 (1 / 4) 40 where
  n_pos := by decide
  empty := by decide +kernel
  singles := by decide +kernel
  alpha_pos := by decide +kernel
  beta_ge := by decide +kernel
  eps_pos := by decide +kernel
  fuel := by decide +kernel

/-- FINDING 2 — outside that domain (β < 1/2) the `while` loop of a cell can repeat its state.  Here, in the cell with
    k-value √3 and r-value 9, `_max_subroutine` returns {0}; `v({0}) = 4 ≥ √3·9/(2·4)`, but the marginal 4 of player 0 is
    below `9/(4·4·(1/8)) = 4.5`, so the candidate is empty and `_max_subroutine` on `{0} − ∅` returns {0} again — for
    ever.  The model reports the repetition as `Err.other`; the real call does not return (harness/corr_mul.py, family
    `beta<1/2`).  The statement below only shows `Err.other`, which also marks ZeroDivisionError and an exhausted fuel:
    here α·β ≠ 0 and n ≠ 0, and `3 < 100·(1/4)²` rules out the fuel (`maxSubroutine_terminates`).  With β = 1/2 the same
    game is fine. -/
example : maxXos (okGet (exVec [0, 4, 1, 4, 2, 4, 2, 5])) 3 4 (1 / 8) (1 / 4) 100 = .error .other := by decide +kernel
example : maxXos (okGet (exVec [0, 4, 1, 4, 2, 4, 2, 5])) 3 4 (1 / 2) (1 / 4) 100
    = .ok ([1, 2, 3, 4, 5, 6], [0, 4, 1, 4, 2, 4, 2, 4]) := by decide +kernel

/-! ### three of the statements for the instantiation the driver runs (`AtRat.*`, core `Rat`) -/

/- `AtRat.*` are the model functions at core `Rat` with core's own instances.  The theorems for a field `α` apply
   because Mathlib builds its `Field`/`LinearOrder` structure on `Rat` from these same operations: the instance
   arguments agree by unfolding, no transfer lemma is needed. -/

theorem factor_is_least_bound_atRat {num den : List Rat} (hlen : num.length = den.length) {m : Rat}
    (h : AtRat.factor num den = .ok m) :
    (∀ p ∈ num.zip den, p.1 ≤ m * p.2) ∧ (∃ p ∈ num.zip den, p.1 = m * p.2) ∧
    (∀ a, (∀ p ∈ num.zip den, p.1 ≤ a * p.2) → m ≤ a) ∧ 1 ≤ m := factor_is_least_bound hlen h

theorem lowerUpper_ge_toLower_atRat (game inc : Table Rat) (hn : game.n = inc.n) (hn0 : inc.n ≠ 0)
    (hfull : game.full = true) (hpos : ∀ c, 0 < c → c < 2 ^ inc.n → 0 < inc.lo c)
    (hlo : ∀ c, 0 < c → c < 2 ^ inc.n → inc.lo c ≤ game.hi c)
    (hhi : ∀ c, 0 < c → c < 2 ^ inc.n → game.hi c ≤ inc.hi c) :
    ∃ m₁ m₂, AtRat.lowerUpperBound inc = .ok m₁ ∧ AtRat.toLowerBound game inc = .ok m₂ ∧ m₂ ≤ m₁ :=
  lowerUpper_ge_toLower game inc hn hn0 hfull hpos hlo hhi

theorem lt_floor_toNat_succ (x : Rat) : x < ((x.floor.toNat + 1 : Nat) : Rat) :=
  calc x < ((x.floor + 1 : Int) : Rat) := by exact_mod_cast Rat.lt_floor_add_one x
    _ ≤ (((x.floor.toNat + 1 : Nat) : Int) : Rat) :=
      Int.cast_le.mpr (by rw [Nat.cast_add, Nat.cast_one]; exact Int.add_le_add_right (Int.self_le_toNat _) 1)
    _ = ((x.floor.toNat + 1 : Nat) : Rat) := Int.cast_natCast _

theorem maxSubroutine_terminates_atRat (v : Nat → Rat) (n coalition : Nat) (reached : Nat → Bool) (eps : Rat)
    (hn : n ≠ 0) (h1 : ∀ p ∈ players coalition, 1 ≤ v (singleton p)) (heps : 0 < eps) :
    ∃ res, maxSubroutine (okGet v) n coalition reached eps (AtRat.fuelFor n eps) = .ok res := by
  apply maxSubroutine_terminates v n coalition reached eps _ hn h1 heps
  unfold AtRat.fuelFor
  rw [if_pos heps, mul_assoc]
  exact (div_lt_iff₀ (mul_pos heps heps)).mp (lt_floor_toNat_succ _)

/-! ### FINDING: not a lower bound for monotone subadditive games (the class the docstring names) -/

/-- values on the 5 active players 0..4; player 5 adds nothing to a non-empty coalition -/
def pin6L : List Rat := [0, 1, 11/2, 11/2, 1, 1, 181/32, 13/2, 11/2, 11/2, 11, 11, 11/2, 11/2, 11, 11,
  83/64, 83/64, 435/64, 435/64, 83/64, 83/64, 435/64, 435/64, 213/32, 213/32, 12, 389/32, 435/64, 435/64, 12, 787/64]

def pin6 (c : Nat) : Rat := if c % 32 = 0 then (if c = 0 then 0 else 1) else pin6L.getD (c % 32) 0

def MonotoneB (n : Nat) (v : Nat → Rat) : Bool :=
  (List.range (2 ^ n)).all fun c => (List.range n).all fun i => decide (v c ≤ v (c ||| 2 ^ i))
def SubadditiveB (n : Nat) (v : Nat → Rat) : Bool :=
  (List.range (2 ^ n)).all fun a => (List.range (2 ^ n)).all fun b =>
    a &&& b != 0 || decide (v (a ||| b) ≤ v a + v b)

/-- `64·pin6` on the 5 active players; the entry for the empty set is the value of {5}.  Monotonicity and subadditivity
    of `pin6` are checked on these 32 naturals (`monotoneN`, `subaddN`) and carried over to the 6 players by
    `monotone_of_null_players`, `subadditive_of_null_players`. -/
def pin6N (x : Nat) : Nat :=
  [64, 64, 352, 352, 64, 64, 362, 416, 352, 352, 704, 704, 352, 352, 704, 704,
   83, 83, 435, 435, 83, 83, 435, 435, 426, 426, 768, 778, 435, 435, 768, 787].getD x 0

def pin6F (c : Nat) : Nat := if c = 0 then 0 else pin6N (c % 2 ^ 5)

theorem pin6_eq (c : Nat) : pin6 c = (pin6F c : Rat) / 64 := by
  have h : ∀ x, x < 32 → (if x = 0 then (1 : Rat) else pin6L.getD x 0) = (pin6N x : Rat) / 64 := by decide +kernel
  unfold pin6 pin6F
  by_cases hc : c = 0
  · subst hc; decide +kernel
  · rw [if_neg hc, if_neg hc]
    exact h (c % 32) (Nat.mod_lt _ (by omega))

theorem pin6_le {a b : Nat} (h : pin6F a ≤ pin6F b) : pin6 a ≤ pin6 b := by
  rw [pin6_eq, pin6_eq]
  exact div_le_div_of_nonneg_right (Nat.cast_le.mpr h) (by norm_num)

/-- `pin6` is monotone, subadditive, `v(∅) = 0`, all singletons are ≥ 1 — and `compute_max_xos_approximation` with
    α = β = 1, ε = 1/8 returns a game whose value on the coalition {0, 2, 4} (id 21) is 3/2 > 83/64 = v({0,2,4}) -/
theorem lower_bound_fails_subadditive :
    MonotoneB 6 pin6 = true ∧ SubadditiveB 6 pin6 = true ∧ pin6 0 = 0 ∧
    ((List.range 6).all fun p => decide (1 ≤ pin6 (singleton p))) = true ∧
    (maxXos (okGet pin6) 6 1 1 (1 / 8) 400).map (fun r => r.2[21]?) = .ok (some (3 / 2)) ∧
    pin6 21 = 83 / 64 := by
  refine ⟨?_, ?_, by decide +kernel, by decide +kernel, by decide +kernel, by decide +kernel⟩
  · simp only [MonotoneB, List.all_eq_true, decide_eq_true_eq]
    exact fun c _ i _ => pin6_le (monotone_of_null_players (fun _ => rfl)
      (fun _ _ hx hi => monotoneN_spec (by decide +kernel : monotoneN 5 pin6N = true) hx hi) c i)
  · simp only [SubadditiveB, List.all_eq_true, Bool.or_eq_true, bne_iff_ne, decide_eq_true_eq]
    intro a _ b _
    by_cases hab : a &&& b = 0
    · have := subadditive_of_null_players (f := pin6F) (fun _ => rfl)
        (subadditive_of_subaddN pin6N 5 (by decide +kernel)) hab
      rw [pin6_eq, pin6_eq a, pin6_eq b, ← add_div]
      exact Or.inr (div_le_div_of_nonneg_right (by exact_mod_cast this) (by norm_num))
    · exact Or.inl hab

/-- the hypotheses of the termination theorem hold for this instance: the fuel 400 suffices -/
example : Domain 6 pin6 1 1 (1 / 8) 400 where
  n_pos := by decide
  empty := by decide +kernel
  singles := by decide +kernel
  alpha_pos := by decide +kernel
  beta_ge := by decide +kernel
  eps_pos := by decide +kernel
  fuel := by decide +kernel

/-- on a monotone submodular game the same parameters give a lower bound: budget-additive min(3, |S|) -/
def budget3 (c : Nat) : Rat := min 3 (size c)
example : (maxXos (okGet budget3) 4 1 1 (1 / 8) 300).map (fun r => r.2) =
    .ok [0, 1, 1, 1, 1, 1, 1, 1, 1, 1, 1, 1, 1, 1, 1, 1] := by decide +kernel
example : (candidates (okGet budget3) 4 1 1 (1 / 8) 300) =
    .ok ([[[], [], [], [], []], [[7], [], [], [], []]], [1, 3, 7]) := by decide +kernel

/-! ### FINDING at the DEFAULT parameters (alpha = 3.7844223824, beta = 1, eps = 0.05): n = 10 -/

/-- `pin10` (ICG/Lemmas/MulPin10Game.lean) is monotone, subadditive, has `v(∅) = 0` and singletons ≥ 1, and the
    approximated game exceeds it on the coalition 341 = {0,2,4,6,8}: the candidate 511 of cell index r = 4 contributes
    `5·4/(4·alpha·beta) = 5/alpha ≈ 1.3212 > 1.2265625`.  The real code is run on the same numbers by
    harness/corr_mul.py (family `pin10`). -/
theorem lower_bound_fails_default :
    (∀ c i, c < 2 ^ 10 → i < 10 → pin10 c ≤ pin10 (c ||| 2 ^ i)) ∧
    (∀ a b, a < 2 ^ 10 → b < 2 ^ 10 → a &&& b = 0 → pin10 (a ||| b) ≤ pin10 a + pin10 b) ∧
    (∀ p, p < 10 → 1 ≤ pin10 (singleton p)) ∧ pin10 0 = 0 ∧
    ∃ q vals x, maxXos (okGet pin10) 10 alpha0 1 eps0 4100 = .ok (q, vals) ∧ vals[341]? = some x ∧ pin10 341 < x := by
  refine ⟨fun c i _ _ => pin10_monotone c i, fun a b _ _ => pin10_subadditive, pin10_singletons.1, pin10_singletons.2, ?_⟩
  have hu : ((4 : Nat) : Rat) * alpha0 * 1 ≠ 0 := by decide +kernel
  have hv := approximation_vector pin10 10 pin10Cands alpha0 1 pin10_singletons.1 hu
  obtain ⟨q, hc⟩ := pin10_candidates
  refine ⟨q, _, _, maxXos_eq_ok_iff.mpr ⟨_, hc, hv⟩, approximation_entry pin10_singletons.1 hu hv
    (by decide : 341 < 2 ^ 10), ?_⟩
  rw [if_neg (by decide)]
  have hin : InCell pin10Cands 4 511 := ⟨_, List.mem_cons_of_mem _ (List.mem_cons_of_mem _ List.mem_cons_self), [511], rfl,
    List.mem_cons_self⟩
  exact lt_of_lt_of_le (by decide +kernel) (newValue_le_approxValue _ _ _ _ hin)

example : pin10 341 = 157 / 128 ∧ (1321 : Rat) / 1000 < 5 / alpha0 ∧ 5 / alpha0 < 1322 / 1000 := by decide +kernel

end ICG.Mul

/-
  Property C07 — more information never hurts.

  "Let v be superadditive (and monotone non-increasing for the SAM approximation) and K ⊆ K' two sets of
   revealed coalitions, both containing ∅, the singletons and N.  For each bound computer, the interval
   [lower(c), upper(c)] computed from v|K' is contained in the interval computed from v|K, for every
   coalition c.  Consequently every offered gap function is non-increasing along any sequence of
   reveals, is never negative, and is zero once every value is revealed."

  Theorems about the MODEL functions `sa`, `sac`, `sam r` (as `Computer.run`); all `n`, every linearly
  ordered abelian group.  This file: the interval statement, the reveal paths, and the gap statements at
  the level of the width vector `hi − lo` (row-wise).  The four gap *functions* of the package
  (exploitability, l1, l∞, l2²) are monotone functions of that vector: ICG/Props/C07Gaps.lean plugs
  `Nested` into ICG.Lemmas.GapMono.
-/
import ICG.Lemmas.BoundsCommon

namespace ICG.C07
open ICG Table ICG.SpecSA
open ICG.BoundsCommon

variable {α : Type} [AddCommGroup α] [LinearOrder α] [IsOrderedAddMonoid α]

/-- **C07_interval_mono.**  `t'` knows at least what `t` knows (same game size), both tables hold `v` on
    their known rows — and anything on the others —, `v` is superadditive (and monotone non-increasing if
    `k` is the SAM approximation), `t` has minimal information.  Then the computer succeeds on both, and
    row by row the interval from `t'` lies inside the interval from `t` and still contains `v`. -/
theorem interval_mono (k : Computer) (t t' : Table α) (v : Nat → α) (hn : t'.n = t.n)
    (hle : KnownLe t.known t'.known) (hag : t.Agree v) (hag' : t'.Agree v) (hsa : SA t.n v)
    (hmd : k.NeedsMono → MonoDec t.n v) (hmin : MinInfo t.n t.known) :
    ∃ s s', k.run t = .ok s ∧ k.run t' = .ok s' ∧ s.n = t.n ∧ s'.n = t.n ∧
      ∀ c, c < 2 ^ t.n → s.lo c ≤ s'.lo c ∧ s'.lo c ≤ v c ∧ v c ≤ s'.hi c ∧ s'.hi c ≤ s.hi c := by
  have hmin' : MinInfo t'.n t'.known := by rw [hn]; exact minInfo_mono hmin hle
  obtain ⟨s, h1, h2, _, h4, _⟩ := run_spec_agree k t hmin hag
  obtain ⟨s', g1, g2, _, g4, _⟩ := run_spec_agree k t' hmin' hag'
  refine ⟨s, s', h1, g1, h2, by rw [g2, hn], ?_⟩
  intro c hc
  have hc' : c < 2 ^ t'.n := by rw [hn]; exact hc
  obtain ⟨m1, m2⟩ := k.spec_mono_known hsa hmd hmin hle hc
  obtain ⟨s1, s2⟩ := k.spec_sound hsa hmd (minInfo_mono hmin hle) (known := t'.known) hc
  rw [(h4 c hc).1, (h4 c hc).2, (g4 c hc').1, (g4 c hc').2, hn]
  exact ⟨m1, s1, s2, m2⟩

theorem interval_mono_sa (t t' : Table α) (v : Nat → α) (hn : t'.n = t.n)
    (hle : KnownLe t.known t'.known) (hag : t.Agree v) (hag' : t'.Agree v) (hsa : SA t.n v)
    (hmin : MinInfo t.n t.known) :
    ∃ s s', sa t = .ok s ∧ sa t' = .ok s' ∧ s.n = t.n ∧ s'.n = t.n ∧
      ∀ c, c < 2 ^ t.n → s.lo c ≤ s'.lo c ∧ s'.lo c ≤ v c ∧ v c ≤ s'.hi c ∧ s'.hi c ≤ s.hi c :=
  interval_mono .sa t t' v hn hle hag hag' hsa (fun h => h.elim) hmin

theorem interval_mono_sac (t t' : Table α) (v : Nat → α) (hn : t'.n = t.n)
    (hle : KnownLe t.known t'.known) (hag : t.Agree v) (hag' : t'.Agree v) (hsa : SA t.n v)
    (hmin : MinInfo t.n t.known) :
    ∃ s s', sac t = .ok s ∧ sac t' = .ok s' ∧ s.n = t.n ∧ s'.n = t.n ∧
      ∀ c, c < 2 ^ t.n → s.lo c ≤ s'.lo c ∧ s'.lo c ≤ v c ∧ v c ≤ s'.hi c ∧ s'.hi c ≤ s.hi c :=
  interval_mono .sac t t' v hn hle hag hag' hsa (fun h => h.elim) hmin

theorem interval_mono_sam (r : Nat) (t t' : Table α) (v : Nat → α) (hn : t'.n = t.n)
    (hle : KnownLe t.known t'.known) (hag : t.Agree v) (hag' : t'.Agree v) (hsa : SA t.n v)
    (hmd : MonoDec t.n v) (hmin : MinInfo t.n t.known) :
    ∃ s s', sam r t = .ok s ∧ sam r t' = .ok s' ∧ s.n = t.n ∧ s'.n = t.n ∧
      ∀ c, c < 2 ^ t.n → s.lo c ≤ s'.lo c ∧ s'.lo c ≤ v c ∧ v c ≤ s'.hi c ∧ s'.hi c ≤ s.hi c :=
  interval_mono (.sam r) t t' v hn hle hag hag' hsa (fun _ => hmd) hmin

/-- hypotheses satisfiable: `exT'` knows the pair {0,1} in addition; stale junk on the unknown rows -/
example : ∃ s s', sa Ex.exT = .ok s ∧ sa Ex.exT' = .ok s' ∧ s.n = 3 ∧ s'.n = 3 ∧
    ∀ c, c < 2 ^ 3 → s.lo c ≤ s'.lo c ∧ s'.lo c ≤ exV c ∧ exV c ≤ s'.hi c ∧ s'.hi c ≤ s.hi c :=
  interval_mono_sa Ex.exT Ex.exT' exV rfl Ex.exT_le Ex.exT_agree Ex.exT'_agree Ex.exT_sa Ex.exT_min

example (r : Nat) : ∃ s s', sam r Ex.samT = .ok s ∧ sam r Ex.samT' = .ok s' ∧ s.n = 3 ∧ s'.n = 3 ∧
    ∀ c, c < 2 ^ 3 → s.lo c ≤ s'.lo c ∧ s'.lo c ≤ SAMExample.v c ∧ SAMExample.v c ≤ s'.hi c ∧
      s'.hi c ≤ s.hi c :=
  interval_mono_sam r Ex.samT Ex.samT' SAMExample.v rfl Ex.samT_le Ex.samT_agree Ex.samT'_agree
    Ex.samT_sa Ex.samT_md Ex.samT_min

/-! ### the width vector -/

/-- the rows of `t'` are non-empty intervals inside the rows of `t` (same game size) -/
def Nested (t t' : Table α) : Prop :=
  t'.n = t.n ∧ ∀ c, c < 2 ^ t.n → t.lo c ≤ t'.lo c ∧ t'.lo c ≤ t'.hi c ∧ t'.hi c ≤ t.hi c

omit [AddCommGroup α] [IsOrderedAddMonoid α] in
theorem Nested.trans {t1 t2 t3 : Table α} (h12 : Nested t1 t2) (h23 : Nested t2 t3) : Nested t1 t3 := by
  refine ⟨by rw [h23.1, h12.1], fun c hc => ?_⟩
  obtain ⟨a1, _, a3⟩ := h12.2 c hc
  obtain ⟨b1, b2, b3⟩ := h23.2 c (by rw [h12.1]; exact hc)
  exact ⟨le_trans a1 b1, b2, le_trans b3 a3⟩

/-- **C07_gap_mono** (width level).  Under the hypotheses of `interval_mono` the results are `Nested`;
    hence every width shrinks: `hi' − lo' ≤ hi − lo`, row by row. -/
theorem gap_width_mono (k : Computer) (t t' : Table α) (v : Nat → α) (hn : t'.n = t.n)
    (hle : KnownLe t.known t'.known) (hag : t.Agree v) (hag' : t'.Agree v) (hsa : SA t.n v)
    (hmd : k.NeedsMono → MonoDec t.n v) (hmin : MinInfo t.n t.known) :
    ∃ s s', k.run t = .ok s ∧ k.run t' = .ok s' ∧ Nested s s' ∧
      ∀ c, c < 2 ^ t.n → s'.hi c - s'.lo c ≤ s.hi c - s.lo c := by
  obtain ⟨s, s', h1, h2, h3, h4, h5⟩ := interval_mono k t t' v hn hle hag hag' hsa hmd hmin
  refine ⟨s, s', h1, h2, ⟨by rw [h3, h4], fun c hc => ?_⟩, fun c hc => ?_⟩
  · rw [h3] at hc
    obtain ⟨a, b, c', d⟩ := h5 c hc
    exact ⟨a, le_trans b c', d⟩
  · obtain ⟨a, _, _, d⟩ := h5 c hc
    exact sub_le_sub d a

/-- **C07_gap_nonneg** (width level): after a compute on a table that agrees with a game of the right
    class every width is non-negative. -/
theorem gap_width_nonneg (k : Computer) (t : Table α) (v : Nat → α) (hag : t.Agree v) (hsa : SA t.n v)
    (hmd : k.NeedsMono → MonoDec t.n v) (hmin : MinInfo t.n t.known) :
    ∃ s, k.run t = .ok s ∧ ∀ c, c < 2 ^ t.n → 0 ≤ s.hi c - s.lo c := by
  obtain ⟨s, h1, _, _, h4⟩ := run_sound k t hsa hmd hmin hag
  exact ⟨s, h1, fun c hc => sub_nonneg.mpr (h4 c hc).2.2.1⟩

omit [IsOrderedAddMonoid α] in
/-- **C07_gap_zero_full** (width level): once every coalition of the game is revealed, every computer
    succeeds and returns `lo = hi` (= the revealed value) on every row: all widths are zero.  No game
    class is needed. -/
theorem gap_width_zero_full (k : Computer) (t : Table α) (hinv : t.Inv)
    (hall : ∀ c, c < 2 ^ t.n → t.known c = true) :
    ∃ s, k.run t = .ok s ∧ ∀ c, c < 2 ^ t.n →
      s.lo c = t.lo c ∧ s.hi c = t.lo c ∧ s.hi c - s.lo c = 0 := by
  have hmin := MinInfo.of_all_known hall
  obtain ⟨s, h1, _, _, h4, _⟩ := run_spec k t hmin hinv
  refine ⟨s, h1, fun c hc => ?_⟩
  rw [(h4 c hc).1, (h4 c hc).2, k.specLo_known _ _ (hall c hc), k.specUp_known _ _ (hall c hc)]
  exact ⟨rfl, rfl, sub_self _⟩

example (k : Computer) : ∃ s, k.run (Ex.mk (fun _ => true) exV) = .ok s ∧ ∀ c, c < 2 ^ 3 →
    s.lo c = exV c ∧ s.hi c = exV c ∧ s.hi c - s.lo c = 0 :=
  gap_width_zero_full k (Ex.mk (fun _ => true) exV) (Ex.mk_agree _ _).inv (fun _ _ => rfl)

example : ∃ s, sac Ex.exT = .ok s ∧ ∀ c, c < 2 ^ 3 → 0 ≤ s.hi c - s.lo c :=
  gap_width_nonneg .sac Ex.exT exV Ex.exT_agree Ex.exT_sa (fun h => h.elim) Ex.exT_min

/-! ### reveal paths -/

/-- a table of the game `v` on which the computer has just run: minimal information, known rows hold `v`,
    and running the computer again changes nothing -/
def Fresh (k : Computer) (v : Nat → α) (t : Table α) : Prop :=
  MinInfo t.n t.known ∧ t.Agree v ∧ k.run t = .ok t

omit [IsOrderedAddMonoid α] in
theorem fresh_of_run (k : Computer) (v : Nat → α) {t t0 : Table α} (hmin : MinInfo t.n t.known)
    (hag : t.Agree v) (h : k.run t = .ok t0) : Fresh k v t0 := by
  have f := run_sameGame hag.inv h
  refine ⟨by rw [f.n, f.known]; exact hmin, ?_, compute_idempotent enumFacts k t hmin hag.inv h⟩
  intro c hc hk
  rw [f.n] at hc; rw [f.known] at hk
  rw [(f.rows c fun _ => hk).1, (f.rows c fun _ => hk).2]
  exact hag c hc hk

/-- one step of the reveal loop of the environment: `reveal_value(v(c), c)` then `compute_bounds` -/
def revealStep (k : Computer) (v : Nat → α) (t : Table α) (c : Nat) : Except Err (Table α) :=
  match t.reveal (v c) c with
  | .ok t1 => k.run t1
  | .error e => .error e

/-- the tables after each step of a reveal sequence (first raise aborts) -/
def revealRun (k : Computer) (v : Nat → α) : Table α → List Nat → Except Err (List (Table α))
  | _, [] => .ok []
  | t, c :: cs =>
    match revealStep k v t c with
    | .ok t' =>
      match revealRun k v t' cs with
      | .ok ts => .ok (t' :: ts)
      | .error e => .error e
    | .error e => .error e

omit [AddCommGroup α] [LinearOrder α] [IsOrderedAddMonoid α] in
theorem reveal_ok_iff [Zero α] (t : Table α) (x : α) (c : Nat) (t1 : Table α) :
    t.reveal x c = .ok t1 ↔ c < 2 ^ t.n ∧ t.known c = false ∧ t1 = t.putValue c x := by
  have hrows : t.rows = 2 ^ t.n := rfl
  unfold Table.reveal
  rw [hrows]
  by_cases hc : c < 2 ^ t.n
  · cases hk : t.known c
    · simp only [hc, if_true, Bool.false_eq_true, if_false, true_and]
      constructor
      · intro h; injection h with h; exact h.symm
      · intro h; rw [h]
    · simp [hc]
  · simp [hc]

omit [IsOrderedAddMonoid α] in
theorem revealRun_cons {k : Computer} {v : Nat → α} {t : Table α} {c : Nat} {cs : List Nat}
    {ts : List (Table α)} (h : revealRun k v t (c :: cs) = .ok ts) :
    ∃ t' ts', revealStep k v t c = .ok t' ∧ revealRun k v t' cs = .ok ts' ∧ ts = t' :: ts' := by
  unfold revealRun at h
  split at h
  · next t' hs =>
    split at h
    · next ts' hr =>
      injection h with h
      exact ⟨t', ts', hs, hr, h.symm⟩
    · cases h
  · cases h

theorem step_nested (k : Computer) (v : Nat → α) {t t' : Table α} (hf : Fresh k v t) (hsa : SA t.n v)
    (hmd : k.NeedsMono → MonoDec t.n v) {c : Nat} (h : revealStep k v t c = .ok t') :
    Fresh k v t' ∧ Nested t t' ∧ c < 2 ^ t.n ∧ t.known c = false ∧
      t'.known = fun d => if d = c then true else t.known d := by
  obtain ⟨hmin, hag, hfix⟩ := hf
  unfold revealStep at h
  cases hr : t.reveal (v c) c with
  | error e => rw [hr] at h; cases h
  | ok t1 =>
    rw [hr] at h
    replace h : k.run t1 = .ok t' := h
    obtain ⟨hc, hkc, rfl⟩ := (reveal_ok_iff t (v c) c t1).mp hr
    have hle := knownLe_putValue t c (v c)
    have hag1 := hag.putValue c
    have hmin1 : MinInfo (t.putValue c (v c)).n (t.putValue c (v c)).known := minInfo_mono hmin hle
    obtain ⟨s, s', h1, h2, h3, h4, h5⟩ :=
      interval_mono k t (t.putValue c (v c)) v rfl hle hag hag1 hsa hmd hmin
    rw [hfix] at h1; cases h1
    rw [h] at h2; cases h2
    refine ⟨fresh_of_run k v hmin1 hag1 h, ⟨h4, fun d hd => ?_⟩, hc, hkc,
      (run_sameGame hag1.inv h).known⟩
    obtain ⟨a, b, c', d'⟩ := h5 d hd
    exact ⟨a, le_trans b c', d'⟩

omit [IsOrderedAddMonoid α] in
theorem step_total (k : Computer) (v : Nat → α) {t : Table α} (hf : Fresh k v t) {c : Nat}
    (hc : c < 2 ^ t.n) (hkc : t.known c = false) : ∃ t', revealStep k v t c = .ok t' := by
  obtain ⟨hmin, hag, _⟩ := hf
  have hr := (reveal_ok_iff t (v c) c _).mpr ⟨hc, hkc, rfl⟩
  obtain ⟨t', h, _⟩ := run_spec k (t.putValue c (v c))
    (minInfo_mono hmin (knownLe_putValue t c (v c))) (hag.inv.putValue c (v c))
  exact ⟨t', by unfold revealStep; rw [hr]; exact h⟩

/-- **C07_path.**  Along ANY successful reveal sequence started from a freshly computed table of a game
    of the right class, every later table's intervals are nested in every earlier table's (in
    particular consecutive ones): `Pairwise Nested` over the whole trajectory, the start included. -/
theorem path (k : Computer) (v : Nat → α) : ∀ (cs : List Nat) {t : Table α} {ts : List (Table α)},
    Fresh k v t → SA t.n v → (k.NeedsMono → MonoDec t.n v) → revealRun k v t cs = .ok ts →
    (t :: ts).Pairwise Nested ∧ ∀ t' ∈ ts, Fresh k v t'
  | [], t, ts, _, _, _, h => by
    simp only [revealRun] at h
    cases h
    exact ⟨List.pairwise_singleton _ _, fun _ h => by cases h⟩
  | c :: cs, t, ts, hf, hsa, hmd, h => by
    obtain ⟨t', ts', hs, hr, rfl⟩ := revealRun_cons h
    obtain ⟨hf', hnest, _, _, _⟩ := step_nested k v hf hsa hmd hs
    have hn := hnest.1
    obtain ⟨ih1, ih2⟩ := path k v cs hf' (by rw [hn]; exact hsa) (by rw [hn]; exact hmd) hr
    refine ⟨List.pairwise_cons.mpr ⟨?_, ih1⟩, ?_⟩
    · intro s hs'
      rcases List.mem_cons.mp hs' with rfl | hs'
      · exact hnest
      · exact hnest.trans ((List.pairwise_cons.mp ih1).1 s hs')
    · intro s hs'
      rcases List.mem_cons.mp hs' with rfl | hs'
      · exact hf'
      · exact ih2 s hs'

/-- the widths along a reveal path never grow: for every earlier table `a` and later table `b` of the
    trajectory, `0 ≤ width_b ≤ width_a` row by row -/
theorem path_width (k : Computer) (v : Nat → α) (cs : List Nat) {t : Table α} {ts : List (Table α)}
    (hf : Fresh k v t) (hsa : SA t.n v) (hmd : k.NeedsMono → MonoDec t.n v)
    (h : revealRun k v t cs = .ok ts) :
    (t :: ts).Pairwise (fun a b => ∀ c, c < 2 ^ a.n →
      0 ≤ b.hi c - b.lo c ∧ b.hi c - b.lo c ≤ a.hi c - a.lo c) :=
  (path k v cs hf hsa hmd h).1.imp (fun hab c hc => by
    obtain ⟨a1, a2, a3⟩ := hab.2 c hc
    exact ⟨sub_nonneg.mpr a2, sub_le_sub a3 a1⟩)

/-- every sequence of distinct, so far unknown coalitions of the game can be revealed: the run succeeds
    and produces one table per reveal -/
theorem path_total (k : Computer) (v : Nat → α) : ∀ (cs : List Nat) {t : Table α},
    Fresh k v t → SA t.n v → (k.NeedsMono → MonoDec t.n v) → cs.Nodup →
    (∀ c ∈ cs, c < 2 ^ t.n ∧ t.known c = false) →
    ∃ ts, revealRun k v t cs = .ok ts ∧ ts.length = cs.length
  | [], _, _, _, _, _, _ => ⟨[], rfl, rfl⟩
  | c :: cs, t, hf, hsa, hmd, hnd, hun => by
    obtain ⟨hc, hkc⟩ := hun c List.mem_cons_self
    obtain ⟨t', hs⟩ := step_total k v hf hc hkc
    obtain ⟨hf', hnest, _, _, hk'⟩ := step_nested k v hf hsa hmd hs
    have hn := hnest.1
    obtain ⟨hnotin, hnd'⟩ := List.nodup_cons.mp hnd
    obtain ⟨ts, hr, hlen⟩ := path_total k v cs hf' (by rw [hn]; exact hsa) (by rw [hn]; exact hmd) hnd'
      (by
        intro d hd
        obtain ⟨h1, h2⟩ := hun d (List.mem_cons_of_mem _ hd)
        have hdc : d ≠ c := by rintro rfl; exact hnotin hd
        refine ⟨by rw [hn]; exact h1, ?_⟩
        rw [hk']; simp only [hdc, if_false]; exact h2)
    refine ⟨t' :: ts, ?_, by simp [hlen]⟩
    simp only [revealRun, hs, hr]

/-- compute, then reveal any sequence of distinct unknown coalitions of the game one at a time: every
    call succeeds and the trajectory, the first compute included, is pairwise nested -/
theorem path_from (k : Computer) (v : Nat → α) (t : Table α) (cs : List Nat) (hsa : SA t.n v)
    (hmd : k.NeedsMono → MonoDec t.n v) (hmin : MinInfo t.n t.known) (hag : t.Agree v)
    (hnd : cs.Nodup) (hun : ∀ c ∈ cs, c < 2 ^ t.n ∧ t.known c = false) :
    ∃ t0, k.run t = .ok t0 ∧ ∃ ts, revealRun k v t0 cs = .ok ts ∧ ts.length = cs.length ∧
      (t0 :: ts).Pairwise Nested := by
  obtain ⟨t0, h0, hn, hk, _⟩ := run_spec k t hmin hag.inv
  have hf := fresh_of_run k v hmin hag h0
  obtain ⟨ts, hr, hlen⟩ := path_total k v cs hf (by rw [hn]; exact hsa) (by rw [hn]; exact hmd) hnd
    (by rw [hn, hk]; exact hun)
  exact ⟨t0, h0, ts, hr, hlen, (path k v cs hf (by rw [hn]; exact hsa) (by rw [hn]; exact hmd) hr).1⟩

/-- hypotheses satisfiable: compute `exT`, then reveal the pairs {0,1} and {0,2} (ids 3, 5) one at a
    time; the trajectory exists and is pairwise nested -/
example : ∃ t0, sa Ex.exT = .ok t0 ∧ ∃ ts, revealRun .sa exV t0 [3, 5] = .ok ts ∧ ts.length = 2 ∧
    (t0 :: ts).Pairwise Nested :=
  path_from .sa exV Ex.exT [3, 5] Ex.exT_sa (fun h => h.elim) Ex.exT_min Ex.exT_agree (by decide)
    (by decide)

example (r : Nat) : ∃ t0, sam r Ex.samT = .ok t0 ∧ ∃ ts,
    revealRun (.sam r) SAMExample.v t0 [6, 3] = .ok ts ∧ (t0 :: ts).Pairwise Nested := by
  obtain ⟨t0, h0, ts, hr, _, hp⟩ := path_from (.sam r) SAMExample.v Ex.samT [6, 3] Ex.samT_sa
    (fun _ => Ex.samT_md) Ex.samT_min Ex.samT_agree (by decide) (by decide)
  exact ⟨t0, h0, ts, hr, hp⟩

end ICG.C07

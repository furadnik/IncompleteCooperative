/-
  Property C13 (solver part) — the built-in solvers (solvers/greedy.py, largest_coalition.py, random.py),
  theorems about ICG.Model.Env.

  "At every reachable environment state each built-in solver returns a currently valid action chosen by
   its rule - greedy: maximal immediate reward, worst-greedy: minimal, largest: a largest unknown
   coalition, ties to the lowest index, random: some valid action - and leaves the environment exactly as
   it found it."   (The expected-greedy search of run/greedy.py is in Lemmas/ExpectedGreedy.)

  "Reachable state" = a model environment satisfying C09's invariant `Inv` (which includes "bounds are
  fresh"); see `C09.reach_inv`.  Hypotheses on the parameters (`Hyps`): the computer keeps knowledge
  (`ComputeOK`), depends on knowledge only (`KnowledgeOnly`, C08), accepts every table that knows the
  initial coalitions; the gap function reads table rows only and does not raise on the tables the environment
  hands it (`GapDefined`).
  "Exactly as it found it" is `EnvEq`: all fields equal, known flags equal, bounds equal on every row `< 2^n`
  (plus: it is again in the same abstract state, `Inv … e' s`).
  With no valid action greedy / worst-greedy / largest raise ValueError (`max()` of an empty list) and the
  random solver returns 0 (the code's uncovered fallback) — theorems `*_no_valid`.
-/
import ICG.Props.C09
import ICG.Lemmas.ListMax
import Mathlib.Algebra.Order.Ring.Rat

namespace ICG.C13
open ICG Table Env ICG.C09

variable {α : Type}

/-- the gap function does not raise on the tables the environment ever hands it: tables of `P.n` players in
    which the initially known coalitions are known.  (`GapTotal gap`, "never raises on ANY table", implies it —
    `GapDefined.of_total` — but is false for exploitability, which is defined exactly when N is known.) -/
def GapDefined (gap : Table α → Except Err α) (P : Params) : Prop :=
  ∀ t : Table α, t.n = P.n → (∀ c ∈ P.ik, t.known c = true) → ∃ g, gap t = .ok g

theorem GapDefined.of_total {gap : Table α → Except Err α} (h : GapTotal gap) (P : Params) : GapDefined gap P :=
  fun t _ _ => h t

/-- what is assumed about the two parameters -/
structure Hyps [Zero α] [Neg α] [Sub α] [DecidableEq α] (compute : Table α → Except Err (Table α))
    (gap : Table α → Except Err α) (P : Params) : Prop where
  ok : ComputeOK compute
  ko : KnowledgeOnly compute
  ro : RowsOnly gap
  tot : ComputeTotal compute P
  gtot : GapDefined gap P
  wf : P.WF

/-- the immediate reward of action `a`: what `step a` returns as reward (`none` if the call raises) -/
def stepReward [Zero α] [Neg α] [Sub α] [DecidableEq α] (compute : Table α → Except Err (Table α))
    (gap : Table α → Except Err α) (e : Env α) (a : Nat) : Option α :=
  match step compute gap e a with
  | .ok (_, out) => some out.reward
  | .error _ => none

section
variable [Zero α] [Neg α] [Sub α] [DecidableEq α]
variable {compute : Table α → Except Err (Table α)} {gap : Table α → Except Err α} {P : Params}

theorem stepReward_of_ok {e e' : Env α} {a : Nat} {out : StepOut α} (h : step compute gap e a = .ok (e', out)) :
    stepReward compute gap e a = some out.reward := by
  rw [stepReward, h]

/-- **determinacy**: two environments in the same abstract state agree in everything observable -/
theorem inv_envEq (H : Hyps compute gap P) {e e' : Env α} {s : Spec α}
    (h : Inv compute P e s) (h' : Inv compute P e' s) : EnvEq e e' := by
  obtain ⟨t0, hsk0, hex0, hc0⟩ := h.fresh
  obtain ⟨t0', hsk0', hex0', hc0'⟩ := h'.fresh
  have hsk : SameKnowledge e.table e'.table := h.holds.sameKnowledge h'.holds
  exact ⟨h.full.trans h'.full.symm, h.norm.trans h'.norm.symm,
    H.ko.sameRows H.ok ((hsk0.trans hsk).trans hsk0'.symm) hex0 hex0' hc0 hc0',
    h.steps.trans h'.steps.symm, h.budget.trans h'.budget.symm, h.ik.trans h'.ik.symm, h.ex.trans h'.ex.symm⟩

theorem Hyps.definedOn (H : Hyps compute gap P) (v : Nat → α) : DefinedOn compute gap P v := fun _ t _ h =>
  let ⟨t', ht'⟩ := H.tot t h.n (fun _ hc => h.ik hc)
  let h' := (h.computed H.ok ht').1
  let ⟨g, hg⟩ := H.gtot t' h'.n (fun _ hc => h'.ik hc)
  ⟨t', g, ht', hg⟩

/-- the immediate reward belongs to the abstract state, not to the environment representing it -/
theorem stepReward_congr (H : Hyps compute gap P) {e e' : Env α} {s : Spec α}
    (h : Inv compute P e s) (h' : Inv compute P e' s) {a : Nat} (hv : validStep P s a = true) :
    ∃ r, stepReward compute gap e a = some r ∧ stepReward compute gap e' a = some r := by
  obtain ⟨e1, o1, hs1⟩ := step_of_defined (H.definedOn _) h hv
  obtain ⟨e1', o1', hs1'⟩ := step_of_defined (H.definedOn _) h' hv
  obtain ⟨c, hc, _, hinv1, _, _, hr1, _⟩ := step_spec H.ok h hs1
  obtain ⟨c', hc', _, hinv1', _, _, hr1', _⟩ := step_spec H.ok h' hs1'
  rw [hc] at hc'
  cases hc'
  have heq := inv_envEq H hinv1 hinv1'
  have := reward_congr H.ro heq
  rw [hr1, hr1'] at this
  exact ⟨o1.reward, stepReward_of_ok hs1, (stepReward_of_ok hs1').trans (congrArg some (Except.ok.inj this).symm)⟩

theorem nextActionValue_spec (H : Hyps compute gap P) {e : Env α} {s : Spec α} (h : Inv compute P e s)
    {a : Nat} (hv : validStep P s a = true) :
    ∃ e2 r, nextActionValue compute gap e a = .ok (e2, r) ∧ Inv compute P e2 s ∧
      stepReward compute gap e a = some r := by
  obtain ⟨e1, o1, e2, o2, hs1, hs2, hinv2⟩ := roundtrip_of_defined H.ok (H.definedOn _) h hv
  exact ⟨e2, o1.reward, by simp only [nextActionValue, hs1, hs2], hinv2, stepReward_of_ok hs1⟩

/-- the list comprehension over the valid actions: every value is the immediate reward in the abstract
    state (read off any environment `e0` representing it), and the environment is back in that state -/
theorem actionValues_spec (H : Hyps compute gap P) {s : Spec α} {e0 : Env α} (h0 : Inv compute P e0 s) :
    ∀ (l : List Nat) {e : Env α}, Inv compute P e s → (∀ a ∈ l, validStep P s a = true) →
      ∃ e' vals, actionValues compute gap e l = .ok (e', vals) ∧ Inv compute P e' s ∧
        List.Forall₂ (fun a v => stepReward compute gap e0 a = some v) l vals := by
  intro l
  induction l with
  | nil => intro e h _; exact ⟨e, [], rfl, h, .nil⟩
  | cons a as ih =>
    intro e h hv
    have hva := hv a List.mem_cons_self
    obtain ⟨e1, r, hn, hinv1, hr⟩ := nextActionValue_spec H h hva
    obtain ⟨e2, vs, hav, hinv2, hvs⟩ := ih hinv1 (fun b hb => hv b (List.mem_cons_of_mem _ hb))
    obtain ⟨r', h1, h2⟩ := stepReward_congr H h h0 hva
    rw [hr] at h1
    exact ⟨e2, r :: vs, by simp only [actionValues, hn, hav], hinv2, .cons (h1 ▸ h2) hvs⟩

end

/-! ### `next(act for act, val in zip(acts, vals) if val == m)` -/

theorem firstWith_cons {β : Type} [DecidableEq β] (b : Nat) (l : List Nat) (v : β) (vals : List β) (m : β) :
    firstWith (b :: l) (v :: vals) m = if v = m then some b else firstWith l vals m := by
  unfold firstWith
  rw [List.zip_cons_cons, List.find?_cons]
  by_cases h : v = m
  · simp only [h, decide_true, if_true, Option.map_some]
  · simp only [h, decide_false, if_false]

theorem validActions_sorted (e : Env α) : e.validActions.Pairwise (· < ·) :=
  List.Pairwise.sublist List.filter_sublist List.pairwise_lt_range

/-- the generator expression returns the first position holding `m`; positions are increasing, so it is the lowest
    action whose value is `m` -/
theorem firstWith_lowest {β : Type} [DecidableEq β] {f : Nat → Option β} {m : β} {l : List Nat} {vals : List β}
    (h : List.Forall₂ (fun a v => f a = some v) l vals) (hs : l.Pairwise (· < ·)) (hm : m ∈ vals) :
    ∃ a, firstWith l vals m = some a ∧ a ∈ l ∧ f a = some m ∧ ∀ b ∈ l, f b = some m → a ≤ b := by
  induction h with
  | nil => cases hm
  | @cons a v l vals hav _ ih =>
    obtain ⟨hlt, hs'⟩ := List.pairwise_cons.mp hs
    rw [firstWith_cons]
    by_cases hv : v = m
    · rw [if_pos hv]
      refine ⟨a, rfl, List.mem_cons_self, hv ▸ hav, fun b hb _ => ?_⟩
      rcases List.mem_cons.mp hb with rfl | hb
      · exact Nat.le_refl _
      · exact Nat.le_of_lt (hlt b hb)
    · rw [if_neg hv]
      obtain ⟨a', h1, h2, h3, h4⟩ := ih hs' ((List.mem_cons.mp hm).resolve_left (fun h => hv h.symm))
      refine ⟨a', h1, List.mem_cons_of_mem _ h2, h3, fun b hb hfb => ?_⟩
      rcases List.mem_cons.mp hb with rfl | hb
      · rw [hav] at hfb; exact absurd (Option.some.inj hfb) hv
      · exact h4 b hb hfb

theorem value_mem {β : Type} {f : Nat → Option β} {l : List Nat} {vals : List β}
    (h : List.Forall₂ (fun a v => f a = some v) l vals) {b : Nat} {r : β} (hb : b ∈ l) (hf : f b = some r) :
    r ∈ vals := by
  induction h with
  | nil => cases hb
  | @cons a v l vals hav _ ih =>
    rcases List.mem_cons.mp hb with rfl | hb
    · rw [hav] at hf; exact Option.some.inj hf ▸ List.mem_cons_self
    · exact List.mem_cons_of_mem _ (ih hb)

/-! ### greedy and worst-greedy -/

theorem extremum_spec [LinearOrder α] (worst : Bool) {vals : List α} (hne : vals ≠ []) :
    ∃ m, (if worst then listMin? vals else listMax? vals) = some m ∧ m ∈ vals ∧
      ∀ x ∈ vals, if worst then m ≤ x else x ≤ m := by
  cases worst
  · obtain ⟨m, hm⟩ := listMax?_isSome hne
    exact ⟨m, hm, listMax?_mem hm, fun x hx => le_listMax? hm hx⟩
  · obtain ⟨m, hm⟩ := listMin?_isSome hne
    exact ⟨m, hm, listMin?_mem hm, fun x hx => listMin?_le hm hx⟩

section greedy
variable [Zero α] [Neg α] [Sub α] [LinearOrder α]
variable {compute : Table α → Except Err (Table α)} {gap : Table α → Except Err α} {P : Params}

/-- **greedy** (`worst = false`) and **worst-greedy** (`worst = true`): at a reachable state with a valid action
    the solver succeeds; its action is valid, has the maximal (minimal) immediate reward among the valid actions,
    is the lowest index attaining it, and the environment is left as it was found. -/
theorem greedy_spec (H : Hyps compute gap P) (worst : Bool) {e : Env α} {s : Spec α} (h : Inv compute P e s)
    (hne : e.validActions ≠ []) :
    ∃ e' a m, greedy compute gap worst e = .ok (e', a) ∧ EnvEq e' e ∧ Inv compute P e' s ∧
      a ∈ e.validActions ∧ stepReward compute gap e a = some m ∧
      (∀ b ∈ e.validActions, ∀ rb, stepReward compute gap e b = some rb → if worst then m ≤ rb else rb ≤ m) ∧
      (∀ b ∈ e.validActions, stepReward compute gap e b = some m → a ≤ b) := by
  obtain ⟨e', vals, hav, hinv', hvals⟩ :=
    actionValues_spec H h e.validActions h (fun a ha => (validActions_spec h a).mp ha)
  have hvne : vals ≠ [] := fun h0 => hne (List.length_eq_zero_iff.mp (by rw [hvals.length_eq, h0]; rfl))
  obtain ⟨m, hm, hmem, hext⟩ := extremum_spec worst hvne
  obtain ⟨a, ha, hal, hfa, hlow⟩ := firstWith_lowest hvals (validActions_sorted e) hmem
  refine ⟨e', a, m, ?_, inv_envEq H hinv' h, hinv', hal, hfa,
    fun b hb rb hrb => hext rb (value_mem hvals hb hrb), hlow⟩
  simp only [greedy, hav, hm, ha]

/-- with no valid action `max()` / `min()` of an empty list raises ValueError; nothing was touched -/
theorem greedy_no_valid (worst : Bool) {e : Env α} (hnil : e.validActions = []) :
    greedy compute gap worst e = .error (.value, e) := by
  cases worst <;> simp [greedy, hnil, actionValues, listMax?, listMin?]

end greedy

/-! ### largest -/

/-- size of the coalition behind action `i` (0 outside the list; never read there) -/
def actionSize (e : Env α) (i : Nat) : Nat := match e.explorable[i]? with | some c => size c | none => 0

/-- **largest**: the lowest-index valid action whose coalition has maximal size; the environment is not
    touched at all (the solver is a pure function of it). -/
theorem largest_spec {e : Env α} (hne : e.validActions ≠ []) :
    ∃ a, e.largest = .ok a ∧ a ∈ e.validActions ∧
      (∀ b ∈ e.validActions, actionSize e b ≤ actionSize e a) ∧
      (∀ b ∈ e.validActions, actionSize e b = actionSize e a → a ≤ b) := by
  have hvals : List.Forall₂ (fun b v => some (actionSize e b) = some v) e.validActions
      (e.validActions.map (actionSize e)) := by
    rw [List.forall₂_map_right_iff, List.forall₂_same]
    exact fun _ _ => rfl
  obtain ⟨m, hm⟩ := listMax?_isSome (l := e.validActions.map (actionSize e)) (by simpa using hne)
  obtain ⟨a, ha, hal, hfa, hlow⟩ := firstWith_lowest hvals (validActions_sorted e) (listMax?_mem hm)
  have hfa' : actionSize e a = m := Option.some.inj hfa
  refine ⟨a, ?_, hal, fun b hb => ?_, fun b hb hsz => hlow b hb (by rw [hsz, hfa'])⟩
  · change (match listMax? (e.validActions.map (actionSize e)) with
      | none => Except.error Err.value
      | some m => match firstWith e.validActions (e.validActions.map (actionSize e)) m with
        | some a => Except.ok a
        | none => Except.error Err.other) = Except.ok a
    simp only [hm, ha]
  · rw [hfa']
    exact le_listMax? hm (List.mem_map.mpr ⟨b, hb, rfl⟩)

/-- on the abstract state: the action `largest` returns is valid -/
theorem largest_valid {compute : Table α → Except Err (Table α)} {P : Params} {e : Env α} {s : Spec α}
    (h : Inv compute P e s) {a : Nat} (ha : e.largest = .ok a) (hne : e.validActions ≠ []) :
    validStep P s a = true := by
  obtain ⟨a', ha', hmem, _⟩ := largest_spec hne
  rw [ha] at ha'
  cases ha'
  exact (validActions_spec h a).mp hmem

theorem largest_no_valid {e : Env α} (hnil : e.validActions = []) : e.largest = .error .value := by
  simp [largest, hnil, listMax?]

/-! ### random -/

/-- **random**: `randomOk e a` ("`a` is a possible result of `RandomSolver.next_step`") holds exactly of the valid
    actions when there is one … -/
theorem random_spec {e : Env α} (hne : e.validActions ≠ []) (a : Nat) :
    e.randomOk a = true ↔ a ∈ e.validActions := by
  have : e.validActions.isEmpty = false := by
    cases hv : e.validActions with
    | nil => exact absurd hv hne
    | cons _ _ => rfl
  simp [randomOk, this]

/-- … and exactly of `0` — not a valid action — when there is none (the code's uncovered fallback; the solver reads
    the mask only, so the environment is untouched in both cases) -/
theorem random_no_valid {e : Env α} (hnil : e.validActions = []) (a : Nat) : e.randomOk a = true ↔ a = 0 := by
  simp [randomOk, hnil]

/-! ### non-vacuity: the toy computer / gap of C09 satisfy `Hyps`; a concrete run -/

theorem toyGap_rowsOnly [Add α] [Sub α] [Zero α] : RowsOnly (toyGap (α := α)) where
  congr := by
    intro t1 t2 h
    obtain ⟨hn, _, hr⟩ := h
    simp only [toyGap, Table.rows, hn, Except.ok.injEq]
    congr 1
    apply List.map_congr_left
    intro c hc
    have := hr c (by rw [hn]; exact List.mem_range.mp hc)
    rw [this.1, this.2]

theorem toy_hyps [AddCommGroup α] [DecidableEq α] (w : α) (P : Params) (hP : P.WF) :
    Hyps (toyCompute w) (toyGap (α := α)) P where
  ok := toyCompute_ok w
  ko := toyCompute_knowledgeOnly w
  ro := toyGap_rowsOnly
  tot := fun _ _ _ => ⟨_, rfl⟩
  gtot := fun _ _ _ => ⟨_, rfl⟩
  wf := hP

/-- an asymmetric toy: the unknown rows get `[0, 10·c]`, so revealing a bigger id closes a bigger gap -/
def widthCompute (t : Table Int) : Except Err (Table Int) :=
  .ok { t with lo := fun c => if t.known c then t.lo c else 0,
               hi := fun c => if t.known c then t.hi c else 10 * (c : Int) }

def demoSolve : Option (Env Int × Env Int × Nat × Nat × Nat) :=
  match mkEnv widthCompute 3 [1, 2, 4] none demoFull demoNorm with
  | .error _ => none
  | .ok e =>
    match greedy widthCompute toyGap false e, greedy widthCompute toyGap true e, e.largest with
    | .ok (e1, a), .ok (_, b), .ok c => some (e, e1, a, b, c)
    | _, _, _ => none

/-- explorable = [3, 5, 6]: greedy reveals 6 (index 2, closes width 60), worst-greedy 3 (index 0), largest
    the first of the three pairs; environment unchanged -/
example : demoSolve.map (·.2.2) = some (2, 0, 0) := by decide +kernel

example : demoSolve.map (fun p => (p.1.randomOk 1, p.1.randomOk 3, p.2.1.actionMasks, p.2.1.steps)) =
    some (true, false, [true, true, true], 0) := by decide +kernel

/-! ### the model's own computers satisfy `Hyps`; the theorems are about the functions the driver runs -/

theorem real_hyps_defined [Add α] [Sub α] [LinearOrder α] [Zero α] [Neg α] (k : Computer)
    {gap : Table α → Except Err α} {P : Params} (hro : RowsOnly gap) (hgd : GapDefined gap P) (hP : P.WF)
    (hmin : P.Minimal) : Hyps (k.run : Table α → Except Err (Table α)) gap P where
  ok := computer_ok k
  ko := computer_knowledgeOnly k
  ro := hro
  tot := computer_computeTotal k hmin
  gtot := hgd
  wf := hP

theorem real_hyps [Add α] [Sub α] [LinearOrder α] [Zero α] [Neg α] (k : Computer) {gap : Table α → Except Err α}
    {P : Params} (hro : RowsOnly gap) (hgt : GapTotal gap) (hP : P.WF) (hmin : P.Minimal) :
    Hyps (k.run : Table α → Except Err (Table α)) gap P where
  ok := computer_ok k
  ko := computer_knowledgeOnly k
  ro := hro
  tot := computer_computeTotal k hmin
  gtot := GapDefined.of_total hgt P
  wf := hP

/-- specialisation to the model at core `Rat` with core's own instances (what `lean/Driver.lean` links) -/
example (compute : Table Rat → Except Err (Table Rat)) (gap : Table Rat → Except Err Rat) (P : Params)
    (H : Hyps compute gap P) (e : Env Rat) (s : Spec Rat) (h : Inv compute P e s) (hne : e.validActions ≠ []) :
    ∃ e' a m, @Env.greedy Rat _ Rat.instNeg Rat.instSub instDecidableEqRat compute gap Rat.instMax Rat.instMin false e
        = .ok (e', a) ∧ EnvEq e' e ∧ a ∈ e.validActions ∧ stepReward compute gap e a = some m :=
  let ⟨e', a, m, h1, h2, _, h4, h5, _⟩ := greedy_spec H false h hne
  ⟨e', a, m, h1, h2, h4, h5⟩

end ICG.C13

/-
  ICG.Lemmas.CodecMeta — metadata side of the entry codec (ICG.Model.Codec): dict assignment, `json.load`'s treatment of
  repeated keys, `json.dump` of a loaded value (`Json.loaded`).  Also `keys`, `mapVal`, `strKeyed`; `stringifyMeta` and
  `PyVal.norm` / `normList` / `normItems`, the directly written stringification, with `norm_eq`; the `runTypeOf` /
  `hasEval` lemmas.  Core Lean only.
-/
import ICG.Model.Codec

namespace ICG.Codec
variable {φ : Type} {α β : Type}

def keys (l : List (String × α)) : List String := l.map (·.1)

/-! ### `d[k] = v`, `d.pop(k)`, `d[k]` -/

theorem keys_setKey_of_mem (l : List (String × α)) (k : String) (v : α) (h : k ∈ keys l) :
    keys (setKey l k v) = keys l := by
  induction l with
  | nil => simp [keys] at h
  | cons p r ih =>
    obtain ⟨k', v'⟩ := p
    by_cases hk : k' = k
    · simp [setKey, hk, keys]
    · have : k ∈ keys r := by
        simp only [keys, List.map_cons, List.mem_cons] at h
        rcases h with h | h
        · exact absurd h.symm hk
        · exact h
      simp only [setKey, hk, if_false, keys, List.map_cons, List.cons.injEq, true_and]
      exact ih this

theorem setKey_of_not_mem (l : List (String × α)) (k : String) (v : α) (h : k ∉ keys l) :
    setKey l k v = l ++ [(k, v)] := by
  induction l with
  | nil => rfl
  | cons p r ih =>
    obtain ⟨k', v'⟩ := p
    simp only [keys, List.map_cons, List.mem_cons, not_or] at h
    have hk : ¬ k' = k := fun e => h.1 e.symm
    simp only [setKey, hk, if_false, List.cons_append, List.cons.injEq, true_and]
    exact ih h.2

theorem keys_setKey_nodup (l : List (String × α)) (k : String) (v : α) (h : (keys l).Nodup) :
    (keys (setKey l k v)).Nodup := by
  by_cases hk : k ∈ keys l
  · rw [keys_setKey_of_mem l k v hk]; exact h
  · rw [setKey_of_not_mem l k v hk]
    simp only [keys, List.map_append, List.map_cons, List.map_nil]
    rw [List.nodup_append]
    refine ⟨h, by simp, ?_⟩
    intro a ha b hb
    simp only [List.mem_singleton] at hb
    subst hb
    exact fun e => hk (e ▸ ha)

theorem mem_setKey (l : List (String × α)) (k : String) (v : α) (p : String × α) (h : p ∈ setKey l k v) :
    p ∈ l ∨ p = (k, v) := by
  induction l with
  | nil => simp only [setKey, List.mem_singleton] at h; exact Or.inr h
  | cons q r ih =>
    obtain ⟨k', v'⟩ := q
    by_cases hk : k' = k
    · simp only [setKey, hk, if_true, List.mem_cons] at h
      rcases h with h | h
      · exact Or.inr h
      · exact Or.inl (by simp [h])
    · simp only [setKey, hk, if_false, List.mem_cons] at h
      rcases h with h | h
      · exact Or.inl (by simp [h])
      · rcases ih h with h | h
        · exact Or.inl (by simp [h])
        · exact Or.inr h

/-- `d[k] = v` then `d[k₂]` -/
theorem lookupKey_setKey (l : List (String × α)) (k k₂ : String) (v : α) :
    lookupKey (setKey l k v) k₂ = if k = k₂ then some v else lookupKey l k₂ := by
  induction l with
  | nil => rfl
  | cons p r ih =>
    obtain ⟨k', v'⟩ := p
    show lookupKey (if k' = k then (k', v) :: r else (k', v') :: setKey r k v) k₂ =
      if k = k₂ then some v else if k' = k₂ then some v' else lookupKey r k₂
    by_cases hk : k' = k
    · rw [if_pos hk, hk]
      show (if k = k₂ then some v else lookupKey r k₂) = _
      by_cases h2 : k = k₂
      · rw [if_pos h2, if_pos h2]
      · rw [if_neg h2, if_neg h2, if_neg h2]
    · rw [if_neg hk]
      show (if k' = k₂ then some v' else lookupKey (setKey r k v) k₂) = _
      rw [ih]
      by_cases h1 : k' = k₂
      · rw [if_pos h1, if_neg (fun e => hk (h1.trans e.symm)), if_pos h1]
      · rw [if_neg h1, if_neg h1]

theorem lookupKey_setKey_same (l : List (String × α)) (k : String) (v : α) :
    lookupKey (setKey l k v) k = some v := by
  rw [lookupKey_setKey, if_pos rfl]

theorem lookupKey_setKey_other (l : List (String × α)) (k k₂ : String) (v : α) (h : k ≠ k₂) :
    lookupKey (setKey l k v) k₂ = lookupKey l k₂ := by
  rw [lookupKey_setKey, if_neg h]

/-- `d.pop(k)` keeps, in order, the pairs whose key is not `k` -/
theorem eraseKey_eq_filter (l : List (String × α)) (k : String) :
    eraseKey l k = l.filter fun p => decide (p.1 ≠ k) := by
  induction l with
  | nil => rfl
  | cons p r ih =>
    obtain ⟨k', v'⟩ := p
    by_cases hk : k' = k
    · rw [eraseKey, if_pos hk, List.filter_cons_of_neg (by simpa using hk), ih]
    · rw [eraseKey, if_neg hk, List.filter_cons_of_pos (by simpa using hk), ih]

/-- `d.pop(k)` then `d[k₂]` -/
theorem lookupKey_eraseKey (l : List (String × α)) (k k₂ : String) :
    lookupKey (eraseKey l k) k₂ = if k = k₂ then none else lookupKey l k₂ := by
  induction l with
  | nil => exact (ite_self _).symm
  | cons p r ih =>
    obtain ⟨k', v'⟩ := p
    show lookupKey (if k' = k then eraseKey r k else (k', v') :: eraseKey r k) k₂ =
      if k = k₂ then none else if k' = k₂ then some v' else lookupKey r k₂
    by_cases hk : k' = k
    · rw [if_pos hk, ih, hk]
      by_cases h2 : k = k₂
      · rw [if_pos h2, if_pos h2]
      · rw [if_neg h2, if_neg h2, if_neg h2]
    · rw [if_neg hk]
      show (if k' = k₂ then some v' else lookupKey (eraseKey r k) k₂) = _
      rw [ih]
      by_cases h1 : k' = k₂
      · rw [if_pos h1, if_neg (fun e => hk (h1.trans e.symm)), if_pos h1]
      · rw [if_neg h1, if_neg h1]

theorem lookupKey_eraseKey_same (l : List (String × α)) (k : String) : lookupKey (eraseKey l k) k = none := by
  rw [lookupKey_eraseKey, if_pos rfl]

theorem lookupKey_eraseKey_other (l : List (String × α)) (k k₂ : String) (h : k ≠ k₂) :
    lookupKey (eraseKey l k) k₂ = lookupKey l k₂ := by
  rw [lookupKey_eraseKey, if_neg h]

theorem lookupKey_isSome_iff (l : List (String × α)) (k : String) : (lookupKey l k).isSome = true ↔ k ∈ keys l := by
  induction l with
  | nil => simp [lookupKey, keys]
  | cons p r ih =>
    obtain ⟨k', v'⟩ := p
    by_cases hk : k' = k
    · rw [lookupKey, if_pos hk]
      exact ⟨fun _ => hk ▸ List.mem_cons_self, fun _ => rfl⟩
    · rw [lookupKey, if_neg hk, ih]
      exact ⟨List.mem_cons_of_mem _, fun h => (List.mem_cons.1 h).resolve_left fun e => hk e.symm⟩

theorem keys_eraseKey_not_mem (l : List (String × α)) (k : String) : k ∉ keys (eraseKey l k) := by
  intro h
  have := (lookupKey_isSome_iff _ _).2 h
  simp [lookupKey_eraseKey_same] at this

theorem keys_eraseKey_nodup (l : List (String × α)) (k : String) (h : (keys l).Nodup) :
    (keys (eraseKey l k)).Nodup := by
  rw [eraseKey_eq_filter]
  exact List.Pairwise.sublist (List.filter_sublist.map _) h

theorem mem_keys_setKey (l : List (String × α)) (k : String) (v : α) (x : String) (h : x ∈ keys (setKey l k v)) :
    x ∈ keys l ∨ x = k := by
  simp only [keys, List.mem_map] at h
  obtain ⟨p, hp, rfl⟩ := h
  rcases mem_setKey l k v p hp with h | h
  · exact Or.inl (List.mem_map.2 ⟨p, h, rfl⟩)
  · exact Or.inr (by simp [h])

theorem not_mem_keys_setKey_eraseKey (l : List (String × α)) {k k' : String} (v : α) (h : k ≠ k') :
    k ∉ keys (setKey (eraseKey l k) k' v) := fun hm =>
  (mem_keys_setKey _ _ _ _ hm).elim (keys_eraseKey_not_mem _ _) h

theorem setKey_of_lookupKey (l : List (String × α)) (k : String) (v : α) (h : lookupKey l k = some v) :
    setKey l k v = l := by
  induction l with
  | nil => simp [lookupKey] at h
  | cons p r ih =>
    obtain ⟨k', v'⟩ := p
    by_cases hk : k' = k
    · simp only [lookupKey, hk, if_true, Option.some.injEq] at h
      simp [setKey, hk, h]
    · simp only [lookupKey, hk, if_false] at h
      simp [setKey, hk, ih h]

theorem eraseKey_of_not_mem (l : List (String × α)) (k : String) (h : k ∉ keys l) : eraseKey l k = l := by
  rw [eraseKey_eq_filter, List.filter_eq_self]
  exact fun p hp => decide_eq_true fun e => h (e ▸ List.mem_map_of_mem hp)

theorem eraseKey_append_singleton (l : List (String × α)) (k : String) (v : α) (h : k ∉ keys l) :
    eraseKey (l ++ [(k, v)]) k = l := by
  rw [eraseKey_eq_filter, List.filter_append, ← eraseKey_eq_filter, eraseKey_of_not_mem l k h,
    List.filter_cons_of_neg (by simp), List.filter_nil, List.append_nil]

theorem lookupKey_eq_none (l : List (String × α)) (k : String) (h : k ∉ keys l) : lookupKey l k = none := by
  cases hl : lookupKey l k with
  | none => rfl
  | some v => exact absurd ((lookupKey_isSome_iff l k).1 (by rw [hl]; rfl)) h

theorem lookupKey_append (l t : List (String × α)) (k : String) :
    lookupKey (l ++ t) k = (lookupKey l k).or (lookupKey t k) := by
  induction l with
  | nil => rfl
  | cons p r ih =>
    obtain ⟨k', v'⟩ := p
    show (if k' = k then some v' else lookupKey (r ++ t) k) = (if k' = k then some v' else lookupKey r k).or _
    split
    · rfl
    · exact ih

theorem lookupKey_append_singleton (l : List (String × α)) (k : String) (v : α) (h : k ∉ keys l) :
    lookupKey (l ++ [(k, v)]) k = some v := by
  rw [lookupKey_append, lookupKey_eq_none l k h]
  exact if_pos rfl

theorem lookupKey_append_of_some (l t : List (String × α)) (k : String) (v : α) (h : lookupKey l k = some v) :
    lookupKey (l ++ t) k = some v := by
  rw [lookupKey_append, h]; rfl

/-- a function applied to every value of a dict; `reloadItems`, `toPyMeta` are instances -/
def mapVal (f : α → β) (l : List (String × α)) : List (String × β) := l.map fun p => (p.1, f p.2)

theorem keys_mapVal (f : α → β) (l : List (String × α)) : keys (mapVal f l) = keys l :=
  List.map_map

theorem lookupKey_mapVal (f : α → β) (l : List (String × α)) (k : String) :
    lookupKey (mapVal f l) k = (lookupKey l k).map f := by
  induction l with
  | nil => rfl
  | cons p r ih =>
    obtain ⟨k', v'⟩ := p
    show (if k' = k then some (f v') else lookupKey (mapVal f r) k) = (if k' = k then some v' else lookupKey r k).map f
    split
    · rfl
    · exact ih

theorem setKey_mapVal (f : α → β) (l : List (String × α)) (k : String) (v : α) :
    mapVal f (setKey l k v) = setKey (mapVal f l) k (f v) := by
  induction l with
  | nil => rfl
  | cons p r ih =>
    obtain ⟨k', v'⟩ := p
    show mapVal f (if k' = k then (k', v) :: r else (k', v') :: setKey r k v) =
      if k' = k then (k', f v) :: mapVal f r else (k', f v') :: setKey (mapVal f r) k (f v)
    split
    · rfl
    · exact congrArg _ ih

theorem dedupFrom_mapVal (f : α → β) (acc l : List (String × α)) :
    mapVal f (dedupFrom acc l) = dedupFrom (mapVal f acc) (mapVal f l) := by
  induction l generalizing acc with
  | nil => rfl
  | cons p r ih => exact (ih _).trans (congrArg (dedupFrom · _) (setKey_mapVal f acc p.1 p.2))

/-! ### `dict(pairs)` -/

theorem keys_dedupFrom_nodup (acc l : List (String × α)) (h : (keys acc).Nodup) : (keys (dedupFrom acc l)).Nodup := by
  induction l generalizing acc with
  | nil => exact h
  | cons p r ih =>
    obtain ⟨k, v⟩ := p
    exact ih _ (keys_setKey_nodup acc k v h)

theorem keys_dedup_nodup (l : List (String × α)) : (keys (dedup l)).Nodup :=
  keys_dedupFrom_nodup [] l (by simp [keys])

theorem dedupFrom_of_nodup (acc l : List (String × α)) (h : (keys (acc ++ l)).Nodup) : dedupFrom acc l = acc ++ l := by
  induction l generalizing acc with
  | nil => simp [dedupFrom]
  | cons p r ih =>
    obtain ⟨k, v⟩ := p
    have hk : k ∉ keys acc := by
      simp only [keys, List.map_append, List.map_cons] at h
      rw [List.nodup_append] at h
      intro hm
      exact h.2.2 k hm k (by simp) rfl
    rw [dedupFrom, setKey_of_not_mem acc k v hk, ih]
    · simp
    · simpa using h

theorem dedup_of_nodup (l : List (String × α)) (h : (keys l).Nodup) : dedup l = l := by
  simpa [dedup] using dedupFrom_of_nodup [] l (by simpa using h)

theorem dedup_idem (l : List (String × α)) : dedup (dedup l) = dedup l :=
  dedup_of_nodup _ (keys_dedup_nodup l)

theorem mem_dedupFrom (acc l : List (String × α)) (p : String × α) (h : p ∈ dedupFrom acc l) : p ∈ acc ∨ p ∈ l := by
  induction l generalizing acc with
  | nil => exact Or.inl h
  | cons q r ih =>
    obtain ⟨k, v⟩ := q
    rcases ih _ h with h | h
    · rcases mem_setKey acc k v p h with h | h
      · exact Or.inl h
      · exact Or.inr (by simp [h])
    · exact Or.inr (by simp [h])

theorem mem_dedup (l : List (String × α)) (p : String × α) (h : p ∈ dedup l) : p ∈ l := by
  rcases mem_dedupFrom [] l p h with h | h
  · simp at h
  · exact h

/-! ### loaded JSON values -/

mutual
/-- no object of the value repeats a key (what `json.load` returns) -/
def Json.loaded : Json φ → Bool
  | .arr l => loadedList l
  | .obj kvs => decide ((kvs.map (·.1)).Nodup) && loadedItems kvs
  | .null => true | .bool _ => true | .int _ => true | .float _ => true | .str _ => true
def loadedList : List (Json φ) → Bool
  | [] => true
  | x :: xs => Json.loaded x && loadedList xs
def loadedItems : List (String × Json φ) → Bool
  | [] => true
  | (_, v) :: kvs => Json.loaded v && loadedItems kvs
end

theorem loadedItems_iff (kvs : List (String × Json φ)) : loadedItems kvs = true ↔ ∀ p ∈ kvs, p.2.loaded = true := by
  induction kvs with
  | nil => simp [loadedItems]
  | cons p r ih =>
    obtain ⟨k, v⟩ := p
    simp [loadedItems, ih]

theorem reloadItems_eq_mapVal (kvs : List (String × Json φ)) : reloadItems kvs = mapVal Json.reload kvs := by
  induction kvs with
  | nil => rfl
  | cons p r ih => exact congrArg _ ih

theorem keys_reloadItems (kvs : List (String × Json φ)) : keys (reloadItems kvs) = keys kvs := by
  rw [reloadItems_eq_mapVal, keys_mapVal]

theorem lookupKey_reloadItems (m : List (String × Json φ)) (k : String) :
    lookupKey (reloadItems m) k = (lookupKey m k).map Json.reload := by
  rw [reloadItems_eq_mapVal, lookupKey_mapVal]

mutual
theorem reload_of_loaded : ∀ j : Json φ, j.loaded = true → j.reload = j
  | .arr l, h => by
    simp only [Json.loaded] at h
    simp [Json.reload, reloadList_of_loaded l h]
  | .obj kvs, h => by
    simp only [Json.loaded, Bool.and_eq_true, decide_eq_true_eq] at h
    rw [Json.reload, reloadItems_of_loaded kvs h.2, dedup_of_nodup kvs h.1]
  | .null, _ => rfl | .bool _, _ => rfl | .int _, _ => rfl | .float _, _ => rfl | .str _, _ => rfl
theorem reloadList_of_loaded : ∀ l : List (Json φ), loadedList l = true → reloadList l = l
  | [], _ => rfl
  | x :: xs, h => by
    simp only [loadedList, Bool.and_eq_true] at h
    simp [reloadList, reload_of_loaded x h.1, reloadList_of_loaded xs h.2]
theorem reloadItems_of_loaded : ∀ kvs : List (String × Json φ), loadedItems kvs = true → reloadItems kvs = kvs
  | [], _ => rfl
  | (k, v) :: kvs, h => by
    simp only [loadedItems, Bool.and_eq_true] at h
    simp [reloadItems, reload_of_loaded v h.1, reloadItems_of_loaded kvs h.2]
end

mutual
theorem loaded_reload : ∀ j : Json φ, j.reload.loaded = true
  | .arr l => by simp [Json.reload, Json.loaded, loadedList_reload l]
  | .obj kvs => by
    simp only [Json.reload, Json.loaded, Bool.and_eq_true, decide_eq_true_eq]
    refine ⟨keys_dedup_nodup _, ?_⟩
    rw [loadedItems_iff]
    intro p hp
    exact (loadedItems_iff _).1 (loadedItems_reload kvs) p (mem_dedup _ p hp)
  | .null => rfl | .bool _ => rfl | .int _ => rfl | .float _ => rfl | .str _ => rfl
theorem loadedList_reload : ∀ l : List (Json φ), loadedList (reloadList l) = true
  | [] => rfl
  | x :: xs => by simp [reloadList, loadedList, loaded_reload x, loadedList_reload xs]
theorem loadedItems_reload : ∀ kvs : List (String × Json φ), loadedItems (reloadItems kvs) = true
  | [] => rfl
  | (k, v) :: kvs => by simp [reloadItems, loadedItems, loaded_reload v, loadedItems_reload kvs]
end

theorem reload_idem (j : Json φ) : j.reload.reload = j.reload := reload_of_loaded _ (loaded_reload j)

theorem reloadItems_idem (m : List (String × Json φ)) : reloadItems (reloadItems m) = reloadItems m := by
  induction m with
  | nil => rfl
  | cons p r ih => obtain ⟨k, v⟩ := p; simp [reloadItems, reload_idem, ih]

mutual
theorem toJson_toPy : ∀ j : Json φ, j.toPy.toJson = .ok j
  | .arr l => by simp [Json.toPy, PyVal.toJson, toJsonList_toPyList l]
  | .obj kvs => by simp [Json.toPy, PyVal.toJson, toJsonItems_toPyItems kvs]
  | .null => rfl | .bool _ => rfl | .int _ => rfl | .float _ => rfl | .str _ => rfl
theorem toJsonList_toPyList : ∀ l : List (Json φ), toJsonList (toPyList l) = .ok l
  | [] => rfl
  | x :: xs => by simp [toPyList, toJsonList, toJson_toPy x, toJsonList_toPyList xs]
theorem toJsonItems_toPyItems : ∀ kvs : List (String × Json φ), toJsonItems (toPyItems kvs) = .ok kvs
  | [] => rfl
  | (k, v) :: kvs => by simp [toPyItems, toJsonItems, PyKey.toStr, toJson_toPy v, toJsonItems_toPyItems kvs]
end

theorem toJsonMeta_toPyMeta (kvs : List (String × Json φ)) : toJsonMeta (toPyMeta kvs) = .ok kvs := by
  induction kvs with
  | nil => rfl
  | cons p r ih =>
    obtain ⟨k, v⟩ := p
    simp [toPyMeta, toJsonMeta, toJson_toPy, ih]

theorem toPyMeta_eq_mapVal (kvs : List (String × Json φ)) : toPyMeta kvs = mapVal Json.toPy kvs := by
  induction kvs with
  | nil => rfl
  | cons p r ih => exact congrArg _ ih

theorem keys_toPyMeta (m : List (String × Json φ)) : keys (toPyMeta m) = keys m := by
  rw [toPyMeta_eq_mapVal, keys_mapVal]

theorem lookupKey_toPyMeta (m : List (String × Json φ)) (k : String) :
    lookupKey (toPyMeta m) k = (lookupKey m k).map Json.toPy := by
  rw [toPyMeta_eq_mapVal, lookupKey_mapVal]

theorem toPyMeta_dedup (l : List (String × Json φ)) : toPyMeta (dedup l) = dedup (toPyMeta l) := by
  rw [toPyMeta_eq_mapVal, toPyMeta_eq_mapVal]
  exact dedupFrom_mapVal Json.toPy [] l

/-! ### the metadata dict through dump and load -/

/-- every metadata value stringified, keys (attribute names) kept -/
def stringifyMeta : List (String × PyVal φ) → Except CErr (List (String × PyVal φ))
  | [] => .ok []
  | (k, v) :: r =>
    match v.stringify with
    | .error e => .error e
    | .ok w =>
      match stringifyMeta r with
      | .error e => .error e
      | .ok ws => .ok ((k, w) :: ws)

theorem stringifyMeta_eq (kvs : List (String × PyVal φ)) :
    stringifyMeta kvs = match toJsonMeta kvs with
      | .ok m => .ok (toPyMeta (reloadItems m))
      | .error e => .error e := by
  induction kvs with
  | nil => rfl
  | cons p r ih =>
    obtain ⟨k, v⟩ := p
    simp only [stringifyMeta, toJsonMeta, PyVal.stringify, ih]
    cases v.toJson with
    | error e => rfl
    | ok j =>
      cases toJsonMeta r with
      | error e => rfl
      | ok js => simp [reloadItems, toPyMeta]

theorem toJsonMeta_cons_ok {k : String} {v : PyVal φ} {r : List (String × PyVal φ)} {m : List (String × Json φ)}
    (h : toJsonMeta ((k, v) :: r) = .ok m) :
    ∃ j js, v.toJson = .ok j ∧ toJsonMeta r = .ok js ∧ m = (k, j) :: js := by
  simp only [toJsonMeta] at h
  cases hv : v.toJson with
  | error e => simp [hv] at h
  | ok j =>
    cases hr : toJsonMeta r with
    | error e => simp [hv, hr] at h
    | ok js =>
      simp only [hv, hr, Except.ok.injEq] at h
      exact ⟨j, js, rfl, rfl, h.symm⟩

theorem keys_toJsonMeta (kvs : List (String × PyVal φ)) (m : List (String × Json φ)) (h : toJsonMeta kvs = .ok m) :
    keys m = keys kvs := by
  induction kvs generalizing m with
  | nil => cases h; rfl
  | cons p r ih =>
    obtain ⟨j, js, _, hr, rfl⟩ := toJsonMeta_cons_ok h
    exact congrArg (p.1 :: ·) (ih js hr)

theorem lookupKey_toJsonMeta (kvs : List (String × PyVal φ)) (m : List (String × Json φ)) (h : toJsonMeta kvs = .ok m)
    (k : String) (v : PyVal φ) (hk : lookupKey kvs k = some v) :
    ∃ j, v.toJson = .ok j ∧ lookupKey m k = some j := by
  induction kvs generalizing m with
  | nil => cases hk
  | cons p r ih =>
    obtain ⟨k', v'⟩ := p
    obtain ⟨j, js, hv, hr, rfl⟩ := toJsonMeta_cons_ok h
    by_cases hkk : k' = k
    · rw [lookupKey, if_pos hkk] at hk ⊢
      cases hk
      exact ⟨j, hv, rfl⟩
    · rw [lookupKey, if_neg hkk] at hk ⊢
      exact ih js hr hk

theorem stringifyMeta_ok {md sm : List (String × PyVal φ)} (h : stringifyMeta md = .ok sm) :
    ∃ m, toJsonMeta md = .ok m ∧ sm = toPyMeta (reloadItems m) := by
  rw [stringifyMeta_eq] at h
  cases hm : toJsonMeta md with
  | error e => simp [hm] at h
  | ok m => exact ⟨m, rfl, by simpa [hm] using h.symm⟩

theorem keys_stringifyMeta (md sm : List (String × PyVal φ)) (h : stringifyMeta md = .ok sm) : keys sm = keys md := by
  obtain ⟨m, hm, rfl⟩ := stringifyMeta_ok h
  rw [keys_toPyMeta, keys_reloadItems, keys_toJsonMeta md m hm]

theorem lookupKey_stringifyMeta (md sm : List (String × PyVal φ)) (h : stringifyMeta md = .ok sm) (k : String)
    (v : PyVal φ) (hk : lookupKey md k = some v) : ∃ w, v.stringify = .ok w ∧ lookupKey sm k = some w := by
  obtain ⟨m, hm, rfl⟩ := stringifyMeta_ok h
  obtain ⟨j, hj1, hj2⟩ := lookupKey_toJsonMeta md m hm k v hk
  exact ⟨j.reload.toPy, by simp [PyVal.stringify, hj1], by simp [lookupKey_toPyMeta, lookupKey_reloadItems, hj2]⟩

theorem stringifyMeta_idem (md sm : List (String × PyVal φ)) (h : stringifyMeta md = .ok sm) :
    stringifyMeta sm = .ok sm := by
  obtain ⟨m, hm, rfl⟩ := stringifyMeta_ok h
  rw [stringifyMeta_eq, toJsonMeta_toPyMeta]
  simp [reloadItems_idem]

/-! ### JSON stringification, defined directly on Python values -/

def strKeyed (l : List (String × PyVal φ)) : List (PyKey × PyVal φ) := l.map (fun p => (PyKey.str p.1, p.2))

mutual
/-- "up to JSON stringification", written down directly: tuples become lists, a Path its string, any other non-JSON
    object its repr, dict keys strings (a key that occurs twice afterwards keeps its first position and last value);
    a dict key that is none of str / int / float / bool / None is a TypeError -/
def PyVal.norm : PyVal φ → Except CErr (PyVal φ)
  | .none => .ok .none
  | .bool b => .ok (.bool b)
  | .int i => .ok (.int i)
  | .float c => .ok (.float c)
  | .str s => .ok (.str s)
  | .list l => match normList l with | .ok ws => .ok (.list ws) | .error e => .error e
  | .tuple l => match normList l with | .ok ws => .ok (.list ws) | .error e => .error e
  | .dict kvs => match normItems kvs with | .ok ws => .ok (.dict (strKeyed (dedup ws))) | .error e => .error e
  | .path s => .ok (.str s)
  | .other r => .ok (.str r)
def normList : List (PyVal φ) → Except CErr (List (PyVal φ))
  | [] => .ok []
  | v :: vs =>
    match PyVal.norm v with
    | .error e => .error e
    | .ok w =>
      match normList vs with
      | .error e => .error e
      | .ok ws => .ok (w :: ws)
def normItems : List (PyKey × PyVal φ) → Except CErr (List (String × PyVal φ))
  | [] => .ok []
  | (k, v) :: kvs =>
    match k.toStr with
    | .error e => .error e
    | .ok ks =>
      match PyVal.norm v with
      | .error e => .error e
      | .ok w =>
        match normItems kvs with
        | .error e => .error e
        | .ok ws => .ok ((ks, w) :: ws)
end

theorem toPyItems_eq (l : List (String × Json φ)) : toPyItems l = strKeyed (toPyMeta l) := by
  induction l with
  | nil => rfl
  | cons p r ih => obtain ⟨k, v⟩ := p; simp [toPyItems, toPyMeta, strKeyed, ih]

mutual
theorem norm_eq : ∀ v : PyVal φ,
    v.norm = match v.toJson with | .ok j => .ok j.reload.toPy | .error e => .error e
  | .list l => by
    simp only [PyVal.norm, PyVal.toJson, normList_eq l]
    cases toJsonList l <;> simp [Json.reload, Json.toPy]
  | .tuple l => by
    simp only [PyVal.norm, PyVal.toJson, normList_eq l]
    cases toJsonList l <;> simp [Json.reload, Json.toPy]
  | .dict kvs => by
    simp only [PyVal.norm, PyVal.toJson, normItems_eq kvs]
    cases toJsonItems kvs <;> simp [Json.reload, Json.toPy, toPyItems_eq, toPyMeta_dedup]
  | .none => rfl | .bool _ => rfl | .int _ => rfl | .float _ => rfl | .str _ => rfl | .path _ => rfl | .other _ => rfl
theorem normList_eq : ∀ l : List (PyVal φ),
    normList l = match toJsonList l with | .ok js => .ok (toPyList (reloadList js)) | .error e => .error e
  | [] => rfl
  | v :: vs => by
    simp only [normList, toJsonList, norm_eq v, normList_eq vs]
    cases v.toJson with
    | error e => rfl
    | ok j => cases toJsonList vs <;> simp [reloadList, toPyList]
theorem normItems_eq : ∀ kvs : List (PyKey × PyVal φ),
    normItems kvs = match toJsonItems kvs with | .ok js => .ok (toPyMeta (reloadItems js)) | .error e => .error e
  | [] => rfl
  | (k, v) :: kvs => by
    simp only [normItems, toJsonItems, norm_eq v, normItems_eq kvs]
    cases k.toStr with
    | error e => rfl
    | ok ks =>
      cases v.toJson with
      | error e => rfl
      | ok j => cases toJsonItems kvs <;> simp [reloadItems, toPyMeta]
end

theorem hasEval_eval : hasEval "eval" = true := by decide
theorem hasEval_learn : hasEval "learn" = false := by decide

theorem runTypeOf_str_runTypeOf (f : PyVal φ) : runTypeOf (PyVal.str (runTypeOf f) : PyVal φ) = runTypeOf f := by
  unfold runTypeOf
  by_cases h : f.reprHasEval = true
  · simp [h, PyVal.reprHasEval, hasEval_eval]
  · simp [h, PyVal.reprHasEval, hasEval_learn]

end ICG.Codec

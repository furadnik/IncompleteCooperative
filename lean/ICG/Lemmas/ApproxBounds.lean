/-
  ICG.Lemmas.ApproxBounds — the superadditive bounds computed with a ROUNDED addition / subtraction
  (`loApprox`, `upApprox`: the recursion of `loSpec` / `upSpec` with `add'` / `sub'` in place of `+` / `−`;
  `max` / `min` are exact, as in floating point), and their distance to `loSpec` / `upSpec` when the operations
  actually performed have absolute error `≤ δ` (used by `ICG.Props.FloatError`).
-/
import ICG.Lemmas.SpecSA1
import ICG.Lemmas.Enum
import ICG.Lemmas.Rounding
import Mathlib.Algebra.Order.Group.MinMax
import Mathlib.Algebra.Order.Group.Abs
import Mathlib.Algebra.Order.Field.Basic
import Mathlib.Data.List.Forall2
import Mathlib.Tactic.Linarith

namespace ICG.Approx
open ICG.SpecSA ICG.Rounding

variable {α : Type}

section defs
variable [Max α]

/-- `loSpec` with the rounded addition `add'` in place of `+` (same recursion, same candidate order; the two
    `have`s tell the termination checker that both parts of a split are smaller) -/
def loApprox (add' : α → α → α) (known : Nat → Bool) (v : Nat → α) (c : Nat) : α :=
  if known c then v c else
    match listMax? ((properSubs c).attach.map fun ⟨x, hx⟩ =>
        have := (properSubs_lt hx).1
        have := (properSubs_lt hx).2
        add' (loApprox add' known v x) (loApprox add' known v (c - x))) with
    | some m => m
    | none => v c
termination_by c

variable [Min α]

/-- `upSpec` with the rounded subtraction `sub'` in place of `−`, against the rounded lower bounds -/
def upApprox (n : Nat) (add' sub' : α → α → α) (known : Nat → Bool) (v : Nat → α) (c : Nat) : α :=
  if known c then v c else
    match listMin? ((knownSupers n known c).map fun T => sub' (v T) (loApprox add' known v (T - c))) with
    | some m => m
    | none => v c

end defs

section unfold
variable [Max α]

theorem loApprox_known (add' : α → α → α) (known : Nat → Bool) (v : Nat → α) {c : Nat}
    (hk : known c = true) : loApprox add' known v c = v c := by
  unfold loApprox; simp [hk]

/-- `SpecSA.loCands` with `add'` (`A` for approximate) -/
def loCandsA (add' : α → α → α) (known : Nat → Bool) (v : Nat → α) (c : Nat) : List α :=
  (properSubs c).map fun x => add' (loApprox add' known v x) (loApprox add' known v (c - x))

theorem loApprox_unknown_eq (add' : α → α → α) (known : Nat → Bool) (v : Nat → α) {c : Nat}
    (hk : known c = false) :
    loApprox add' known v c =
      match listMax? (loCandsA add' known v c) with
      | some m => m
      | none => v c := by
  have hlist : ((properSubs c).attach.map fun (p : {x // x ∈ properSubs c}) =>
        add' (loApprox add' known v p.1) (loApprox add' known v (c - p.1)))
      = loCandsA add' known v c := by
    rw [List.attach_map_val (f := fun x => add' (loApprox add' known v x) (loApprox add' known v (c - x)))]
    rfl
  conv => lhs; unfold loApprox
  simp only [hk, Bool.false_eq_true, if_false]
  rw [← hlist]

variable [Min α]

theorem upApprox_known (n : Nat) (add' sub' : α → α → α) (known : Nat → Bool) (v : Nat → α) {c : Nat}
    (hk : known c = true) : upApprox n add' sub' known v c = v c := by
  simp [upApprox, hk]

/-- `SpecSA.upCands` with `sub'` and the rounded lower bounds -/
def upCandsA (n : Nat) (add' sub' : α → α → α) (known : Nat → Bool) (v : Nat → α) (c : Nat) : List α :=
  (knownSupers n known c).map fun T => sub' (v T) (loApprox add' known v (T - c))

theorem upApprox_unknown_eq (n : Nat) (add' sub' : α → α → α) (known : Nat → Bool) (v : Nat → α) {c : Nat}
    (hk : known c = false) :
    upApprox n add' sub' known v c =
      match listMin? (upCandsA n add' sub' known v c) with
      | some m => m
      | none => v c := by
  unfold upApprox
  rw [if_neg (by simp [hk])]
  rfl

end unfold

section exact
variable [Add α] [Max α]

theorem loApprox_exact (known : Nat → Bool) (v : Nat → α) (c : Nat) :
    loApprox (· + ·) known v c = loSpec known v c := by
  induction c using Nat.strong_induction_on with
  | _ c ih =>
    cases hk : known c with
    | true => rw [loApprox_known _ known v hk, loSpec_known known v hk]
    | false =>
      rw [loApprox_unknown_eq _ known v hk, loSpec_unknown_eq known v hk]
      have : loCandsA (· + ·) known v c
          = (properSubs c).map fun x => loSpec known v x + loSpec known v (c - x) := by
        unfold loCandsA
        apply List.map_congr_left
        intro x hx
        have hlt := properSubs_lt hx
        rw [ih x hlt.1, ih (c - x) hlt.2]
      rw [this]; rfl

theorem loApprox_eq_of_known (add' : α → α → α) (known : Nat → Bool) (v : Nat → α) {c : Nat}
    (hk : known c = true) : loApprox add' known v c = loSpec known v c := by
  rw [loApprox_known add' known v hk, loSpec_known known v hk]

variable [Sub α] [Min α]

theorem upApprox_eq_of_known (n : Nat) (add' sub' : α → α → α) (known : Nat → Bool) (v : Nat → α) {c : Nat}
    (hk : known c = true) : upApprox n add' sub' known v c = upSpec n known v c := by
  rw [upApprox_known n add' sub' known v hk, upSpec_known n known v hk]

theorem upApprox_exact (n : Nat) (known : Nat → Bool) (v : Nat → α) (c : Nat) :
    upApprox n (· + ·) (· - ·) known v c = upSpec n known v c := by
  cases hk : known c with
  | true => rw [upApprox_known n _ _ known v hk, upSpec_known n known v hk]
  | false =>
    rw [upApprox_unknown_eq n _ _ known v hk, upSpec_unknown_eq n known v hk]
    have : upCandsA n (· + ·) (· - ·) known v c
        = (knownSupers n known c).map fun T => v T - loSpec known v (T - c) := by
      unfold upCandsA
      apply List.map_congr_left
      intro T _
      rw [loApprox_exact]
    rw [this]; rfl

end exact

section close
variable [AddCommGroup α] [LinearOrder α] [IsOrderedAddMonoid α]

omit [IsOrderedAddMonoid α] in
/-- `op` is 1-Lipschitz in the sup norm: `max`, `min` -/
theorem foldl_close {op : α → α → α} (hop : ∀ a b c d, |op a b - op c d| ≤ max |a - c| |b - d|) {ε : α}
    {l l' : List α} (h : List.Forall₂ (fun a b => |a - b| ≤ ε) l l') :
    ∀ {a a' : α}, |a - a'| ≤ ε → |l.foldl op a - l'.foldl op a'| ≤ ε := by
  induction h with
  | nil => intro a a' h; exact h
  | cons hxy _ ih => intro a a' haa; exact ih ((hop _ _ _ _).trans (max_le haa hxy))

theorem listMax?_close {ε : α} {l l' : List α} (h : List.Forall₂ (fun a b => |a - b| ≤ ε) l l') {m' : α}
    (hm' : listMax? l' = some m') : ∃ m, listMax? l = some m ∧ |m - m'| ≤ ε := by
  cases h with
  | nil => cases hm'
  | cons hab ht => cases hm'; exact ⟨_, rfl, foldl_close abs_max_sub_max_le_max ht hab⟩

theorem listMin?_close {ε : α} {l l' : List α} (h : List.Forall₂ (fun a b => |a - b| ≤ ε) l l') {m' : α}
    (hm' : listMin? l' = some m') : ∃ m, listMin? l = some m ∧ |m - m'| ≤ ε := by
  cases h with
  | nil => cases hm'
  | cons hab ht => cases hm'; exact ⟨_, rfl, foldl_close abs_min_sub_min_le_max ht hab⟩

omit [IsOrderedAddMonoid α] in
theorem forall₂_map_close {ι : Type} {ε : α} (L : List ι) (f g : ι → α)
    (h : ∀ x ∈ L, |f x - g x| ≤ ε) : List.Forall₂ (fun a b => |a - b| ≤ ε) (L.map f) (L.map g) := by
  induction L with
  | nil => exact List.Forall₂.nil
  | cons x L ih =>
    exact List.Forall₂.cons (h x List.mem_cons_self) (ih fun y hy => h y (List.mem_cons_of_mem _ hy))

end close

section errOn
variable [Field α] [LinearOrder α]

/-- every addition performed by `loApprox` on the `n`-player table has absolute error at most `δ` -/
def AddErrOn (n : Nat) (add' : α → α → α) (known : Nat → Bool) (v : Nat → α) (δ : α) : Prop :=
  ∀ c, c < 2 ^ n → known c = false → ∀ x ∈ properSubs c,
    |add' (loApprox add' known v x) (loApprox add' known v (c - x))
      - (loApprox add' known v x + loApprox add' known v (c - x))| ≤ δ

/-- every subtraction performed by `upApprox` on the `n`-player table has absolute error at most `δ` -/
def SubErrOn (n : Nat) (add' sub' : α → α → α) (known : Nat → Bool) (v : Nat → α) (δ : α) : Prop :=
  ∀ c, c < 2 ^ n → known c = false → ∀ T ∈ knownSupers n known c,
    |sub' (v T) (loApprox add' known v (T - c)) - (v T - loApprox add' known v (T - c))| ≤ δ

theorem AddErrOn.of_forall {n : Nat} {add' : α → α → α} {known : Nat → Bool} {v : Nat → α} {δ : α}
    (h : ∀ a b, |add' a b - (a + b)| ≤ δ) : AddErrOn n add' known v δ :=
  fun _ _ _ _ _ => h _ _

theorem SubErrOn.of_forall {n : Nat} {add' sub' : α → α → α} {known : Nat → Bool} {v : Nat → α} {δ : α}
    (h : ∀ a b, |sub' a b - (a - b)| ≤ δ) : SubErrOn n add' sub' known v δ :=
  fun _ _ _ _ _ => h _ _

end errOn

section bounds
variable [Field α] [LinearOrder α] [IsStrictOrderedRing α]

/-- a split of `c` splits the number of rounded additions (natural-number subtraction; all three sizes are ≥ 1) -/
theorem size_split_pred {c x : Nat} (hx : x ∈ properSubs c) :
    size c - 1 = (size x - 1) + (size (c - x) - 1) + 1 := by
  obtain ⟨hsub, hx0, hxc⟩ := mem_properSubs.mp hx
  have hd := sub_or_self hsub
  have h1 := size_or_of_disjoint x (c - x) hd.2
  rw [hd.1] at h1
  have h2 := size_pos_of_ne_zero x hx0
  have h3 : 0 < size (c - x) := size_pos_of_ne_zero _ (by have := sub_le hsub; omega)
  omega

/-- one `δ` per rounded addition along the best split tree, which has `|c| − 1` internal nodes at most (`|c| − 1` in ℕ,
    so `0` at `∅`).  `MinInfo` is what makes the candidate list of an unknown coalition non-empty (`SpecSA.loSpec_unknown`). -/
theorem loApprox_close_on {n : Nat} {known : Nat → Bool} (hmin : MinInfo n known) {add' : α → α → α}
    {v : Nat → α} {δ : α} (hδ : 0 ≤ δ) (hadd : AddErrOn n add' known v δ) :
    ∀ c, c < 2 ^ n → |loApprox add' known v c - loSpec known v c| ≤ ((size c - 1 : ℕ) : α) * δ := by
  intro c
  induction c using Nat.strong_induction_on with
  | _ c ih =>
    intro hc
    cases hk : known c with
    | true =>
      rw [loApprox_eq_of_known add' known v hk, sub_self, abs_zero]
      exact mul_nonneg (Nat.cast_nonneg _) hδ
    | false =>
      obtain ⟨m', hm', he⟩ := loSpec_unknown hmin v hc hk
      have hF : List.Forall₂ (fun a b => |a - b| ≤ ((size c - 1 : ℕ) : α) * δ)
          (loCandsA add' known v c) (loCands known v c) := by
        apply forall₂_map_close
        intro x hx
        have hlt := properSubs_lt hx
        have h := abs_add_error (hadd c hc hk x hx) (ih x hlt.1 (by omega)) (ih (c - x) hlt.2 (by omega))
        rw [size_split_pred hx]
        push_cast
        linear_combination h
      obtain ⟨m, hm, hab⟩ := listMax?_close hF hm'
      rw [loApprox_unknown_eq add' known v hk, hm, he]
      exact hab

/-- the candidate of a known superset `T` costs one rounded subtraction on top of the `|T − c| − 1` additions inside
    `loApprox (T − c)`, and `|T − c| ≤ n − |c|` -/
theorem upApprox_close_on {n : Nat} {known : Nat → Bool} (hmin : MinInfo n known) {add' sub' : α → α → α}
    {v : Nat → α} {δ : α} (hδ : 0 ≤ δ) (hadd : AddErrOn n add' known v δ)
    (hsub : SubErrOn n add' sub' known v δ) :
    ∀ c, c < 2 ^ n →
      |upApprox n add' sub' known v c - upSpec n known v c| ≤ ((n - size c : ℕ) : α) * δ := by
  intro c hc
  cases hk : known c with
  | true =>
    rw [upApprox_eq_of_known n add' sub' known v hk, sub_self, abs_zero]
    exact mul_nonneg (Nat.cast_nonneg _) hδ
  | false =>
    obtain ⟨m', hm', he⟩ := upSpec_unknown hmin v hc hk
    have hF : List.Forall₂ (fun a b => |a - b| ≤ ((n - size c : ℕ) : α) * δ)
        (upCandsA n add' sub' known v c) (upCands n known v c) := by
      apply forall₂_map_close
      intro T hT
      obtain ⟨hT0, hT1, hT2, _⟩ := mem_knownSupers.mp hT
      have hle := sub_le hT1
      have hd := sub_or_self hT1
      have hs := size_or_of_disjoint c (T - c) hd.2
      rw [hd.1] at hs
      have hTn := size_le n T hT0
      have hpos : 0 < size (T - c) := size_pos_of_ne_zero _ (by omega)
      have h := abs_sub_error (a := v T) (ea := 0) (hsub c hc hk T hT) (by rw [sub_self, abs_zero])
        (loApprox_close_on hmin hδ hadd (T - c) (by omega))
      have hrest : 0 ≤ ((n - size T : ℕ) : α) * δ := mul_nonneg (Nat.cast_nonneg _) hδ
      rw [show n - size c = (size (T - c) - 1) + 1 + (n - size T) by omega]
      push_cast
      linear_combination h + hrest
    obtain ⟨m, hm, hab⟩ := listMin?_close hF hm'
    rw [upApprox_unknown_eq n add' sub' known v hk, hm, he]
    exact hab

end bounds

end ICG.Approx

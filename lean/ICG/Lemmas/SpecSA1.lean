/-
  ICG.Lemmas.SpecSA1 — pure mathematics on the bound specification (`ICG.Spec.Bounds`), part 1:

  * `loSpec` / `upSpec` at known and unknown coalitions (from `SpecBasic`); under `MinInfo` the junk
    (`none`) branches are never taken
  * the candidate lists `loCands` / `upCands`
  * the bounds depend on the known values only (`upSpec_congr`; `ICG.loSpec_congr` is in `SpecBasic`)
  * soundness (C01): every superadditive completion lies between `loSpec` and `upSpec`
-/
import ICG.Lemmas.SpecSplit
-- `Nat.instMonoid` in scope: `2 ^ n` in `soundness`, `upSpec_congr`, `loSpec_isGreatest_partition`,
-- `interval_nested`, … (SpecSA1–3) is `Monoid.npow`; SpecSAM, without this import, has core `Nat.pow`
-- in `samUp_congr` etc.; the two are defeq and meet in BoundsCommon
import Mathlib.Algebra.Group.Nat.Defs

namespace ICG.SpecSA

theorem mem_knownSupers {n : Nat} {known : Nat → Bool} {c T : Nat} :
    T ∈ knownSupers n known c ↔ T < 2 ^ n ∧ c &&& T = c ∧ T ≠ c ∧ known T = true :=
  mem_knownSupers_iff

theorem minInfo_ne_zero {n : Nat} {known : Nat → Bool} (hmin : MinInfo n known) {c : Nat}
    (hk : known c = false) : c ≠ 0 := hmin.ne_zero hk

theorem properSubs_ne_nil {n : Nat} {known : Nat → Bool} (hmin : MinInfo n known) {c : Nat}
    (hc : c < 2 ^ n) (hk : known c = false) : properSubs c ≠ [] :=
  let ⟨_, hx⟩ := exists_properSub hmin hc hk; List.ne_nil_of_mem hx

variable {α : Type}

section unfold
variable [Add α] [Max α]

theorem loSpec_known (known : Nat → Bool) (val : Nat → α) {c : Nat} (hk : known c = true) :
    loSpec known val c = val c := splitSpec_known hk

theorem loSpec_unknown_eq (known : Nat → Bool) (val : Nat → α) {c : Nat} (hk : known c = false) :
    loSpec known val c =
      match listMax? ((properSubs c).map fun x => loSpec known val x + loSpec known val (c - x)) with
      | some m => m
      | none => val c := by
  show splitSpec known val (fun _ => []) c = _
  rw [splitSpec_eq, if_neg (by simp [hk])]
  rfl

variable [Sub α] [Min α]

theorem upSpec_known (n : Nat) (known : Nat → Bool) (val : Nat → α) {c : Nat} (hk : known c = true) :
    upSpec n known val c = val c := upAgainst_known hk

theorem upSpec_unknown_eq (n : Nat) (known : Nat → Bool) (val : Nat → α) {c : Nat} (hk : known c = false) :
    upSpec n known val c =
      match listMin? ((knownSupers n known c).map fun T => val T - loSpec known val (T - c)) with
      | some m => m
      | none => val c := by
  unfold upSpec upAgainst
  rw [if_neg (by simp [hk])]
  rfl

end unfold

section charact
variable [Add α] [LinearOrder α]

/-- the candidate list of an unknown row of `loSpec` -/
def loCands (known : Nat → Bool) (val : Nat → α) (c : Nat) : List α :=
  (properSubs c).map fun x => loSpec known val x + loSpec known val (c - x)

theorem loSpec_unknown {n : Nat} {known : Nat → Bool} (hmin : MinInfo n known) (val : Nat → α) {c : Nat}
    (hc : c < 2 ^ n) (hk : known c = false) :
    ∃ m, listMax? (loCands known val c) = some m ∧ loSpec known val c = m := by
  obtain ⟨x, hx⟩ := exists_properSub hmin hc hk
  obtain ⟨m, hm⟩ := listMax?_isSome (splitCands_ne_nil (known := known) (v := val)
    (extra := fun _ => []) hx)
  exact ⟨m, hm, splitSpec_of_max hk hm⟩

theorem loSpec_split_le (known : Nat → Bool) (val : Nat → α) {c x : Nat} (hk : known c = false)
    (hx : x ∈ properSubs c) :
    loSpec known val x + loSpec known val (c - x) ≤ loSpec known val c :=
  (splitSpec_unknown hk (splitCands_ne_nil hx)).2 _ (mem_splitCands.mpr (Or.inr ⟨x, hx, rfl⟩))

theorem loSpec_unknown_attained {n : Nat} {known : Nat → Bool} (hmin : MinInfo n known) (val : Nat → α)
    {c : Nat} (hc : c < 2 ^ n) (hk : known c = false) :
    ∃ x ∈ properSubs c, loSpec known val c = loSpec known val x + loSpec known val (c - x) := by
  obtain ⟨x0, hx0⟩ := exists_properSub hmin hc hk
  rcases mem_splitCands.mp (splitSpec_unknown (v := val) (extra := fun _ => []) hk
    (splitCands_ne_nil hx0)).1 with h | ⟨x, hx, h⟩
  · cases h
  · exact ⟨x, hx, h⟩

variable [Sub α]

/-- the candidate list of an unknown row of `upSpec` -/
def upCands (n : Nat) (known : Nat → Bool) (val : Nat → α) (c : Nat) : List α :=
  (knownSupers n known c).map fun T => val T - loSpec known val (T - c)

theorem upSpec_unknown {n : Nat} {known : Nat → Bool} (hmin : MinInfo n known) (val : Nat → α) {c : Nat}
    (hc : c < 2 ^ n) (hk : known c = false) :
    ∃ m, listMin? (upCands n known val c) = some m ∧ upSpec n known val c = m := by
  obtain ⟨m, hm⟩ := exists_min_knownSupers hmin hc hk fun T => val T - loSpec known val (T - c)
  exact ⟨m, hm, upAgainst_of_min hk hm⟩

theorem upSpec_le_cand (n : Nat) (known : Nat → Bool) (val : Nat → α) {c T : Nat} (hk : known c = false)
    (hT : T ∈ knownSupers n known c) :
    upSpec n known val c ≤ val T - loSpec known val (T - c) := by
  have hmem : val T - loSpec known val (T - c) ∈ upCands n known val c :=
    List.mem_map.mpr ⟨T, hT, rfl⟩
  obtain ⟨m, hm⟩ := listMin?_isSome (List.ne_nil_of_mem hmem)
  rw [show upSpec n known val c = m from upAgainst_of_min hk hm]
  exact listMin?_le hm hmem

theorem upSpec_unknown_attained {n : Nat} {known : Nat → Bool} (hmin : MinInfo n known) (val : Nat → α)
    {c : Nat} (hc : c < 2 ^ n) (hk : known c = false) :
    ∃ T ∈ knownSupers n known c, upSpec n known val c = val T - loSpec known val (T - c) := by
  obtain ⟨m, hm, he⟩ := upSpec_unknown hmin val hc hk
  obtain ⟨T, hT, hTe⟩ := List.mem_map.mp (listMin?_mem hm)
  exact ⟨T, hT, by rw [he, hTe]⟩

end charact

variable [AddCommGroup α] [LinearOrder α] [IsOrderedAddMonoid α]

omit [IsOrderedAddMonoid α] in
theorem upSpec_congr {n : Nat} {known : Nat → Bool} (hmin : MinInfo n known) {val val' : Nat → α}
    (hv : ∀ c, c < 2 ^ n → known c = true → val c = val' c) :
    ∀ c, c < 2 ^ n → upSpec n known val c = upSpec n known val' c :=
  ICG.upSpec_congr hmin hv

/-! ### soundness -/

/-- **C01 (lower half).**  Every completion dominates `loSpec`: by congruence `loSpec known val` is
    `loSpec known w`, which `splitSpec_le` bounds by `w`. -/
theorem loSpec_le_completion {n : Nat} {known : Nat → Bool} (hmin : MinInfo n known) {val w : Nat → α}
    (hw : Completion n known val w) : ∀ c, c < 2 ^ n → loSpec known val c ≤ w c := fun c hc => by
  rw [loSpec_congr hmin (fun d hd hk => (hw.2 d hd hk).symm) c hc]
  exact splitSpec_le hw.1 (fun _ _ _ _ he => absurd he List.not_mem_nil) c hc

/-- **C01 (upper half).**  `w c + loSpec (T − c) ≤ w c + w (T − c) ≤ w T = val T` for the known superset `T`
    at which the minimum is attained. -/
theorem completion_le_upSpec {n : Nat} {known : Nat → Bool} (hmin : MinInfo n known) {val w : Nat → α}
    (hw : Completion n known val w) : ∀ c, c < 2 ^ n → w c ≤ upSpec n known val c := by
  intro c hc
  cases hk : known c with
  | true => rw [upSpec_known n known val hk, hw.2 c hc hk]
  | false =>
    obtain ⟨T, hT, he⟩ := upSpec_unknown_attained hmin val hc hk
    obtain ⟨hT0, hT1, _, hT3⟩ := mem_knownSupers.mp hT
    have hd := sub_or_self hT1
    have hlt : T - c < 2 ^ n := Nat.sub_lt_of_lt hT0
    have h1 := hw.1 c (T - c) hc hlt hd.2
    rw [hd.1, hw.2 T hT0 hT3] at h1
    have h2 := loSpec_le_completion hmin hw (T - c) hlt
    rw [he]
    have : w c + loSpec known val (T - c) ≤ val T := le_trans (add_le_add (le_refl (w c)) h2) h1
    exact le_sub_iff_add_le.mpr this

/-- **C01.**  Every superadditive completion of the partial game lies between the bounds. -/
theorem soundness {n : Nat} {known : Nat → Bool} (hmin : MinInfo n known) {val w : Nat → α}
    (hw : Completion n known val w) :
    ∀ c, c < 2 ^ n → loSpec known val c ≤ w c ∧ w c ≤ upSpec n known val c :=
  fun c hc => ⟨loSpec_le_completion hmin hw c hc, completion_le_upSpec hmin hw c hc⟩

theorem loSpec_le_upSpec {n : Nat} {known : Nat → Bool} (hmin : MinInfo n known) {val : Nat → α}
    (hex : ∃ w, Completion n known val w) :
    ∀ c, c < 2 ^ n → loSpec known val c ≤ upSpec n known val c := by
  obtain ⟨w, hw⟩ := hex
  exact fun c hc => le_trans (loSpec_le_completion hmin hw c hc) (completion_le_upSpec hmin hw c hc)

omit [IsOrderedAddMonoid α] in
theorem completion_self {n : Nat} (known : Nat → Bool) {v : Nat → α} (hv : SA n v) :
    Completion n known v v := ⟨hv, fun _ _ _ => rfl⟩

end ICG.SpecSA

/-
  ICG.Lemmas.RegretPid — the two facts behind `get_coalition_player_id_map(n)`: there are `C(m, k)` masks below `2^m`
  with `k` bits, hence `2^n − n − 2` viable coalitions (size ∉ {0, 1, n}) for `n ≥ 2`; and numbering the members of a
  filtered list by position gives `0, 1, …` in order.
-/
import ICG.Model.Regret
import ICG.Lemmas.Regret
import Mathlib.Data.Nat.Choose.Basic

namespace ICG.Regret
open ICG

theorem length_filter_size (m k : Nat) :
    ((List.range (2 ^ m)).filter (fun c => size c == k)).length = Nat.choose m k := by
  have hperm : ((List.range (2 ^ m)).filter (fun c => size c == k)).Perm
      ((combos k (List.range m)).map fromPlayers) := by
    apply (List.perm_ext_iff_of_nodup (List.nodup_range.filter _) (block_nodup m k)).mpr
    intro x
    rw [mem_block]
    simp [List.mem_filter, List.mem_range]
  rw [hperm.length_eq, List.length_map, length_combos, List.length_range]

theorem length_filter_or {β} (p q : β → Bool) (hpq : ∀ x, p x = true → q x = false) :
    ∀ (l : List β), (l.filter (fun x => p x || q x)).length = (l.filter p).length + (l.filter q).length
  | [] => rfl
  | x :: xs => by
    have ih := length_filter_or p q hpq xs
    cases hp : p x
    · cases hq : q x
      · simp only [List.filter_cons, hp, hq, Bool.or_self, Bool.false_eq_true, if_false, ih]
      · simp only [List.filter_cons, hp, hq, Bool.false_or, Bool.false_eq_true, if_true, if_false,
          List.length_cons, ih, Nat.add_assoc]
    · simp only [List.filter_cons, hp, hpq x hp, Bool.or_false, Bool.false_eq_true, if_true, if_false,
        List.length_cons, ih, Nat.add_right_comm]

/-- the viable coalitions (`len(x) not in [0, 1, n]`) -/
def viableCoalitions (n : Nat) : List Nat :=
  (allCoalitions n).filter (fun c => !(size c == 0 || size c == 1 || size c == n))

theorem length_viableCoalitions {n : Nat} (hn : 2 ≤ n) : (viableCoalitions n).length = numCoalitions n := by
  have hne : ∀ {a b : Nat}, a ≠ b → ∀ x : Nat, (size x == a) = true → (size x == b) = false :=
    fun hab x ha => beq_false_of_ne (fun hb => hab ((beq_iff_eq.mp ha).symm.trans hb))
  have h := List.length_eq_length_filter_add (l := List.range (2 ^ n))
    (fun c => size c == 0 || size c == 1 || size c == n)
  rw [length_filter_or _ _ (fun x hx => by
        rcases Bool.or_eq_true_iff.mp hx with h0 | h1
        · exact hne (Nat.lt_of_lt_of_le (by decide) hn).ne x h0
        · exact hne (Nat.lt_of_lt_of_le (by decide) hn).ne x h1),
    length_filter_or _ _ (hne Nat.zero_ne_one), length_filter_size, length_filter_size, length_filter_size,
    List.length_range, Nat.choose_zero_right, Nat.choose_one_right, Nat.choose_self] at h
  unfold viableCoalitions allCoalitions numCoalitions
  omega

/-- the shape of `get_coalition_player_id_map`: members of `l.filter q` numbered by position, everything else −1 -/
theorem filter_idxOf_nonneg {β} [DecidableEq β] (l : List β) (hl : l.Nodup) (q : β → Bool) :
    ((l.map fun c => if c ∈ l.filter q then ((l.filter q).idxOf c : Int) else -1).filter
        fun p => decide (0 ≤ p)) = (List.range (l.filter q).length).map Int.ofNat := by
  rw [List.filter_map]
  have h1 : l.filter ((fun p : Int => decide (0 ≤ p)) ∘
      fun c => if c ∈ l.filter q then ((l.filter q).idxOf c : Int) else -1) = l.filter q := by
    apply List.filter_congr
    intro x hx
    by_cases hq : q x = true
    · rw [Function.comp, if_pos (List.mem_filter.mpr ⟨hx, hq⟩), hq]
      exact decide_eq_true (Int.natCast_nonneg _)
    · rw [Function.comp, if_neg (fun h => hq (List.mem_filter.mp h).2), Bool.not_eq_true _ |>.mp hq]
      rfl
  rw [h1]
  apply List.ext_getElem
  · rw [List.length_map, List.length_map, List.length_range]
  · intro i h1 h2
    have hi : i < (l.filter q).length := List.length_map (as := l.filter q) _ ▸ h1
    simp only [List.getElem_map, List.getElem_range]
    rw [if_pos (List.getElem_mem hi), (hl.filter _).idxOf_getElem i hi]
    rfl

end ICG.Regret

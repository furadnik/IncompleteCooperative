/-
  ICG.Lemmas.Refine — the refinement "the model computes the spec" for the reference computer `sa` and
  the cached computer `sac`, for every number of players and every value type with `+`, `-` and a
  linear order.  `sa_core` / `sac_core` give the table each computer returns on a `MinInfo` table,
  written out, with no hypothesis on the content of unknown rows or on the upper column; with `Inv`
  (known rows carry one value in both columns) the rows are `loSpec` / `upSpec` (`sa_eq_spec`,
  `sac_eq_spec`).  The lower pass of `sac` is stated for every size-sorted duplicate-free enumeration of
  the unknown coalitions (`sacLowerPass`; `order_free` is the case of the permutations of
  `unknownSorted t`); its upper pass needs membership only (`sacUpperPass`).
-/
import ICG.Lemmas.RefinePass

namespace ICG.Refine
open Table

variable {α : Type}

/-- known rows carry their value in both columns -/
def _root_.ICG.Table.Inv (t : Table α) : Prop := ∀ c, c < 2 ^ t.n → t.known c = true → t.lo c = t.hi c

theorem npMax_of [Max α] {l : List α} {m : α} (h : listMax? l = some m) : npMax l = .ok m := by
  simp only [npMax, h]

theorem npMin_of [Min α] {l : List α} {m : α} (h : listMin? l = some m) : npMin l = .ok m := by
  simp only [npMin, h]

theorem npMax_nil [Max α] : npMax ([] : List α) = .error .value := rfl

theorem coalStructure_eq_relCode (E : EnumFacts) {n c d : Nat} (hc : c < 2 ^ n) (h0 : c ≠ 0)
    (hd : d < 2 ^ n) : coalStructure n c d = relCode c d :=
  E.struct n c d hc hd h0

/-- `all_coalitions[coal_structure[c] == 1]`: the proper non-empty sub-coalitions -/
theorem mem_structSel_one (E : EnumFacts) {n c d : Nat} (hc : c < 2 ^ n) (h0 : c ≠ 0) :
    d ∈ structSel n c 1 ↔ d &&& c = d ∧ d ≠ 0 ∧ d ≠ c := by
  simp only [structSel, allCoalitions, List.mem_filter, List.mem_range, beq_iff_eq]
  constructor
  · rintro ⟨hd, h⟩; rwa [coalStructure_eq_relCode E hc h0 hd, relCode_eq_one] at h
  · intro h
    have hd : d < 2 ^ n := sub_lt_two_pow h.1 hc
    exact ⟨hd, by rwa [coalStructure_eq_relCode E hc h0 hd, relCode_eq_one]⟩

/-- `all_coalitions[coal_structure[c] == 2]`: the proper supersets -/
theorem mem_structSel_two (E : EnumFacts) {n c d : Nat} (hc : c < 2 ^ n) (h0 : c ≠ 0) :
    d ∈ structSel n c 2 ↔ d < 2 ^ n ∧ c &&& d = c ∧ d ≠ c := by
  simp only [structSel, allCoalitions, List.mem_filter, List.mem_range, beq_iff_eq]
  exact and_congr_right fun hd => by rw [coalStructure_eq_relCode E hc h0 hd, relCode_eq_two]

/-! ### the lower steps -/

section lower
variable [Add α] [LinearOrder α]

omit [Add α] in
theorem split_list_isSome {c x : Nat} (hx : x ∈ properSubs c) (e : List α) (g : Nat → α) :
    ∃ m, listMax? (e ++ (properSubs c).map g) = some m :=
  listMax?_isSome fun h =>
    List.ne_nil_of_mem hx (List.map_eq_nil_iff.mp (List.append_eq_nil_iff.mp h).2)

/-- the lower step of `sa` computes the maximum over the proper splits (`[] ++ …`: the form `splitPass`
    asks for, without extra candidates) -/
theorem saLowerStep_ok (E : EnumFacts) (t : Table α) (c : Nat) (L : Nat → α) {x0 : Nat}
    (hx0 : x0 ∈ properSubs c)
    (hlo : ∀ x, x &&& c = x → x ≠ 0 → x ≠ c → t.lo x = L x) :
    ∃ m, listMax? ([] ++ (properSubs c).map fun x => L x + L (c - x)) = some m ∧
      saLowerStep t c = .ok m := by
  obtain ⟨m, hm⟩ := split_list_isSome hx0 ([] : List α) (fun x => L x + L (c - x))
  refine ⟨m, hm, ?_⟩
  have hne' : (saSubs c).isEmpty = false := by
    cases hs : saSubs c with
    | nil => have := (E.saSubs c x0).mpr (mem_properSubs.mp hx0); rw [hs] at this; cases this
    | cons a l => rfl
  unfold saLowerStep
  simp only [hne', Bool.false_eq_true, if_false]
  refine npMax_of ((listMax?_map_congr (fun x => by rw [E.saSubs, mem_properSubs]) ?_).trans hm)
  intro x hx
  obtain ⟨h1, h2, h3⟩ := (E.saSubs c x).mp hx
  obtain ⟨g1, g2, g3⟩ := compl_proper h1 h2 h3
  rw [diff_eq_sub_of_sub h1, hlo x h1 h2 h3, hlo (c - x) g1 g2 g3]

theorem sacLowerStep_ok (E : EnumFacts) (t : Table α) (c : Nat) (L : Nat → α)
    (hc : c < 2 ^ t.n) (h0 : c ≠ 0) {x0 : Nat} (hx0 : x0 ∈ properSubs c)
    (hlo : ∀ x, x &&& c = x → x ≠ 0 → x ≠ c → t.lo x = L x) :
    ∃ m, listMax? ([] ++ (properSubs c).map fun x => L x + L (c - x)) = some m ∧
      sacLowerStep t c = .ok m := by
  obtain ⟨m, hm⟩ := split_list_isSome hx0 ([] : List α) (fun x => L x + L (c - x))
  refine ⟨m, hm, npMax_of ((listMax?_map_congr
    (fun x => by rw [mem_structSel_one E hc h0, mem_properSubs]) ?_).trans hm)⟩
  intro x hx
  obtain ⟨h1, h2, h3⟩ := (mem_structSel_one E hc h0).mp hx
  obtain ⟨g1, g2, g3⟩ := compl_proper h1 h2 h3
  rw [← sub_eq_xor_of_sub h1, hlo x h1 h2 h3, hlo (c - x) g1 g2 g3]

end lower

/-! ### the upper steps -/

section upper
variable [Sub α] [LinearOrder α]

omit [Sub α] [LinearOrder α] in
theorem mem_structSel_two_known (E : EnumFacts) (t : Table α) {c : Nat} (hc : c < 2 ^ t.n)
    (h0 : c ≠ 0) (T : Nat) :
    T ∈ (structSel t.n c 2).filter t.known ↔ T ∈ knownSupers t.n t.known c := by
  rw [List.mem_filter, mem_structSel_two E hc h0, mem_knownSupers_iff, and_assoc, and_assoc]

theorem saUpperStep_ok (E : EnumFacts) (t : Table α) (c : Nat) (V L : Nat → α)
    (hmin : MinInfo t.n t.known) (hc : c < 2 ^ t.n) (hk : t.known c = false)
    (hhi : ∀ T, T < 2 ^ t.n → t.known T = true → t.hi T = V T)
    (hlo : ∀ x, x < 2 ^ t.n → t.lo x = L x) :
    saUpperStep t c = .ok (upAgainst t.n t.known V L c) := by
  obtain ⟨m, hm⟩ := exists_min_knownSupers hmin hc hk (fun T => V T - L (T - c))
  rw [upAgainst_of_min hk hm]
  have hmem : ∀ T, T ∈ (superCoalitionsObj c t.n).filter t.known ↔ T ∈ knownSupers t.n t.known c := by
    intro T
    rw [List.mem_filter, E.superObj t.n c T hc, mem_knownSupers_iff]
    constructor
    · rintro ⟨⟨h1, h2⟩, h3⟩
      exact ⟨h1, h2, (fun h => by rw [h, hk] at h3; cases h3), h3⟩
    · rintro ⟨h1, h2, _, h4⟩; exact ⟨⟨h1, h2⟩, h4⟩
  have hne' : ((superCoalitionsObj c t.n).filter t.known).isEmpty = false := by
    cases hs : (superCoalitionsObj c t.n).filter t.known with
    | nil =>
      have := (hmem _).mpr (grand_mem_knownSupers hmin hc hk); rw [hs] at this; cases this
    | cons a l => rfl
  unfold saUpperStep
  simp only [hne', Bool.false_eq_true, if_false]
  refine npMin_of ((listMin?_map_congr hmem ?_).trans hm)
  intro T hT
  obtain ⟨h1, h2, _, h4⟩ := mem_knownSupers_iff.mp ((hmem T).mp hT)
  rw [diff_eq_sub_of_sub h2, hhi T h1 h4, hlo (T - c) (Nat.sub_lt_of_lt h1)]

theorem sacUpperStep_ok (E : EnumFacts) (t : Table α) (c : Nat) (V L : Nat → α)
    (hmin : MinInfo t.n t.known) (hc : c < 2 ^ t.n) (hk : t.known c = false)
    (hV : ∀ T, T < 2 ^ t.n → t.known T = true → t.lo T = V T)
    (hlo : ∀ x, x < 2 ^ t.n → t.lo x = L x) :
    sacUpperStep t c = .ok (upAgainst t.n t.known V L c) := by
  obtain ⟨m, hm⟩ := exists_min_knownSupers hmin hc hk (fun T => V T - L (T - c))
  have hmem := mem_structSel_two_known E t hc (hmin.ne_zero hk)
  rw [upAgainst_of_min hk hm]
  refine npMin_of ((listMin?_map_congr hmem ?_).trans hm)
  intro T hT
  obtain ⟨h1, h2, _, h4⟩ := mem_knownSupers_iff.mp ((hmem T).mp hT)
  rw [xor_eq_sub_of_sup h2, hV T h1 h4, hlo (T - c) (Nat.sub_lt_of_lt h1)]

end upper

theorem saPrecond_iff (t : Table α) : saPrecond t = true ↔ MinInfo t.n t.known := by
  simp only [saPrecond, grand, Bool.and_eq_true, List.all_eq_true, List.mem_range,
    fromPlayers_singleton, MinInfo]
  constructor
  · rintro ⟨⟨h1, h2⟩, h3⟩; exact ⟨h2, h1, h3⟩
  · rintro ⟨h1, h2, h3⟩; exact ⟨⟨h2, h1⟩, h3⟩

theorem sacPrecond_of_minInfo {t : Table α} (h : MinInfo t.n t.known) : sacPrecond t = true := by
  simp only [sacPrecond, grand, Bool.and_eq_true]; exact ⟨h.1, h.2.1⟩

/-- a computer returning the table with lower column `LO` on the game and upper column `UP'` on the
    unknown rows of the game computes `(LO, UP)` row by row, as soon as `UP` is the old upper cell on
    known rows and `UP'` on unknown ones -/
theorem rows_of_written {run : Table α → Except Err (Table α)} {t : Table α} {LO UP UP' : Nat → α}
    (hrun : run t = .ok
      { t with
        lo := fun c => if c < 2 ^ t.n then LO c else t.lo c
        hi := fun c => if c < 2 ^ t.n ∧ t.known c = false then UP' c else t.hi c })
    (hknown : ∀ c, c < 2 ^ t.n → t.known c = true → t.hi c = UP c)
    (hunknown : ∀ c, c < 2 ^ t.n → t.known c = false → UP' c = UP c) :
    ∃ t', run t = .ok t' ∧ t'.n = t.n ∧ t'.known = t.known ∧
      (∀ c, c < 2 ^ t.n → t'.lo c = LO c ∧ t'.hi c = UP c) ∧
      (∀ c, 2 ^ t.n ≤ c → t'.lo c = t.lo c ∧ t'.hi c = t.hi c) := by
  refine ⟨_, hrun, rfl, rfl, fun c hc => ⟨if_pos hc, ?_⟩,
    fun c hc => ⟨if_neg (by omega), if_neg fun h => absurd h.1 (by omega)⟩⟩
  cases hk : t.known c with
  | true =>
    exact (if_neg fun (h : c < 2 ^ t.n ∧ t.known c = false) =>
      Bool.noConfusion (hk.symm.trans h.2)).trans (hknown c hc hk)
  | false => exact (if_pos ⟨hc, hk⟩).trans (hunknown c hc hk)

/-! ### the lower pass, for every size-sorted order -/

section main
variable [Add α] [Sub α] [LinearOrder α]

omit [Sub α] in
theorem saLowerPass (E : EnumFacts) (t : Table α) (hmin : MinInfo t.n t.known) (order : List Nat)
    (ho : UnknownOrder t.n t.known order) :
    sweepM saLowerStep putLo order t = .ok
      { t with lo := fun c => if c < 2 ^ t.n then loSpec t.known t.lo c else t.lo c } :=
  splitPass E t hmin (fun _ => []) order ho saLowerStep fun _ c L hc hk hsub _ _ =>
    let ⟨_, hx⟩ := exists_properSub hmin hc hk
    saLowerStep_ok E _ c L hx hsub

omit [Sub α] in
theorem sacLowerPass (E : EnumFacts) (t : Table α) (hmin : MinInfo t.n t.known) (order : List Nat)
    (ho : UnknownOrder t.n t.known order) :
    sweepM sacLowerStep putLo order t = .ok
      { t with lo := fun c => if c < 2 ^ t.n then loSpec t.known t.lo c else t.lo c } :=
  splitPass E t hmin (fun _ => []) order ho sacLowerStep fun _ c L hc hk hsub _ _ =>
    let ⟨_, hx⟩ := exists_properSub hmin hc hk
    sacLowerStep_ok E _ c L hc (hmin.ne_zero hk) hx hsub

omit [Sub α] in
/-- the lower sweep of the cached computer succeeds and gives the same lower column for
    every size-sorted permutation of `unknownSorted t` (numpy's `argsort` is not stable; any tie-break
    gives this result). -/
theorem _root_.ICG.order_free (E : EnumFacts) (t : Table α) (hmin : MinInfo t.n t.known) (order : List Nat)
    (hperm : order.Perm (unknownSorted t))
    (hsorted : order.Pairwise (fun a b => size a ≤ size b)) :
    sweepM sacLowerStep putLo order t = .ok
      { t with lo := fun c => if c < 2 ^ t.n then loSpec t.known t.lo c else t.lo c } :=
  sacLowerPass E t hmin order ((unknownOrder_sac E t).of_perm hperm hsorted)

omit [Sub α] in
theorem _root_.ICG.order_free' (E : EnumFacts) (t : Table α) (hmin : MinInfo t.n t.known) (o1 o2 : List Nat)
    (hp1 : o1.Perm (unknownSorted t)) (hs1 : o1.Pairwise (fun a b => size a ≤ size b))
    (hp2 : o2.Perm (unknownSorted t)) (hs2 : o2.Pairwise (fun a b => size a ≤ size b)) :
    ∃ t1, sweepM sacLowerStep putLo o1 t = .ok t1 ∧ sweepM sacLowerStep putLo o2 t = .ok t1 :=
  ⟨_, order_free E t hmin o1 hp1 hs1, order_free E t hmin o2 hp2 hs2⟩

/-! ### the reference computer -/

/-- `sa` succeeds on every `MinInfo` table and computes `loSpec` and `upAgainst` (reading the upper
    column of known supersets); nothing is assumed about unknown rows or the upper column. -/
theorem _root_.ICG.sa_core (E : EnumFacts) (t : Table α) (hmin : MinInfo t.n t.known) :
    sa t = .ok
      { t with
        lo := fun c => if c < 2 ^ t.n then loSpec t.known t.lo c else t.lo c
        hi := fun c => if c < 2 ^ t.n ∧ t.known c = false then
            upAgainst t.n t.known t.hi (loSpec t.known t.lo) c else t.hi c } := by
  have h1 := saLowerPass E t hmin _ (unknownOrder_sa E t)
  have h2 := hiPass { t with lo := fun c => if c < 2 ^ t.n then loSpec t.known t.lo c else t.lo c }
    (unknownIds t) (mem_unknownIds t) (upAgainst t.n t.known t.hi (loSpec t.known t.lo)) saUpperStep
    fun _ c hc hk hhi =>
      saUpperStep_ok E _ c t.hi (loSpec t.known t.lo) hmin hc hk (fun T _ hT => hhi T hT)
        (fun x hx => if_pos hx)
  unfold sa
  rw [if_pos ((saPrecond_iff t).mpr hmin)]
  simp only [h1, compactT_eq, h2, bind, Except.bind, pure, Except.pure]

theorem _root_.ICG.sa_eq_spec (E : EnumFacts) (t : Table α) (hmin : MinInfo t.n t.known) (hinv : t.Inv) :
    ∃ t', sa t = .ok t' ∧ t'.n = t.n ∧ t'.known = t.known ∧
      (∀ c, c < 2 ^ t.n → t'.lo c = loSpec t.known t.lo c ∧ t'.hi c = upSpec t.n t.known t.lo c) ∧
      (∀ c, 2 ^ t.n ≤ c → t'.lo c = t.lo c ∧ t'.hi c = t.hi c) :=
  rows_of_written (sa_core E t hmin)
    (fun c hc hk => ((hinv c hc hk).symm.trans (upAgainst_known hk).symm))
    (fun c hc _ => upAgainst_congr hmin (fun d hd hkd => (hinv d hd hkd).symm) (fun _ _ => rfl) c hc)

/-! ### the cached computer -/

theorem sacUpperPass (E : EnumFacts) (t : Table α) (hmin : MinInfo t.n t.known) (order : List Nat)
    (hmem : ∀ c, c ∈ order ↔ c < 2 ^ t.n ∧ t.known c = false) :
    sweepM sacUpperStep putHi order
        { t with lo := fun c => if c < 2 ^ t.n then loSpec t.known t.lo c else t.lo c } = .ok
      { t with
        lo := fun c => if c < 2 ^ t.n then loSpec t.known t.lo c else t.lo c
        hi := fun c => if c < 2 ^ t.n ∧ t.known c = false then upSpec t.n t.known t.lo c
          else t.hi c } :=
  hiPass { t with lo := fun c => if c < 2 ^ t.n then loSpec t.known t.lo c else t.lo c }
    order hmem (upSpec t.n t.known t.lo) sacUpperStep
    fun _ c hc hk _ =>
      sacUpperStep_ok E _ c t.lo (loSpec t.known t.lo) hmin hc hk
        (fun _ hT hkT => (if_pos hT).trans (splitSpec_known hkT)) (fun _ hx => if_pos hx)

theorem _root_.ICG.sac_core (E : EnumFacts) (t : Table α) (hmin : MinInfo t.n t.known) :
    sac t = .ok
      { t with
        lo := fun c => if c < 2 ^ t.n then loSpec t.known t.lo c else t.lo c
        hi := fun c => if c < 2 ^ t.n ∧ t.known c = false then upSpec t.n t.known t.lo c
          else t.hi c } := by
  have ho := unknownOrder_sac E t
  unfold sac
  rw [if_pos (sacPrecond_of_minInfo hmin)]
  simp only [sacLowerPass E t hmin _ ho, compactT_eq, sacUpperPass E t hmin _ ho.mem, bind,
    Except.bind, pure, Except.pure]

theorem _root_.ICG.sac_eq_spec (E : EnumFacts) (t : Table α) (hmin : MinInfo t.n t.known) (hinv : t.Inv) :
    ∃ t', sac t = .ok t' ∧ t'.n = t.n ∧ t'.known = t.known ∧
      (∀ c, c < 2 ^ t.n → t'.lo c = loSpec t.known t.lo c ∧ t'.hi c = upSpec t.n t.known t.lo c) ∧
      (∀ c, 2 ^ t.n ≤ c → t'.lo c = t.lo c ∧ t'.hi c = t.hi c) :=
  rows_of_written (sac_core E t hmin)
    (fun c hc hk => ((hinv c hc hk).symm.trans (upAgainst_known hk).symm)) (fun _ _ _ => rfl)

end main

end ICG.Refine

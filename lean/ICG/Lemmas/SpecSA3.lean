/-
  ICG.Lemmas.SpecSA3 — pure mathematics on the bound specification, part 3 (C07):

  * monotonicity in knowledge: revealing more values of one superadditive game `v` can only shrink
    `[loSpec, upSpec]`; chain version for reveals made one at a time
  * consequences for the gap `upSpec − loSpec`
  * a concrete 3-player instance over `Int` showing that the hypotheses of SpecSA1–3 are satisfiable
-/
import ICG.Lemmas.SpecSA2
import Mathlib.Algebra.Order.Group.Int

namespace ICG.SpecSA

theorem knownSupers_mono {n : Nat} {known known' : Nat → Bool} (hle : KnownLe known known') {c T : Nat}
    (hT : T ∈ knownSupers n known c) : T ∈ knownSupers n known' c := by
  obtain ⟨h0, h1, h2, h3⟩ := mem_knownSupers.mp hT
  exact mem_knownSupers.mpr ⟨h0, h1, h2, hle T h3⟩

variable {α : Type} [AddCommGroup α] [LinearOrder α] [IsOrderedAddMonoid α]

theorem loSpec_mono_knowledge {n : Nat} {known known' : Nat → Bool} (hmin : MinInfo n known)
    (hle : KnownLe known known') {v : Nat → α} (hv : SA n v) :
    ∀ c, c < 2 ^ n → loSpec known v c ≤ loSpec known' v c :=
  splitSpec_mono hle (splitSpec_le hv fun _ _ _ _ he => absurd he List.not_mem_nil)
    (minInfo_mono hmin hle)
    (fun _ _ _ _ he => absurd he List.not_mem_nil)

theorem upSpec_anti_knowledge {n : Nat} {known known' : Nat → Bool} (hmin : MinInfo n known)
    (hle : KnownLe known known') {v : Nat → α} (hv : SA n v) :
    ∀ c, c < 2 ^ n → upSpec n known' v c ≤ upSpec n known v c := by
  have hmin' := minInfo_mono hmin hle
  intro c hc
  cases hk' : known' c with
  | true =>
    rw [upSpec_known n known' v hk']
    exact completion_le_upSpec hmin (completion_self known hv) c hc
  | false =>
    have hk := unknown_of_le hle hk'
    obtain ⟨T, hT, he⟩ := upSpec_unknown_attained hmin v hc hk
    have hT0 := (mem_knownSupers.mp hT).1
    rw [he]
    exact le_trans (upSpec_le_cand n known' v hk' (knownSupers_mono hle hT))
      (sub_le_sub_left (loSpec_mono_knowledge hmin hle hv (T - c) (Nat.sub_lt_of_lt hT0)) _)

/-- **C07.**  The interval after learning more is nested in the interval before, and still contains `v`. -/
theorem interval_nested {n : Nat} {known known' : Nat → Bool} (hmin : MinInfo n known)
    (hle : KnownLe known known') {v : Nat → α} (hv : SA n v) {c : Nat} (hc : c < 2 ^ n) :
    loSpec known v c ≤ loSpec known' v c ∧ loSpec known' v c ≤ v c ∧
      v c ≤ upSpec n known' v c ∧ upSpec n known' v c ≤ upSpec n known v c :=
  ⟨loSpec_mono_knowledge hmin hle hv c hc,
   loSpec_le_completion (minInfo_mono hmin hle) (completion_self known' hv) c hc,
   completion_le_upSpec (minInfo_mono hmin hle) (completion_self known' hv) c hc,
   upSpec_anti_knowledge hmin hle hv c hc⟩

def revealMask (known : Nat → Bool) (m : Nat) : Nat → Bool := fun c => known c || c == m

def revealMasks (known : Nat → Bool) (ms : List Nat) : Nat → Bool := ms.foldl revealMask known

theorem knownLe_reveal (known : Nat → Bool) (m : Nat) : KnownLe known (revealMask known m) := by
  intro c h; simp [revealMask, h]

theorem knownLe_revealMasks (known : Nat → Bool) (ms : List Nat) : KnownLe known (revealMasks known ms) := by
  unfold revealMasks
  induction ms generalizing known with
  | nil => exact KnownLe.refl known
  | cons m ms ih => exact (knownLe_reveal known m).trans (ih (revealMask known m))

theorem revealMasks_append (known : Nat → Bool) (ms ms' : List Nat) :
    revealMasks known (ms ++ ms') = revealMasks (revealMasks known ms) ms' := by
  simp [revealMasks, List.foldl_append]

/-- **C07, chain.**  Along any sequence of reveals of values of one superadditive game the intervals are
    nested: the interval after `ms ++ ms'` lies inside the interval after `ms`. -/
theorem reveal_chain_nested {n : Nat} {known : Nat → Bool} (hmin : MinInfo n known) {v : Nat → α}
    (hv : SA n v) (ms ms' : List Nat) {c : Nat} (hc : c < 2 ^ n) :
    loSpec (revealMasks known ms) v c ≤ loSpec (revealMasks known (ms ++ ms')) v c ∧
      upSpec n (revealMasks known (ms ++ ms')) v c ≤ upSpec n (revealMasks known ms) v c := by
  rw [revealMasks_append]
  have hm := minInfo_mono hmin (knownLe_revealMasks known ms)
  exact ⟨loSpec_mono_knowledge hm (knownLe_revealMasks _ ms') hv c hc,
    upSpec_anti_knowledge hm (knownLe_revealMasks _ ms') hv c hc⟩

theorem gap_nonneg {n : Nat} {known : Nat → Bool} (hmin : MinInfo n known) {v : Nat → α} (hv : SA n v)
    {c : Nat} (hc : c < 2 ^ n) : 0 ≤ upSpec n known v c - loSpec known v c :=
  sub_nonneg.mpr (loSpec_le_upSpec hmin ⟨v, completion_self known hv⟩ c hc)

theorem gap_anti_knowledge {n : Nat} {known known' : Nat → Bool} (hmin : MinInfo n known)
    (hle : KnownLe known known') {v : Nat → α} (hv : SA n v) {c : Nat} (hc : c < 2 ^ n) :
    upSpec n known' v c - loSpec known' v c ≤ upSpec n known v c - loSpec known v c ∧
      0 ≤ upSpec n known' v c - loSpec known' v c ∧ 0 ≤ upSpec n known v c - loSpec known v c :=
  ⟨sub_le_sub (upSpec_anti_knowledge hmin hle hv c hc) (loSpec_mono_knowledge hmin hle hv c hc),
   gap_nonneg (minInfo_mono hmin hle) hv hc, gap_nonneg hmin hv hc⟩

omit [IsOrderedAddMonoid α] in
theorem gap_full_knowledge {n : Nat} {known : Nat → Bool} (val : Nat → α)
    (hall : ∀ c, c < 2 ^ n → known c = true) {c : Nat} (hc : c < 2 ^ n) :
    loSpec known val c = val c ∧ upSpec n known val c = val c ∧
      upSpec n known val c - loSpec known val c = 0 := by
  have hk := hall c hc
  rw [loSpec_known known val hk, upSpec_known n known val hk]
  exact ⟨rfl, rfl, sub_self _⟩

/-! ### a concrete 3-player instance: the hypotheses of the theorems above are satisfiable

Coalition 3 = {0,1} is unknown in `exKnown`, known in `exKnown'`. -/

section example3

theorem SA_iff_bounded {β : Type} [Add β] [LE β] (n : Nat) (v : Nat → β) :
    SA n v ↔ ∀ a, a < 2 ^ n → ∀ b, b < 2 ^ n → a &&& b = 0 → v a + v b ≤ v (a ||| b) :=
  ⟨fun h a ha b hb => h a b ha hb, fun h a b ha hb => h a ha b hb⟩

/-- a strictly superadditive 3-player game (ids 0..7) -/
def exV : Nat → Int := fun c => [0, 1, 2, 4, 1, 3, 5, 9].getD c 0

/-- minimal information: ∅, the singletons 1, 2, 4 and the grand coalition 7 -/
def exKnown : Nat → Bool := fun c => c == 0 || c == 1 || c == 2 || c == 4 || c == 7

/-- additionally the pair {0,1} (id 3) -/
def exKnown' : Nat → Bool := revealMask exKnown 3

theorem exV_SA : SA 3 exV := by rw [SA_iff_bounded]; decide

theorem exKnown_minInfo : MinInfo 3 exKnown := by unfold MinInfo; decide

theorem exKnown_le : KnownLe exKnown exKnown' := knownLe_reveal exKnown 3

theorem ex_completion : Completion 3 exKnown exV exV := completion_self exKnown exV_SA

example : ∀ c, c < 2 ^ 3 → loSpec exKnown exV c ≤ exV c ∧ exV c ≤ upSpec 3 exKnown exV c :=
  soundness exKnown_minInfo ex_completion

example : Completion 3 exKnown exV (loSpec exKnown exV) :=
  loSpec_completion exKnown_minInfo ⟨exV, ex_completion⟩

example : ∃ w, Completion 3 exKnown exV w ∧ w 3 = upSpec 3 exKnown exV 3 :=
  upSpec_attained exKnown_minInfo ⟨exV, ex_completion⟩ (by decide) (by decide)

example : (∃ ps, IsPartition exKnown 3 ps ∧ (ps.map exV).sum = loSpec exKnown exV 3) ∧
    ∀ ps, IsPartition exKnown 3 ps → (ps.map exV).sum ≤ loSpec exKnown exV 3 :=
  loSpec_isGreatest_partition exKnown_minInfo ⟨exV, ex_completion⟩ (by decide) (by decide)

example : ∀ c, c < 2 ^ 3 → loSpec exKnown exV c ≤ loSpec exKnown' exV c ∧
    upSpec 3 exKnown' exV c ≤ upSpec 3 exKnown exV c :=
  fun c hc => ⟨loSpec_mono_knowledge exKnown_minInfo exKnown_le exV_SA c hc,
    upSpec_anti_knowledge exKnown_minInfo exKnown_le exV_SA c hc⟩

example : upSpec 3 exKnown' exV 5 - loSpec exKnown' exV 5 ≤ upSpec 3 exKnown exV 5 - loSpec exKnown exV 5 :=
  (gap_anti_knowledge exKnown_minInfo exKnown_le exV_SA (by decide)).1

/-- the instance is not degenerate: at the unknown coalition 3 = {0,1} the bounds are
    `lo = v{0} + v{1} = 3 < v = 4 < up = v(N) − v{2} = 8` -/
theorem ex_bounds_three : loSpec exKnown exV 3 = 3 ∧ upSpec 3 exKnown exV 3 = 8 := by
  have hk : exKnown 3 = false := by decide
  constructor
  · rw [loSpec_unknown_eq _ _ hk, show properSubs 3 = [1, 2] by decide]
    simp only [List.map_cons, List.map_nil, Nat.reduceSub,
      loSpec_known exKnown exV (show exKnown 1 = true by decide),
      loSpec_known exKnown exV (show exKnown 2 = true by decide)]
    decide
  · rw [upSpec_unknown_eq _ _ _ hk, show knownSupers 3 exKnown 3 = [7] by decide]
    simp only [List.map_cons, List.map_nil, Nat.reduceSub,
      loSpec_known exKnown exV (show exKnown 4 = true by decide)]
    decide

example : loSpec exKnown exV 3 = 3 ∧ upSpec 3 exKnown exV 3 = 8 := ex_bounds_three

end example3

end ICG.SpecSA

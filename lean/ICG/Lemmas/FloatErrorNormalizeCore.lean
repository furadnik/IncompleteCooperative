/-
  ICG.Lemmas.FloatErrorNormalizeCore — the arithmetic behind ICG.Props.FloatErrorNormalize, free of the game model:
  what the standard relative-error model of rounded arithmetic, `|op' a b − (a ∘ b)| ≤ u·|a ∘ b|`, gives for the growth
  factor `(1+u)^m`, a left fold of rounded additions / subtractions, one rounded division or multiplication of perturbed
  operands (each `Rounding.rel_step` after the perturbation of the exact operation), and the round-trip bounds.
  The primed operations are arbitrary functions `α → α → α` on an ordered field.  Two facts about sums of absolute
  values over a list (`sum_abs_nonneg`, `list_abs_sum_le`) stand before the fold.
-/
import ICG.Lemmas.Rounding
import Mathlib.Algebra.Order.Ring.Pow
import Mathlib.Algebra.BigOperators.Group.List.Basic
import Mathlib.Algebra.Order.BigOperators.Group.List
import Mathlib.Tactic.Ring
import Mathlib.Tactic.NormNum
import Mathlib.Tactic.Linarith

namespace ICG.ApproxNormalize
open ICG.Rounding

variable {α : Type} [Field α] [LinearOrder α] [IsStrictOrderedRing α]

theorem one_le_growth {u : α} (hu : 0 ≤ u) (k : Nat) : 1 ≤ (1 + u) ^ k :=
  one_le_pow₀ (le_add_of_nonneg_right hu)

theorem growth_sub_one_nonneg {u : α} (hu : 0 ≤ u) (k : Nat) : 0 ≤ (1 + u) ^ k - 1 :=
  sub_nonneg.mpr (one_le_growth hu k)

theorem growth_mono {u : α} (hu : 0 ≤ u) {k m : Nat} (h : k ≤ m) : (1 + u) ^ k ≤ (1 + u) ^ m :=
  pow_le_pow_right₀ (le_add_of_nonneg_right hu) h

theorem le_growth_sub_one {u : α} (hu : 0 ≤ u) {k : Nat} (hk : 1 ≤ k) : u ≤ (1 + u) ^ k - 1 := by
  have := growth_mono hu hk
  rw [pow_one] at this
  linear_combination this

omit [LinearOrder α] [IsStrictOrderedRing α] in
theorem growth_zero (k : Nat) : ((1 : α) + 0) ^ k - 1 = 0 := by simp

/-- each factor `1+u` is paid for by lowering `1 − m·u` by `u`:
    `(1+u)·(1 − (m+1)·u) = 1 − m·u − (m+1)·u² ≤ 1 − m·u` -/
theorem growth_mul_le_one {u : α} (hu : 0 ≤ u) : ∀ m : Nat, (1 + u) ^ m * (1 - (m : α) * u) ≤ 1
  | 0 => by simp
  | m + 1 => by
    have hsq : 0 ≤ ((m : α) + 1) * u * u :=
      mul_nonneg (mul_nonneg (add_nonneg (Nat.cast_nonneg m) zero_le_one) hu) hu
    calc (1 + u) ^ (m + 1) * (1 - ((m + 1 : ℕ) : α) * u)
        = (1 + u) ^ m * (1 - (m : α) * u - ((m : α) + 1) * u * u) := by push_cast; ring
      _ ≤ (1 + u) ^ m * (1 - (m : α) * u) :=
          mul_le_mul_of_nonneg_left (sub_le_self _ hsq) (le_trans zero_le_one (one_le_growth hu m))
      _ ≤ 1 := growth_mul_le_one hu m

/-- the `γ_m` of rounding error analysis -/
theorem growth_sub_one_le_gamma {u : α} (hu : 0 ≤ u) (m : Nat) (hm : (m : α) * u < 1) :
    (1 + u) ^ m - 1 ≤ (m : α) * u / (1 - (m : α) * u) := by
  rw [le_div_iff₀ (sub_pos.mpr hm)]
  linear_combination growth_mul_le_one hu m

/-- for `m·u ≤ 1/2` the denominator of `γ_m` is at least `1/2` -/
theorem growth_sub_one_le_linear {u : α} (hu : 0 ≤ u) (m : Nat) (hm : (m : α) * u ≤ 1 / 2) :
    (1 + u) ^ m - 1 ≤ 2 * ((m : α) * u) := by
  have hpos : 0 < 1 - (m : α) * u := by linear_combination hm
  refine (growth_sub_one_le_gamma hu m (sub_pos.mp hpos)).trans ((div_le_iff₀ hpos).mpr ?_)
  have h := mul_le_mul_of_nonneg_left (show 1 ≤ 2 * (1 - (m : α) * u) by linear_combination 2 * hm)
    (mul_nonneg (Nat.cast_nonneg m) hu)
  linear_combination h

theorem sum_abs_nonneg {ι : Type} (f : ι → α) (l : List ι) : 0 ≤ (l.map (fun x => |f x|)).sum :=
  List.sum_nonneg (by intro y hy; obtain ⟨z, _, rfl⟩ := List.mem_map.mp hy; exact abs_nonneg _)

theorem list_abs_sum_le (l : List α) : |l.sum| ≤ (l.map (fun x => |x|)).sum := by
  induction l with
  | nil => simp
  | cons x l ih =>
    rw [List.sum_cons, List.map_cons, List.sum_cons]
    exact (abs_add_le _ _).trans (add_le_add le_rfl ih)

/-- A left fold of rounded additions (`f = id`) or subtractions (`f = −·`): error plus magnitude grows by at most
    `1+u` per step.  Every intermediate sum is at most `M` in magnitude, so one step turns the error `d` into at most
    `u·M + (1+u)·d`, and `d + M` into at most `(1+u)·(d + M)`. -/
theorem foldl_rel_error {op' : α → α → α} {f : α → α} {u : α} (hu : 0 ≤ u)
    (hop : ∀ a b, |op' a b - (a + f b)| ≤ u * |a + f b|) :
    ∀ (l : List α) (a' a M : α), |a| + (l.map (fun x => |f x|)).sum ≤ M →
      |l.foldl op' a' - (a + (l.map f).sum)| + M ≤ (1 + u) ^ l.length * (|a' - a| + M)
  | [], a', a, M, _ => by simp
  | x :: l, a', a, M, hM => by
    rw [List.map_cons, List.sum_cons] at hM
    have hM' : |a + f x| + (l.map (fun x => |f x|)).sum ≤ M :=
      ((add_le_add (abs_add_le _ _) le_rfl).trans_eq (add_assoc _ _ _)).trans hM
    have ih := foldl_rel_error hu hop l (op' a' x) (a + f x) M hM'
    have h1 := rel_step hu (hop a' x) (s := a + f x)
    rw [add_sub_add_right_eq_sub] at h1
    have h2 : u * |a + f x| ≤ u * M :=
      mul_le_mul_of_nonneg_left ((le_add_of_nonneg_right (sum_abs_nonneg f l)).trans hM') hu
    have hstep : |op' a' x - (a + f x)| + M ≤ (1 + u) * (|a' - a| + M) := by linarith only [h1, h2]
    rw [List.foldl_cons, List.map_cons, List.sum_cons, ← add_assoc, List.length_cons, pow_succ, mul_assoc]
    exact ih.trans (mul_le_mul_of_nonneg_left hstep (le_trans zero_le_one (one_le_growth hu _)))

theorem foldl_add_error {add' : α → α → α} {u : α} (hu : 0 ≤ u)
    (hadd : ∀ a b, |add' a b - (a + b)| ≤ u * |a + b|) (l : List α) (a' a : α) :
    |l.foldl add' a' - (a + l.sum)| ≤
      (1 + u) ^ l.length * |a' - a| + ((1 + u) ^ l.length - 1) * (|a| + (l.map (fun x => |x|)).sum) := by
  have h := foldl_rel_error (f := fun b => b) hu hadd l a' a _ le_rfl
  rw [List.map_id'] at h
  linear_combination h

theorem foldl_sub_error {sub' : α → α → α} {u : α} (hu : 0 ≤ u)
    (hsub : ∀ a b, |sub' a b - (a - b)| ≤ u * |a - b|) (l : List α) (a : α) :
    |l.foldl sub' a - (a - l.sum)| ≤ ((1 + u) ^ l.length - 1) * (|a| + (l.map (fun x => |x|)).sum) := by
  have h := foldl_rel_error (f := fun b => -b) hu (by simpa only [sub_eq_add_neg] using hsub) l a a _ le_rfl
  simp only [← List.sum_neg, ← sub_eq_add_neg, abs_neg, sub_self, abs_zero, zero_add] at h
  linear_combination h

/-- `get_value(N) − np.sum(singleton_values)`: one more factor `1+u` -/
theorem sub_foldl_add_error {add' sub' : α → α → α} {u : α} (hu : 0 ≤ u)
    (hadd : ∀ a b, |add' a b - (a + b)| ≤ u * |a + b|)
    (hsub : ∀ a b, |sub' a b - (a - b)| ≤ u * |a - b|) (l : List α) (A : α) :
    |sub' A (l.foldl add' 0) - (A - l.sum)| ≤
      ((1 + u) ^ (l.length + 1) - 1) * (|A| + (l.map (fun x => |x|)).sum) := by
  have hs := foldl_add_error hu hadd l 0 0
  rw [sub_self, abs_zero, mul_zero, zero_add, zero_add, zero_add] at hs
  have h1 := rel_step hu (hsub A (l.foldl add' 0)) (s := A - l.sum)
  rw [sub_sub_sub_cancel_left, abs_sub_comm l.sum] at h1
  have ht : |A - l.sum| ≤ |A| + (l.map (fun x => |x|)).sum :=
    (abs_sub _ _).trans (add_le_add le_rfl (list_abs_sum_le l))
  have h2 := mul_le_mul_of_nonneg_left ht hu
  have ha : 0 ≤ 1 + u := add_nonneg zero_le_one hu
  have h3 := mul_le_mul_of_nonneg_left hs ha
  have h4 : 0 ≤ ((1 + u) ^ l.length - 1) * ((1 + u) * |A|) :=
    mul_nonneg (growth_sub_one_nonneg hu _) (mul_nonneg ha (abs_nonneg A))
  rw [pow_succ]
  linarith only [h1, h2, h3, h4]

theorem div_sub_div_le {a' a b' b ea eb : α} (ha : |a' - a| ≤ ea) (hb : |b' - b| ≤ eb) (hlt : eb < |b|) :
    b' ≠ 0 ∧ |a' / b' - a / b| ≤ (ea + |a / b| * eb) / (|b| - eb) := by
  have hbpos : 0 < |b| - eb := sub_pos.mpr hlt
  have hb' : |b| - eb ≤ |b'| := by
    have := abs_sub_abs_le_abs_sub b b'
    rw [abs_sub_comm] at this
    linarith only [this, hb]
  have hb'pos : 0 < |b'| := lt_of_lt_of_le hbpos hb'
  have hb'ne : b' ≠ 0 := abs_pos.mp hb'pos
  have hbne : b ≠ 0 := abs_pos.mp (lt_of_le_of_lt (le_trans (abs_nonneg _) hb) hlt)
  refine ⟨hb'ne, ?_⟩
  have e : a' / b' - a / b = ((a' - a) - a / b * (b' - b)) / b' := by
    rw [eq_div_iff hb'ne, sub_mul, div_mul_cancel₀ _ hb'ne, mul_sub, div_mul_cancel₀ _ hbne]
    ring
  have hnum : |(a' - a) - a / b * (b' - b)| ≤ ea + |a / b| * eb := by
    refine (abs_sub _ _).trans (add_le_add ha ?_)
    rw [abs_mul]
    exact mul_le_mul_of_nonneg_left hb (abs_nonneg _)
  rw [e, abs_div]
  exact div_le_div₀ (le_trans (abs_nonneg _) hnum) hnum hbpos hb'

theorem div_rel_error {div' : α → α → α} {u : α} (hu : 0 ≤ u)
    (hdiv : ∀ a b, b ≠ 0 → |div' a b - a / b| ≤ u * |a / b|)
    {a' a b' b ea eb : α} (ha : |a' - a| ≤ ea) (hb : |b' - b| ≤ eb) (hlt : eb < |b|) :
    b' ≠ 0 ∧ |div' a' b' - a / b| ≤ u * |a / b| + (1 + u) * ((ea + |a / b| * eb) / (|b| - eb)) := by
  obtain ⟨hb', hq⟩ := div_sub_div_le ha hb hlt
  exact ⟨hb', (rel_step hu (hdiv a' b' hb')).trans
    (add_le_add le_rfl (mul_le_mul_of_nonneg_left hq (add_nonneg zero_le_one hu)))⟩

/-- the bound of `div_rel_error` is monotone in the two operand errors -/
theorem divErr_le {u q ec eN E W : α} (hu : 0 ≤ u) (hq : q ≤ 1) (hc : ec ≤ E) (hN0 : 0 ≤ eN)
    (hN : eN ≤ E) (hEW : E < W) :
    u * q + (1 + u) * ((ec + q * eN) / (W - eN)) ≤ u + (1 + u) * (2 * E / (W - E)) := by
  have hnum : ec + q * eN ≤ 2 * E := by
    rw [two_mul]
    exact add_le_add hc ((mul_le_of_le_one_left hN0 hq).trans hN)
  exact add_le_add (mul_le_of_le_one_right hu hq) (mul_le_mul_of_nonneg_left
    (div_le_div₀ (mul_nonneg zero_le_two (hN0.trans hN)) hnum (sub_pos.mpr hEW) (sub_le_sub_left hN W))
    (add_nonneg zero_le_one hu))

theorem mul_sub_mul_le {q' q g W eq eg : α} (hq : |q' - q| ≤ eq) (hg : |g - W| ≤ eg) :
    |q' * g - q * W| ≤ eq * (|W| + eg) + |q| * eg := by
  have hg1 : |g| ≤ |W| + eg := by
    have := abs_sub_abs_le_abs_sub g W
    linarith only [this, hg]
  have e : q' * g - q * W = (q' - q) * g + q * (g - W) := by ring
  rw [e]
  refine (abs_add_le _ _).trans (add_le_add ?_ ?_)
  · rw [abs_mul]
    exact mul_le_mul hq hg1 (abs_nonneg _) (le_trans (abs_nonneg _) hq)
  · rw [abs_mul]
    exact mul_le_mul_of_nonneg_left hg (abs_nonneg _)

theorem mul_rel_error {mul' : α → α → α} {u : α} (hu : 0 ≤ u)
    (hmul : ∀ a b, |mul' a b - a * b| ≤ u * |a * b|)
    {q' q g W eq eg : α} (hq : |q' - q| ≤ eq) (hg : |g - W| ≤ eg) :
    |mul' q' g - q * W| ≤ u * |q * W| + (1 + u) * (eq * (|W| + eg) + |q| * eg) :=
  (rel_step hu (hmul q' g)).trans
    (add_le_add le_rfl (mul_le_mul_of_nonneg_left (mul_sub_mul_le hq hg) (add_nonneg zero_le_one hu)))

/-! ### the round-trip (`rt`) bounds

The bound for one row (`rtBound`, ICG.Props.FloatErrorNormalize) and the uniform bound for a superadditive game
(`rtBoundSA`) are instances of one shape, monotone in each of its arguments. -/

/-- `p·(u·A + (1+u)·(e·(W + g) + q·g)) + (p − 1)·S`: growth factor `p` of the additions of the de-normalisation,
    surplus share `A`, error `e` of the rounded normal value, surplus `W` recorded to within `g`, quotient `q = A/W`,
    magnitude `S` of what the additions add up -/
def rtShape (u p A e W g q S : α) : α := p * (u * A + (1 + u) * (e * (W + g) + q * g)) + (p - 1) * S

theorem rtShape_mono {u p p' A A' e e' W g q q' S S' : α} (hu : 0 ≤ u) (hp : 1 ≤ p) (hpp : p ≤ p')
    (hAA : A ≤ A') (hA' : 0 ≤ A') (hee : e ≤ e') (he' : 0 ≤ e') (hW : 0 ≤ W) (hg : 0 ≤ g) (hqq : q ≤ q')
    (hq' : 0 ≤ q') (hS : 0 ≤ S) (hSS : S ≤ S') : rtShape u p A e W g q S ≤ rtShape u p' A' e' W g q' S' := by
  have ha : 0 ≤ 1 + u := add_nonneg zero_le_one hu
  have hWg : 0 ≤ W + g := add_nonneg hW hg
  have hin : u * A + (1 + u) * (e * (W + g) + q * g) ≤ u * A' + (1 + u) * (e' * (W + g) + q' * g) :=
    add_le_add (mul_le_mul_of_nonneg_left hAA hu) (mul_le_mul_of_nonneg_left
      (add_le_add (mul_le_mul_of_nonneg_right hee hWg) (mul_le_mul_of_nonneg_right hqq hg)) ha)
  have hin' : 0 ≤ u * A' + (1 + u) * (e' * (W + g) + q' * g) :=
    add_nonneg (mul_nonneg hu hA') (mul_nonneg ha (add_nonneg (mul_nonneg he' hWg) (mul_nonneg hq' hg)))
  exact add_le_add (mul_le_mul_of_nonneg hpp hin (le_trans zero_le_one hp) hin')
    (mul_le_mul (sub_le_sub_right hpp 1) hSS hS (sub_nonneg.mpr (hp.trans hpp)))

/-- the round-trip bound for a superadditive game: all first-stage errors `≤ E < W`, magnitudes `≤ M`; then
    `A ≤ W`, `e ≤ u + (1+u)·2E/(W − E)` (`divErr_le`), `q ≤ 1`, `S ≤ W + M` -/
def rtBoundSA (u : α) (n : Nat) (M W E : α) : α :=
  rtShape u ((1 + u) ^ n) W (u + (1 + u) * (2 * E / (W - E))) W E 1 (W + M)

omit [LinearOrder α] [IsStrictOrderedRing α] in
theorem rtBoundSA_zero (n : Nat) (M W : α) : rtBoundSA 0 n M W 0 = 0 := by
  simp [rtBoundSA, rtShape]

/-- `x` stands for `(n+1)·u`, `r` for `2E/(W − E)`.  Where 71 comes from: with
    `p ≤ 2`, `1 + u ≤ 3/2`, `W + E ≤ 3W/2` and `(1+u)·r·W ≤ 6E` the bracket `(u + (1+u)·r)·(W + E) + E` is at most
    `1.5·u·W + 10·E`, the first summand at most `2·(u·W + 1.5·(1.5·u·W + 10·E)) = 6.5·u·W + 30·E ≤ 66.5·x·M`, the
    second at most `2x·2M`. -/
theorem rtLinear {u x p r M W E : α} (hu : 0 ≤ u) (hux : u ≤ x) (hx : x ≤ 1 / 2) (hp2 : p - 1 ≤ 2 * x)
    (hW : 0 ≤ W) (hWM : W ≤ M) (hE0 : 0 ≤ E) (hE : E ≤ 2 * x * M) (hEW : 2 * E ≤ W) (hr : 0 ≤ r)
    (hrW : r * W ≤ 4 * E) :
    rtShape u p W (u + (1 + u) * r) W E 1 (W + M) ≤ 71 * x * M := by
  unfold rtShape
  rw [one_mul]
  have hM : 0 ≤ M := hW.trans hWM
  have hx0 : 0 ≤ x := hu.trans hux
  have h32 : (0 : α) ≤ 3 / 2 := by norm_num
  have ha : 0 ≤ 1 + u := add_nonneg zero_le_one hu
  have ha2 : 1 + u ≤ 3 / 2 := by linear_combination hux + hx
  have hs : 0 ≤ u + (1 + u) * r := add_nonneg hu (mul_nonneg ha hr)
  -- the bracket `J = (u + (1+u)·r)·(W + E) + E ≤ 1.5·u·W + 10·E`, from `W + E ≤ 1.5·W` and `(1+u)·(r·W) ≤ 1.5·4E`
  have h1 : (u + (1 + u) * r) * (W + E) ≤ (u + (1 + u) * r) * (3 / 2 * W) :=
    mul_le_mul_of_nonneg_left (by linear_combination (1 / 2 : α) * hEW) hs
  have h2 : (1 + u) * (r * W) ≤ 3 / 2 * (4 * E) := mul_le_mul ha2 hrW (mul_nonneg hr hW) h32
  have hJ : (u + (1 + u) * r) * (W + E) + E ≤ 3 / 2 * (u * W) + 10 * E := by
    linear_combination h1 + (3 / 2 : α) * h2
  have hJ0 : 0 ≤ (u + (1 + u) * r) * (W + E) + E := add_nonneg (mul_nonneg hs (add_nonneg hW hE0)) hE0
  -- `(1+u)·J ≤ 1.5·(…)`, `p·(u·W + (1+u)·J) ≤ 2·(…)`, `(p − 1)·(W + M) ≤ 2x·2M`, `u·W ≤ x·M`, `E ≤ 2·x·M`
  have h3 := mul_le_mul ha2 hJ hJ0 h32
  have h4 := mul_le_mul_of_nonneg_right (show p ≤ 2 by linear_combination hp2 + 2 * hx)
    (add_nonneg (mul_nonneg hu hW) (mul_nonneg ha hJ0))
  have h5 : (p - 1) * (W + M) ≤ 2 * x * (2 * M) :=
    mul_le_mul hp2 (by linear_combination hWM) (add_nonneg hW hM) (mul_nonneg zero_le_two hx0)
  have huW : u * W ≤ x * M := mul_le_mul hux hWM hW hx0
  linear_combination h4 + 2 * h3 + h5 + (13 / 2 : α) * huW + 30 * hE + (1 / 2 : α) * mul_nonneg hx0 hM

theorem rtBoundSA_le_linear {u M W E : α} (n : Nat) (hu : 0 ≤ u) (hx : ((n + 1 : ℕ) : α) * u ≤ 1 / 2)
    (hW : 0 < W) (hWM : W ≤ M) (hE0 : 0 ≤ E) (hE : E ≤ 2 * (((n + 1 : ℕ) : α) * u) * M)
    (hL : 4 * (((n + 1 : ℕ) : α) * u) * M ≤ W) :
    rtBoundSA u n M W E ≤ 71 * (((n + 1 : ℕ) : α) * u) * M := by
  have hnu : (n : α) * u ≤ ((n + 1 : ℕ) : α) * u :=
    mul_le_mul_of_nonneg_right (Nat.cast_le.mpr (Nat.le_succ n)) hu
  have hux : u ≤ ((n + 1 : ℕ) : α) * u :=
    le_mul_of_one_le_left hu (Nat.one_le_cast.mpr (Nat.succ_pos n))
  have hp2 := (growth_sub_one_le_linear hu n (hnu.trans hx)).trans (mul_le_mul_of_nonneg_left hnu zero_le_two)
  have hEW : 2 * E ≤ W := by linear_combination 2 * hE + hL
  -- `r = 2E/(W − E)` has `r·W = 2E + r·E` and `r·E ≤ r·W/2`, so `r·W ≤ 4E`
  have hden : 0 < W - E := by linear_combination (1 / 2 : α) * hEW + (1 / 2 : α) * hW
  have hr : 0 ≤ 2 * E / (W - E) := div_nonneg (mul_nonneg zero_le_two hE0) hden.le
  have hrW : 2 * E / (W - E) * W ≤ 4 * E := by
    have e : 2 * E / (W - E) * (W - E) = 2 * E := div_mul_cancel₀ _ hden.ne'
    linear_combination 2 * e + mul_le_mul_of_nonneg_left hEW hr
  exact rtLinear hu hux hx hp2 hW.le hWM hE0 hE hEW hr hrW

end ICG.ApproxNormalize

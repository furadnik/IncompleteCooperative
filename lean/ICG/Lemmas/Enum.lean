/-
  ICG.Lemmas.Enum — the enumeration lemmas behind property C18 and the proof of `enumFacts : EnumFacts`;
  `subIdList` / `superIdList` are the sub- and super-coalitions as lists of ids; the relation table is
  `relCode` entry by entry (`coalStructure_eq`, `mem_structSel_one/two`).

  Masks and player counts are arbitrary throughout; where a statement needs the mask to lie within `n`
  players it says `c < 2 ^ n`.
-/
import ICG.Model.Bits
import ICG.Model.Bounds
import ICG.Spec.EnumFacts
import ICG.Lemmas.BitFacts
import ICG.Lemmas.ListMax
import Mathlib.Data.List.Sublists
import Mathlib.Data.List.Sort

namespace ICG

theorem size_zero : size 0 = 0 := by rw [size]; simp

theorem size_eq (c : Nat) : size c = c % 2 + size (c / 2) := by
  by_cases h : c = 0
  · subst h; simp [size_zero]
  · rw [size]; simp [h]

theorem playersFrom_zero (i : Nat) : playersFrom i 0 = [] := by rw [playersFrom]; simp

theorem playersFrom_eq (i c : Nat) :
    playersFrom i c = (if c % 2 = 1 then [i] else []) ++ playersFrom (i + 1) (c / 2) := by
  by_cases h : c = 0
  · subst h; simp [playersFrom_zero]
  · rw [playersFrom]; simp [h]

/-! ### `players` -/

theorem mem_playersFrom : ∀ (c i j : Nat), j ∈ playersFrom i c ↔ ∃ k, j = i + k ∧ c.testBit k = true := by
  intro c
  induction c using Nat.strongRecOn with
  | _ c ih =>
    intro i j
    by_cases hc : c = 0
    · subst hc; simp [playersFrom_zero]
    · rw [playersFrom_eq i c, List.mem_append, ih (c / 2) (Nat.div_lt_self (Nat.pos_of_ne_zero hc) Nat.one_lt_two)]
      constructor
      · rintro (h | ⟨k, rfl, hk⟩)
        · by_cases h1 : c % 2 = 1
          · simp only [h1, if_true, List.mem_singleton] at h
            exact ⟨0, h, by simp [Nat.testBit_zero, h1]⟩
          · simp [h1] at h
        · exact ⟨k + 1, Nat.add_right_comm i 1 k, by rw [Nat.testBit_succ]; exact hk⟩
      · rintro ⟨k, rfl, hk⟩
        cases k with
        | zero =>
          left
          have : c % 2 = 1 := by simpa [Nat.testBit_zero] using hk
          simp [this]
        | succ k =>
          right
          exact ⟨k, (Nat.add_right_comm i 1 k).symm, by rw [Nat.testBit_succ] at hk; exact hk⟩

theorem players_zero : players 0 = [] := playersFrom_zero 0

theorem mem_players {c i : Nat} : i ∈ players c ↔ c.testBit i = true := by
  unfold players
  rw [mem_playersFrom]
  constructor
  · rintro ⟨k, rfl, hk⟩; simpa using hk
  · intro h; exact ⟨i, by omega, h⟩

theorem playersFrom_pairwise : ∀ (c i : Nat), (playersFrom i c).Pairwise (· < ·) := by
  intro c
  induction c using Nat.strongRecOn with
  | _ c ih =>
    intro i
    by_cases hc : c = 0
    · subst hc; simp [playersFrom_zero]
    · rw [playersFrom_eq i c]
      have hrest := ih (c / 2) (by omega) (i + 1)
      by_cases h1 : c % 2 = 1
      · simp only [h1, if_true, List.singleton_append, List.pairwise_cons]
        refine ⟨?_, hrest⟩
        intro j hj
        rw [mem_playersFrom] at hj
        obtain ⟨k, rfl, _⟩ := hj
        omega
      · simpa [h1] using hrest

theorem players_pairwise (c : Nat) : (players c).Pairwise (· < ·) := playersFrom_pairwise c 0

theorem players_nodup (c : Nat) : (players c).Nodup :=
  (players_pairwise c).imp (fun h => Nat.ne_of_lt h)

/-! ### `size` -/

theorem length_playersFrom : ∀ (c i : Nat), (playersFrom i c).length = size c := by
  intro c
  induction c using Nat.strongRecOn with
  | _ c ih =>
    intro i
    by_cases hc : c = 0
    · subst hc; simp [playersFrom_zero, size_zero]
    · rw [playersFrom_eq i c, size_eq c, List.length_append, ih (c / 2) (by omega)]
      by_cases h1 : c % 2 = 1
      · simp [h1]
      · have : c % 2 = 0 := by omega
        simp [this]

theorem size_eq_length_players (c : Nat) : size c = (players c).length :=
  (length_playersFrom c 0).symm

theorem size_or_of_disjoint : ∀ (a b : Nat), a &&& b = 0 → size (a ||| b) = size a + size b := by
  intro a
  induction a using Nat.strongRecOn with
  | _ a ih =>
    intro b h
    by_cases ha : a = 0
    · subst ha; simp [size_zero]
    · rw [size_eq (a ||| b), size_eq a, size_eq b, Nat.or_div_two, or_mod_two_of_disjoint h,
        ih (a / 2) (by omega) (b / 2) (by rw [← Nat.and_div_two, h])]
      exact Nat.add_add_add_comm _ _ _ _

theorem size_pos_of_ne_zero (c : Nat) (h : c ≠ 0) : 0 < size c := by
  obtain ⟨i, hi⟩ := Nat.exists_testBit_of_ne_zero h
  rw [size_eq_length_players]
  exact List.length_pos_of_mem (mem_players.mpr hi)

theorem size_eq_zero_iff {c : Nat} : size c = 0 ↔ c = 0 := by
  constructor
  · intro h
    by_cases hc : c = 0
    · exact hc
    · have := size_pos_of_ne_zero c hc; omega
  · rintro rfl; exact size_zero

theorem size_split {x c : Nat} (h : x &&& c = x) : size c = size x + size (c ^^^ x) := by
  rw [← size_or_of_disjoint x (c ^^^ x) (and_xor_self_of_sub h), or_xor_self_of_sub h]

theorem size_le_of_sub {x c : Nat} (h : x &&& c = x) : size x ≤ size c := by
  rw [size_split h]; omega

theorem size_lt {x c : Nat} (h : x &&& c = x) (hne : x ≠ c) : size x < size c := by
  rw [size_split h]
  have : c ^^^ x ≠ 0 := by
    intro h0
    apply hne
    have := or_xor_self_of_sub h
    rw [h0] at this
    simpa using this
  have := size_pos_of_ne_zero _ this
  omega

theorem size_le : ∀ (n c : Nat), c < 2 ^ n → size c ≤ n := by
  intro n
  induction n with
  | zero => intro c hc; have : c = 0 := by simpa using hc
            subst this; simp [size_zero]
  | succ n ih =>
    intro c hc
    rw [size_eq c]
    have := ih (c / 2) (by rw [Nat.pow_succ] at hc; omega)
    omega

theorem size_two_pow : ∀ (j : Nat), size (2 ^ j) = 1
  | 0 => by rw [size_eq]; simp [size_zero]
  | j + 1 => by
    rw [size_eq, Nat.pow_succ, Nat.mul_mod_left, Nat.mul_div_cancel _ (by decide : 0 < 2), size_two_pow j]

theorem size_grand (n : Nat) : size (grand n) = n := by
  unfold grand
  induction n with
  | zero => exact size_zero
  | succ k ih =>
    have h : ∀ p, 0 < p → p * 2 - 1 = 2 * (p - 1) + 1 := fun p hp => by omega
    rw [size_eq, Nat.pow_succ, h _ (Nat.two_pow_pos k), Nat.mul_add_mod, Nat.mul_add_div Nat.two_pos,
      Nat.add_zero (2 ^ k - 1), ih, Nat.add_comm]

theorem size_lt_of_ne_grand {n c : Nat} (hc : c < 2 ^ n) (hne : c ≠ grand n) : size c < n := by
  have hsub : c &&& grand n = c := by
    unfold grand; rw [Nat.and_two_pow_sub_one_eq_mod, Nat.mod_eq_of_lt hc]
  exact size_grand n ▸ size_lt hsub hne

theorem two_le_size {c i j : Nat} (hi : c.testBit i = true) (hj : c.testBit j = true) (hne : i ≠ j) :
    2 ≤ size c := by
  have hsplit := size_split (two_pow_sub_of_testBit hi)
  have hj' : (c ^^^ 2 ^ i).testBit j = true := by
    rw [Nat.testBit_xor, hj, Nat.testBit_two_pow, decide_eq_false hne]; rfl
  have hpos : 0 < size (c ^^^ 2 ^ i) := size_pos_of_ne_zero _ (fun h0 => by rw [h0] at hj'; simp at hj')
  rw [size_two_pow] at hsplit
  omega

/-! ### `fromPlayers` -/

theorem nodup_eraseDups : ∀ (l : List Nat), l.eraseDups.Nodup := by
  intro l
  induction h : l.length using Nat.strongRecOn generalizing l with
  | _ m ih =>
    cases l with
    | nil => simp
    | cons a as =>
      rw [List.eraseDups_cons, List.nodup_cons]
      constructor
      · simp
      · apply ih _ _ _ rfl
        subst h
        exact Nat.lt_succ_of_le (List.length_filter_le _ _)

theorem testBit_foldl_add_two_pow : ∀ (l : List Nat) (acc : Nat), l.Nodup →
    (∀ p ∈ l, acc.testBit p = false) → ∀ i,
    (l.foldl (fun id p => id + 2 ^ p) acc).testBit i = (acc.testBit i || decide (i ∈ l)) := by
  intro l
  induction l with
  | nil => simp
  | cons p l ih =>
    intro acc hnd hacc i
    rw [List.nodup_cons] at hnd
    have hp : acc.testBit p = false := hacc p (by simp)
    have hdisj : acc &&& 2 ^ p = 0 := by
      apply Nat.eq_of_testBit_eq; intro j
      simp only [Nat.testBit_and, Nat.testBit_two_pow, Nat.zero_testBit]
      by_cases hj : p = j
      · subst hj; simp [hp]
      · simp [hj]
    rw [List.foldl_cons, add_eq_or_of_and_eq_zero _ _ hdisj]
    rw [ih (acc ||| 2 ^ p) hnd.2 ?_ i]
    · simp only [Nat.testBit_or, Nat.testBit_two_pow, List.mem_cons]
      by_cases hi : p = i
      · subst hi; simp
      · have : ¬ i = p := fun e => hi e.symm
        simp [hi, this]
    · intro q hq
      have hqp : p ≠ q := fun e => hnd.1 (e ▸ hq)
      simp [Nat.testBit_or, hacc q (by simp [hq]), hqp]

/-- `Coalition.from_players`: bit `i` is set iff `i` is listed (duplicates are harmless) -/
theorem testBit_fromPlayers (l : List Nat) (i : Nat) : (fromPlayers l).testBit i = decide (i ∈ l) := by
  unfold fromPlayers
  rw [testBit_foldl_add_two_pow _ 0 (nodup_eraseDups l) (by simp) i]
  simp

theorem testBit_fromPlayers_iff {l : List Nat} {i : Nat} : (fromPlayers l).testBit i = true ↔ i ∈ l := by
  simp [testBit_fromPlayers]

theorem fromPlayers_players (c : Nat) : fromPlayers (players c) = c := by
  apply Nat.eq_of_testBit_eq; intro i
  rw [testBit_fromPlayers]
  cases h : c.testBit i
  · simp [mem_players, h]
  · simp [mem_players, h]

theorem players_fromPlayers {l : List Nat} (h : l.Pairwise (· < ·)) : players (fromPlayers l) = l :=
  (players_pairwise _).eq_of_mem_iff h (fun a => by rw [mem_players, testBit_fromPlayers_iff])

/-! ### `combos`, `powerset`, `subCoalitionsObj` -/

theorem combos_perm {β} : ∀ (k : Nat) (l : List β), (combos k l).Perm (List.sublistsLen k l)
  | 0, l => by simp [combos]
  | k+1, [] => by simp [combos]
  | k+1, a :: l => by
    rw [combos, List.sublistsLen_succ_cons]
    exact (List.perm_append_comm).trans (List.Perm.append (combos_perm (k+1) l) ((combos_perm k l).map _))

theorem combos_nodup {β} {k : Nat} {l : List β} (h : l.Nodup) : (combos k l).Nodup :=
  (combos_perm k l).nodup_iff.mpr (List.nodup_sublistsLen k h)

theorem mem_combos {β} {k : Nat} {l s : List β} : s ∈ combos k l ↔ s.Sublist l ∧ s.length = k :=
  (combos_perm k l).mem_iff.trans List.mem_sublistsLen

theorem mem_powerset {β} {l s : List β} : s ∈ powerset l ↔ s.Sublist l := by
  unfold powerset
  simp only [List.mem_flatMap, List.mem_range, mem_combos]
  constructor
  · rintro ⟨r, _, h, _⟩; exact h
  · intro h; exact ⟨s.length, Nat.lt_succ_of_le h.length_le, h, rfl⟩

theorem powerset_nodup {β} {l : List β} (h : l.Nodup) : (powerset l).Nodup := by
  unfold powerset
  rw [List.nodup_flatMap]
  refine ⟨fun r _ => combos_nodup h, ?_⟩
  refine List.Pairwise.imp_of_mem ?_ (List.nodup_range (n := l.length + 1))
  intro a b _ _ hab s hsa hsb
  rw [mem_combos] at hsa hsb
  exact hab (hsa.2.symm.trans hsb.2)

theorem sublist_players_iff {s : List Nat} {c : Nat} :
    s.Sublist (players c) ↔ s.Pairwise (· < ·) ∧ ∀ i ∈ s, c.testBit i = true := by
  constructor
  · intro h
    exact ⟨(players_pairwise c).sublist h, fun i hi => mem_players.mp (h.subset hi)⟩
  · rintro ⟨hs, hmem⟩
    have : s = (players c).filter (fun i => decide (i ∈ s)) := by
      apply hs.eq_of_mem_iff ((players_pairwise c).filter _)
      intro a
      simp only [List.mem_filter, decide_eq_true_eq, mem_players]
      exact ⟨fun h => ⟨hmem a h, h⟩, fun h => h.2⟩
    rw [this]
    exact List.filter_sublist

theorem mem_subCoalitionsObj {x c : Nat} : x ∈ subCoalitionsObj c ↔ x &&& c = x := by
  unfold subCoalitionsObj
  simp only [List.mem_map, mem_powerset, sublist_players_iff]
  constructor
  · rintro ⟨s, ⟨_, hmem⟩, rfl⟩
    apply sub_of_testBit
    intro i hi
    exact hmem i (testBit_fromPlayers_iff.mp hi)
  · intro h
    exact ⟨players x, ⟨players_pairwise x, fun i hi => sub_testBit h i (mem_players.mp hi)⟩,
      fromPlayers_players x⟩

theorem subCoalitionsObj_nodup (c : Nat) : (subCoalitionsObj c).Nodup := by
  unfold subCoalitionsObj
  apply List.Nodup.map_on _ (powerset_nodup (players_nodup c))
  intro s hs t ht heq
  rw [mem_powerset, sublist_players_iff] at hs ht
  rw [← players_fromPlayers hs.1, ← players_fromPlayers ht.1, heq]

theorem mem_saSubs {x c : Nat} : x ∈ saSubs c ↔ x &&& c = x ∧ x ≠ 0 ∧ x ≠ c := by
  unfold saSubs
  simp only [List.mem_filter, mem_subCoalitionsObj, Bool.and_eq_true, bne_iff_ne, ne_eq]
  constructor
  · rintro ⟨h, h1, h2⟩; exact ⟨h, h2, h1⟩
  · rintro ⟨h, h1, h2⟩; exact ⟨h, h2, h1⟩

theorem saSubs_nodup (c : Nat) : (saSubs c).Nodup := (subCoalitionsObj_nodup c).filter _

/-! ### `superCoalitionsObj` -/

theorem testBit_grand (n i : Nat) : (grand n).testBit i = decide (i < n) := by
  unfold grand; exact Nat.testBit_two_pow_sub_one n i

theorem lt_two_pow_iff_testBit {x n : Nat} : x < 2 ^ n ↔ ∀ i, n ≤ i → x.testBit i = false := by
  constructor
  · intro h i hi
    exact Nat.testBit_lt_two_pow (Nat.lt_of_lt_of_le h (Nat.pow_le_pow_right (by omega) hi))
  · intro h; exact Nat.lt_pow_two_of_testBit x h

theorem super_iff_exists {c n T : Nat} (hc : c < 2 ^ n) :
    (∃ s, s &&& diff (grand n) c = s ∧ c ||| s = T) ↔ (T < 2 ^ n ∧ c &&& T = c) := by
  have hcN : c &&& grand n = c := sub_grand hc
  have hN : diff (grand n) c &&& grand n = diff (grand n) c := by
    rw [diff_eq_sub_of_sub hcN]; exact compl_sub hcN
  constructor
  · rintro ⟨s, hs, rfl⟩
    exact ⟨Nat.or_lt_two_pow hc (sub_lt_two_pow (sub_trans hs hN) (grand_lt n)), and_or_self c s⟩
  · rintro ⟨hT, hcT⟩
    refine ⟨T - c, sub_iff_testBit.mpr fun i hi => ?_, (sub_or_self hcT).1⟩
    rw [sub_eq_xor_of_sub hcT, Nat.testBit_xor] at hi
    rw [diff_testBit, testBit_grand]
    cases hci : c.testBit i
    · rw [hci, Bool.xor_false] at hi
      rw [decide_eq_true (lt_of_testBit hT hi)]; rfl
    · rw [hci, sub_testBit hcT i hci] at hi; cases hi

theorem mem_superCoalitionsObj {c n T : Nat} (hc : c < 2 ^ n) :
    T ∈ superCoalitionsObj c n ↔ (T < 2 ^ n ∧ c &&& T = c) := by
  unfold superCoalitionsObj
  simp only [List.mem_map, mem_subCoalitionsObj]
  exact super_iff_exists hc

theorem or_injOn_disjoint {c s t : Nat} (hs : s &&& c = 0) (ht : t &&& c = 0) (h : c ||| s = c ||| t) :
    s = t := by
  apply Nat.eq_of_testBit_eq; intro i
  have h1 := congrArg (·.testBit i) hs
  have h2 := congrArg (·.testBit i) ht
  have h3 := congrArg (·.testBit i) h
  simp only [Nat.testBit_and, Nat.testBit_or, Nat.zero_testBit] at h1 h2 h3
  cases hc : c.testBit i <;> cases hs' : s.testBit i <;> cases ht' : t.testBit i <;> simp_all

theorem and_eq_zero_of_sub_diff {s g c : Nat} (hs : s &&& diff g c = s) : s &&& c = 0 := by
  apply Nat.eq_of_testBit_eq; intro i
  simp only [Nat.testBit_and, Nat.zero_testBit]
  cases hsi : s.testBit i
  · simp
  · have := sub_testBit hs i hsi
    rw [diff_testBit] at this
    simp only [Bool.and_eq_true, Bool.not_eq_true'] at this
    simp [this.2]

theorem superCoalitionsObj_nodup (c n : Nat) : (superCoalitionsObj c n).Nodup := by
  unfold superCoalitionsObj
  apply List.Nodup.map_on _ (subCoalitionsObj_nodup _)
  intro s hs t ht heq
  rw [mem_subCoalitionsObj] at hs ht
  exact or_injOn_disjoint (and_eq_zero_of_sub_diff hs) (and_eq_zero_of_sub_diff ht) heq

/-! ### the id-array style -/

theorem two_pow_and_ne_zero_iff {i c : Nat} : (2 ^ i &&& c != 0) = c.testBit i := by
  cases h : c.testBit i
  · have : 2 ^ i &&& c = 0 := by
      apply Nat.eq_of_testBit_eq; intro j
      simp only [Nat.testBit_and, Nat.testBit_two_pow, Nat.zero_testBit]
      by_cases hj : i = j
      · subst hj; simp [h]
      · simp [hj]
    simp [this]
  · have : 2 ^ i &&& c ≠ 0 := by
      intro h0
      have := congrArg (·.testBit i) h0
      simp [Nat.testBit_and, h] at this
    simpa using this

/-- `Coalition.__contains__` for a player -/
theorem hasPlayer_eq_testBit (c p : Nat) : hasPlayer c p = c.testBit p := by
  unfold hasPlayer contains ICG.singleton
  rw [Nat.and_comm]
  cases h : c.testBit p
  · have h0 : 2 ^ p &&& c = 0 := by simpa [h] using two_pow_and_ne_zero_iff (i := p) (c := c)
    rw [h0]; exact beq_false_of_ne (Nat.two_pow_pos p).ne
  · rw [two_pow_sub_of_testBit h]; exact beq_self_eq_true _

theorem playersId_eq_filter (c n : Nat) : playersId c n = (List.range n).filter (fun i => c.testBit i) := by
  unfold playersId
  congr 1
  funext i
  exact two_pow_and_ne_zero_iff

theorem mem_playersId {c n i : Nat} : i ∈ playersId c n ↔ i < n ∧ c.testBit i = true := by
  rw [playersId_eq_filter]; simp

theorem playersId_pairwise (c n : Nat) : (playersId c n).Pairwise (· < ·) := by
  rw [playersId_eq_filter]; exact (List.pairwise_lt_range).filter _

/-- `coalition_ids.players(c, n)` is `Coalition(c).players`, for a mask within `n` players -/
theorem playersId_eq_players {c n : Nat} (hc : c < 2 ^ n) : playersId c n = players c := by
  apply (playersId_pairwise c n).eq_of_mem_iff (players_pairwise c)
  intro i
  rw [mem_playersId, mem_players]
  constructor
  · exact fun h => h.2
  · intro h
    refine ⟨?_, h⟩
    by_contra hlt
    have := (lt_two_pow_iff_testBit.mp hc) i (by omega)
    rw [this] at h; exact absurd h (by simp)

theorem sizeId_eq_length_playersId (c n : Nat) : sizeId c n = (playersId c n).length := rfl

theorem sizeId_eq_size {c n : Nat} (hc : c < 2 ^ n) : sizeId c n = size c := by
  rw [sizeId_eq_length_playersId, playersId_eq_players hc, size_eq_length_players]

theorem le_foldl_max (l : List Nat) (a : Nat) : a ≤ l.foldl max a ∧ ∀ x ∈ l, x ≤ l.foldl max a :=
  ⟨foldl_max_ge l a, fun x hx => foldl_max_mem_ge l a x hx⟩

theorem lt_maxBitId {c n i : Nat} (hc : c < 2 ^ n) (hi : c.testBit i = true) : i < maxBitId c n := by
  unfold maxBitId
  have hmem : i ∈ playersId c n := by rw [playersId_eq_players hc]; exact mem_players.mpr hi
  have := (le_foldl_max (playersId c n) 0).2 i hmem
  omega

theorem or_eq_iff_sub {x c : Nat} : x ||| c = c ↔ x &&& c = x := by
  constructor
  · intro h
    apply sub_of_testBit; intro i hi
    have := congrArg (·.testBit i) h
    simp only [Nat.testBit_or, hi, Bool.true_or] at this
    exact this.symm
  · intro h
    apply Nat.eq_of_testBit_eq; intro i
    rw [Nat.testBit_or]
    cases hx : x.testBit i
    · simp
    · simp [sub_testBit h i hx]

theorem sub_lt_two_pow_maxBitId {x c n : Nat} (hc : c < 2 ^ n) (h : x &&& c = x) : x < 2 ^ maxBitId c n := by
  rw [lt_two_pow_iff_testBit]
  intro i hi
  cases hx : x.testBit i
  · rfl
  · have := lt_maxBitId hc (sub_testBit h i hx)
    omega

/-- the list `coalition_ids.sub_coalitions(c, n)` returns when its assertion holds -/
def subIdList (c n : Nat) : List Nat := (List.range (2 ^ maxBitId c n)).filter (fun x => x ||| c == c)

theorem subCoalitionsId_ok {c n : Nat} (hc : c < 2 ^ n) : subCoalitionsId c n = .ok (subIdList c n) := by
  unfold subCoalitionsId subIdList
  rw [if_pos hc]

theorem subCoalitionsId_error {c n : Nat} (hc : 2 ^ n ≤ c) : subCoalitionsId c n = .error .assert := by
  unfold subCoalitionsId
  rw [if_neg (by omega)]

theorem mem_subIdList {c n x : Nat} (hc : c < 2 ^ n) : x ∈ subIdList c n ↔ x &&& c = x := by
  unfold subIdList
  simp only [List.mem_filter, List.mem_range, beq_iff_eq, or_eq_iff_sub]
  exact ⟨fun h => h.2, fun h => ⟨sub_lt_two_pow_maxBitId hc h, h⟩⟩

theorem subIdList_pairwise (c n : Nat) : (subIdList c n).Pairwise (· < ·) :=
  (List.pairwise_lt_range).filter _

theorem subIdList_nodup (c n : Nat) : (subIdList c n).Nodup :=
  (subIdList_pairwise c n).imp (fun h => Nat.ne_of_lt h)

/-- the list `coalition_ids.super_coalitions(c, n)` returns when its assertion holds -/
def superIdList (c n : Nat) : List Nat := (subIdList ((2 ^ n - 1) ^^^ c) n).map (fun x => x ||| c)

theorem opp_lt {c n : Nat} (hc : c < 2 ^ n) : (2 ^ n - 1) ^^^ c < 2 ^ n :=
  Nat.xor_lt_two_pow (by have := Nat.two_pow_pos n; omega) hc

theorem superCoalitionsId_ok {c n : Nat} (hc : c < 2 ^ n) : superCoalitionsId c n = .ok (superIdList c n) := by
  unfold superCoalitionsId superIdList
  rw [if_pos hc]
  simp only [subCoalitionsId_ok (opp_lt hc)]
  rfl

theorem superCoalitionsId_error {c n : Nat} (hc : 2 ^ n ≤ c) : superCoalitionsId c n = .error .assert := by
  unfold superCoalitionsId
  rw [if_neg (by omega)]

theorem opp_eq_diff {c n : Nat} (hc : c < 2 ^ n) : (2 ^ n - 1) ^^^ c = diff (grand n) c := by
  apply Nat.eq_of_testBit_eq; intro i
  rw [diff_testBit, testBit_grand, Nat.testBit_xor, Nat.testBit_two_pow_sub_one]
  by_cases hi : i < n
  · simp [hi]
  · have := (lt_two_pow_iff_testBit.mp hc) i (by omega)
    simp [hi, this]

theorem mem_superIdList {c n T : Nat} (hc : c < 2 ^ n) :
    T ∈ superIdList c n ↔ (T < 2 ^ n ∧ c &&& T = c) := by
  unfold superIdList
  have hopp := opp_lt hc
  rw [opp_eq_diff hc] at hopp
  simp only [List.mem_map, opp_eq_diff hc, mem_subIdList hopp]
  rw [← super_iff_exists hc]
  constructor
  · rintro ⟨s, hs, rfl⟩; exact ⟨s, hs, Nat.or_comm _ _⟩
  · rintro ⟨s, hs, rfl⟩; exact ⟨s, hs, Nat.or_comm _ _⟩

theorem superIdList_nodup {c n : Nat} (hc : c < 2 ^ n) : (superIdList c n).Nodup := by
  unfold superIdList
  apply List.Nodup.map_on _ (subIdList_nodup _ _)
  intro s hs t ht heq
  rw [mem_subIdList (opp_lt hc), opp_eq_diff hc] at hs ht
  apply or_injOn_disjoint (and_eq_zero_of_sub_diff hs) (and_eq_zero_of_sub_diff ht)
  rw [Nat.or_comm c s, Nat.or_comm c t]; exact heq

/-! ### the two styles enumerate the same sets -/

theorem sub_enumerations_agree {c n : Nat} (hc : c < 2 ^ n) :
    ∃ l, subCoalitionsId c n = .ok l ∧ l.Nodup ∧ (subCoalitionsObj c).Nodup ∧
      ∀ x, x ∈ subCoalitionsObj c ↔ x ∈ l :=
  ⟨subIdList c n, subCoalitionsId_ok hc, subIdList_nodup c n, subCoalitionsObj_nodup c,
    fun x => by rw [mem_subCoalitionsObj, mem_subIdList hc]⟩

theorem super_enumerations_agree {c n : Nat} (hc : c < 2 ^ n) :
    ∃ l, superCoalitionsId c n = .ok l ∧ l.Nodup ∧ (superCoalitionsObj c n).Nodup ∧
      ∀ T, T ∈ superCoalitionsObj c n ↔ T ∈ l :=
  ⟨superIdList c n, superCoalitionsId_ok hc, superIdList_nodup hc, superCoalitionsObj_nodup c n,
    fun T => by rw [mem_superCoalitionsObj hc, mem_superIdList hc]⟩

theorem sub_enumerations_perm {c n : Nat} (hc : c < 2 ^ n) : (subCoalitionsObj c).Perm (subIdList c n) :=
  (List.perm_ext_iff_of_nodup (subCoalitionsObj_nodup c) (subIdList_nodup c n)).mpr
    (fun x => by rw [mem_subCoalitionsObj, mem_subIdList hc])

theorem super_enumerations_perm {c n : Nat} (hc : c < 2 ^ n) :
    (superCoalitionsObj c n).Perm (superIdList c n) :=
  (List.perm_ext_iff_of_nodup (superCoalitionsObj_nodup c n) (superIdList_nodup hc)).mpr
    (fun x => by rw [mem_superCoalitionsObj hc, mem_superIdList hc])

/-! ### the relation table as `relCode`, and its rows of code 1 and 2 -/

theorem coalStructure_eq {n c d : Nat} (hc : c < 2 ^ n) (_hd : d < 2 ^ n) (_hc0 : c ≠ 0) :
    coalStructure n c d =
      if d = 0 then -2 else if d = c then 0 else if c &&& d = c then 2 else if d &&& c = d then 1 else -1 := by
  unfold coalStructure
  rw [superCoalitionsId_ok hc, subCoalitionsId_ok hc]
  simp only [List.contains_iff_mem, mem_superIdList hc, mem_subIdList hc, _hd, true_and]

theorem mem_structSel_one {n c d : Nat} (hc : c < 2 ^ n) (hc0 : c ≠ 0) :
    d ∈ structSel n c 1 ↔ (d < 2 ^ n ∧ d &&& c = d ∧ d ≠ 0 ∧ d ≠ c) := by
  unfold structSel allCoalitions
  rw [List.mem_filter, List.mem_range, beq_iff_eq]
  exact and_congr_right fun hd => by rw [coalStructure_eq hc hd hc0]; exact relCode_eq_one

theorem mem_structSel_two {n c d : Nat} (hc : c < 2 ^ n) (hc0 : c ≠ 0) :
    d ∈ structSel n c 2 ↔ (d < 2 ^ n ∧ c &&& d = c ∧ d ≠ c) := by
  unfold structSel allCoalitions
  rw [List.mem_filter, List.mem_range, beq_iff_eq]
  exact and_congr_right fun hd => by rw [coalStructure_eq hc hd hc0]; exact relCode_eq_two

theorem enumFacts : EnumFacts where
  saSubs := fun _ _ => mem_saSubs
  superObj := fun _ _ _ hc => mem_superCoalitionsObj hc
  struct := fun _ _ _ hc hd hc0 => coalStructure_eq hc hd hc0
  size_lt := fun _ _ h hne => size_lt h hne
  size_le := size_le

end ICG

/-
  ICG.Lemmas.Regret — the static part of the regret minimiser (ICG.Model.Regret): the ranking `metaIds` (exactly the
  masks with at most `min limit m` bits, by size); its length; the id → rank table as allocated; the constructor.
-/
import ICG.Model.Regret
import ICG.Lemmas.RegretHelpers
import ICG.Lemmas.Enum
import Mathlib.Data.List.Sublists
import Mathlib.Data.List.Sort
import Mathlib.Data.Nat.Choose.Basic
import Mathlib.Algebra.Group.Nat.Defs

namespace ICG.Regret
open ICG

/-! ### ranking -/

theorem sublist_range_iff {s : List Nat} {m : Nat} :
    s.Sublist (List.range m) ↔ s.Pairwise (· < ·) ∧ ∀ i ∈ s, i < m := by
  refine ⟨fun h => ⟨(List.pairwise_lt_range).sublist h, fun _ hi => List.mem_range.mp (h.subset hi)⟩,
    fun ⟨hs, hm⟩ => ?_⟩
  have : s = (List.range m).filter (fun i => decide (i ∈ s)) := by
    apply hs.eq_of_mem_iff ((List.pairwise_lt_range).filter _)
    intro a
    simp only [List.mem_filter, List.mem_range, decide_eq_true_eq]
    exact ⟨fun h => ⟨hm a h, h⟩, fun h => h.2⟩
  rw [this]
  exact List.filter_sublist

theorem players_lt {x m : Nat} (hx : x < 2 ^ m) : ∀ i ∈ players x, i < m :=
  fun _ hi => lt_of_testBit hx (mem_players.mp hi)

theorem mem_block {m k x : Nat} :
    x ∈ (combos k (List.range m)).map fromPlayers ↔ x < 2 ^ m ∧ size x = k := by
  simp only [List.mem_map, mem_combos, sublist_range_iff]
  constructor
  · rintro ⟨s, ⟨⟨hs, hm⟩, hk⟩, rfl⟩
    refine ⟨?_, ?_⟩
    · rw [lt_two_pow_iff_testBit]
      intro i hi
      cases h : (fromPlayers s).testBit i
      · rfl
      · exact absurd (hm i (testBit_fromPlayers_iff.mp h)) (Nat.not_lt.mpr hi)
    · rw [size_eq_length_players, players_fromPlayers hs, hk]
  · rintro ⟨hx, hk⟩
    exact ⟨players x, ⟨⟨players_pairwise x, players_lt hx⟩, by rw [← size_eq_length_players, hk]⟩,
      fromPlayers_players x⟩

theorem block_nodup (m k : Nat) : ((combos k (List.range m)).map fromPlayers).Nodup := by
  apply List.Nodup.map_on _ (combos_nodup List.nodup_range)
  intro s hs t ht heq
  rw [mem_combos, sublist_range_iff] at hs ht
  rw [← players_fromPlayers hs.1.1, ← players_fromPlayers ht.1.1, heq]

theorem mem_metaIds {m limit x : Nat} :
    x ∈ metaIds m limit ↔ x < 2 ^ m ∧ size x ≤ min limit m := by
  unfold metaIds
  simp only [List.mem_flatMap, List.mem_range, mem_block]
  constructor
  · rintro ⟨k, hk, hx, rfl⟩; exact ⟨hx, Nat.min_comm .. ▸ Nat.le_of_lt_succ hk⟩
  · rintro ⟨hx, hs⟩; exact ⟨size x, Nat.lt_succ_of_le (Nat.min_comm .. ▸ hs), hx, rfl⟩

theorem metaIds_nodup (m limit : Nat) : (metaIds m limit).Nodup := by
  unfold metaIds
  rw [List.nodup_flatMap]
  refine ⟨fun k _ => block_nodup m k, ?_⟩
  refine List.Pairwise.imp_of_mem ?_ (List.nodup_range (n := min m limit + 1))
  intro a b _ _ hab x hxa hxb
  rw [mem_block] at hxa hxb
  exact hab (hxa.2.symm.trans hxb.2)

theorem metaIds_sorted (m limit : Nat) : (metaIds m limit).Pairwise (fun a b => size a ≤ size b) := by
  unfold metaIds
  rw [List.pairwise_flatMap]
  constructor
  · intro k _
    rw [List.pairwise_iff_forall_sublist]
    intro a b hab
    have ha := hab.subset (List.mem_cons_self)
    have hb := hab.subset (List.mem_cons_of_mem _ List.mem_cons_self)
    rw [mem_block] at ha hb
    exact (ha.2.trans hb.2.symm).le
  · refine List.Pairwise.imp ?_ (List.pairwise_lt_range (n := min m limit + 1))
    intro a b hab x hx y hy
    rw [mem_block] at hx hy
    exact hx.2 ▸ hy.2 ▸ hab.le

/-! ### counting -/

theorem foldl_add_eq {α} [AddMonoid α] : ∀ (l : List α) (a : α), l.foldl (· + ·) a = a + l.sum
  | [], a => by simp
  | x :: xs, a => by simp [foldl_add_eq xs, add_assoc]

theorem listSum_eq_sum {α} [AddMonoid α] (l : List α) : listSum l = l.sum := by
  unfold listSum
  rw [foldl_add_eq, zero_add]

theorem binom_eq_choose : ∀ n k, binom n k = Nat.choose n k
  | _, 0 => by simp [binom]
  | 0, k + 1 => by simp [binom]
  | n + 1, k + 1 => by
    simp [binom, Nat.choose_succ_succ, binom_eq_choose n k, binom_eq_choose n (k + 1)]

theorem length_combos {β} (k : Nat) (l : List β) : (combos k l).length = Nat.choose l.length k := by
  rw [(combos_perm k l).length_eq, List.length_sublistsLen]

theorem coalitionsUpTo_eq (m k : Nat) : coalitionsUpTo m k = ((List.range (k + 1)).map (Nat.choose m)).sum := by
  unfold coalitionsUpTo
  rw [listSum_eq_sum]
  congr 1
  apply List.map_congr_left
  intro a _
  exact binom_eq_choose m a

theorem length_metaIds (m limit : Nat) : (metaIds m limit).length = coalitionsUpTo m (min m limit) := by
  rw [coalitionsUpTo_eq]
  unfold metaIds
  rw [List.length_flatMap]
  congr 1
  apply List.map_congr_left
  intro a _
  rw [List.length_map, length_combos, List.length_range]

/-- `np.fromiter(.., count=..)` gets exactly as many ids as it asks for -/
theorem metaIdsArr_eq (m limit : Nat) : metaIdsArr m limit = .ok (metaIds m limit) := by
  unfold metaIdsArr
  simp only [length_metaIds, Nat.lt_irrefl, if_false]
  rw [← length_metaIds, List.take_length]

/-! ### the id → rank table as allocated -/

/-- the fill loop, started at rank `k` -/
def fillFrom (a : Array Nat) (k : Nat) (ids : List Nat) : Array Nat :=
  (ids.zipIdx k).foldl (fun a p => a.setIfInBounds p.1 p.2) a

theorem fillFrom_cons (a : Array Nat) (k x : Nat) (xs : List Nat) :
    fillFrom a k (x :: xs) = fillFrom (a.setIfInBounds x k) (k + 1) xs := by
  simp [fillFrom, List.zipIdx_cons]

theorem size_fillFrom : ∀ (ids : List Nat) (a : Array Nat) (k : Nat), (fillFrom a k ids).size = a.size
  | [], a, k => by simp [fillFrom]
  | x :: xs, a, k => by rw [fillFrom_cons, size_fillFrom xs]; simp

theorem fillFrom_not_mem : ∀ (ids : List Nat) (a : Array Nat) (k y : Nat), y ∉ ids →
    (fillFrom a k ids)[y]? = a[y]?
  | [], a, k, y, _ => by simp [fillFrom]
  | x :: xs, a, k, y, h => by
    rw [fillFrom_cons, fillFrom_not_mem xs _ _ y (fun hm => h (List.mem_cons_of_mem _ hm))]
    have : x ≠ y := fun e => h (e ▸ List.mem_cons_self)
    simp [this]

theorem fillFrom_get : ∀ (ids : List Nat) (a : Array Nat) (k r : Nat) (hr : r < ids.length),
    ids.Nodup → ids[r] < a.size → (fillFrom a k ids)[ids[r]]? = some (k + r)
  | x :: xs, a, k, 0, _, hn, hlt => by
    rw [fillFrom_cons, List.getElem_cons_zero, fillFrom_not_mem xs _ _ x (List.nodup_cons.mp hn).1]
    simp only [List.getElem_cons_zero] at hlt
    simp [hlt]
  | x :: xs, a, k, r + 1, hr, hn, hlt => by
    rw [fillFrom_cons]
    simp only [List.getElem_cons_succ] at hlt ⊢
    rw [fillFrom_get xs _ (k + 1) r (by simpa using hr) (List.nodup_cons.mp hn).2 (by simpa using hlt)]
    rw [Nat.add_right_comm, Nat.add_assoc]

theorem fillTable_eq (len : Nat) (ids : List Nat) :
    fillTable len ids =
      if ∀ id ∈ ids, id < len then .ok (fillFrom (Array.replicate len 0) 0 ids) else .error .index := by
  unfold fillTable fillFrom
  simp only [List.all_eq_true, decide_eq_true_eq]

theorem fillTable_ok_iff {len : Nat} {ids : List Nat} :
    (∃ t, fillTable len ids = .ok t) ↔ ∀ id ∈ ids, id < len := by
  rw [fillTable_eq]
  split
  · exact ⟨fun _ => ‹_›, fun _ => ⟨_, rfl⟩⟩
  · exact ⟨fun ⟨_, ht⟩ => (nomatch ht), fun h => absurd h ‹_›⟩

theorem fillTable_error_iff {len : Nat} {ids : List Nat} :
    fillTable len ids = .error .index ↔ ∃ id ∈ ids, len ≤ id := by
  rw [fillTable_eq]
  split
  · rename_i hall
    exact ⟨fun h => (nomatch h), fun ⟨id, hid, hle⟩ => absurd (hall id hid) (Nat.not_lt.mpr hle)⟩
  · rename_i hnot
    push Not at hnot
    exact ⟨fun _ => hnot, fun _ => rfl⟩

theorem fillTable_get {len : Nat} {ids : List Nat} {t : Array Nat} (h : fillTable len ids = .ok t)
    (hn : ids.Nodup) : t.size = len ∧ ∀ r (hr : r < ids.length), t[ids[r]]? = some r := by
  have hall : ∀ id ∈ ids, id < len := fillTable_ok_iff.mp ⟨t, h⟩
  rw [fillTable_eq, if_pos hall, Except.ok.injEq] at h
  subst h
  refine ⟨by rw [size_fillFrom]; simp, fun r hr => ?_⟩
  simpa using fillFrom_get ids (Array.replicate len 0) 0 r hr hn (by simpa using hall _ (List.getElem_mem hr))

/-! ### the constructor -/

section ctor
variable {α : Type} [Zero α]

/-- what the constructor returns once the id → rank table `table` is filled -/
def RM.fresh (p : Policy) (n limit : Nat) (plus : Bool) (table : Array Nat) : RM α :=
  let m := numCoalitions n
  let R := coalitionsBelow m (p.storedLimit m limit)
  { n := n, m := m, limit := p.storedLimit m limit, plus := plus, rankToId := metaIds m limit,
    idToRank := table, R := R, pidMap := coalitionPlayerIdMap n, regret := zeros2 R m, strategy := zeros2 R m,
    iteration := 0 }

/-- the only step of the constructor that can fail for `n ≥ 2` is the table fill -/
theorem new_eq (p : Policy) {n : Nat} (hn : 2 ≤ n) (limit : Nat) (plus : Bool) :
    RM.new (α := α) p n limit plus =
      (fillTable (p.tableLen (metaIds (numCoalitions n) limit)) (metaIds (numCoalitions n) limit)).map
        (RM.fresh p n limit plus) := by
  unfold RM.new
  simp only [Nat.not_lt.mpr hn, if_false, metaIdsArr_eq, bind, Except.bind]
  cases fillTable (p.tableLen (metaIds (numCoalitions n) limit)) (metaIds (numCoalitions n) limit) <;> rfl

/-- `n ≥ 2` because numpy rejects the negative shape otherwise; after `rfl` for `rm` every field reduces -/
theorem new_ok {p : Policy} {n limit : Nat} {plus : Bool} {rm : RM α}
    (h : RM.new (α := α) p n limit plus = .ok rm) :
    2 ≤ n ∧ ∃ t, fillTable (p.tableLen (metaIds (numCoalitions n) limit)) (metaIds (numCoalitions n) limit) = .ok t ∧
      rm = RM.fresh p n limit plus t := by
  have hn : 2 ≤ n := by
    by_contra hcon
    unfold RM.new at h
    rw [if_pos (Nat.lt_of_not_le hcon)] at h
    cases h
  rw [new_eq p hn] at h
  cases hf : fillTable (p.tableLen (metaIds (numCoalitions n) limit)) (metaIds (numCoalitions n) limit) with
  | error e => rw [hf] at h; cases h
  | ok t => rw [hf] at h; exact ⟨hn, t, rfl, (Except.ok.inj h).symm⟩

theorem rankOf_of_table {rm : RM α} {id r : Nat} (h : rm.idToRank[id]? = some r) : rm.rankOf id = .ok r := by
  unfold RM.rankOf
  rw [h]

theorem fresh_rank_id {p : Policy} {n limit : Nat} {plus : Bool} {t : Array Nat}
    (ht : fillTable (p.tableLen (metaIds (numCoalitions n) limit)) (metaIds (numCoalitions n) limit) = .ok t)
    (r : Nat) (hr : r < (RM.fresh (α := α) p n limit plus t).rankToId.length) :
    (RM.fresh (α := α) p n limit plus t).rankOf (RM.fresh (α := α) p n limit plus t).rankToId[r] = .ok r :=
  rankOf_of_table ((fillTable_get ht (metaIds_nodup _ _)).2 r hr)

end ctor

end ICG.Regret

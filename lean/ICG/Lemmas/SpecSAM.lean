/-
  ICG.Lemmas.SpecSAM — the mathematics of the SAM sequence `samB` / `samUp` of `ICG.Spec.Bounds`
  (property C04, and C07 for the SAM bounds), for every number of players `n`, every number of
  repetitions `r` and every linearly ordered commutative group of values.

  Throughout: `v` is the true game (`SA n v`, `MonoDec n v`), the partial game's values are `v`'s
  (`Refine.samB_congr` in `SpecBasic`, `samUp_congr`: only the values at known masks are read), `known` satisfies `MinInfo`.
  No theorem here needs `v 0 = 0`: `SA` alone gives `v 0 ≤ 0`, which is all the extra candidate
  `samB i c + v 0` requires.

  Soundness (`sam_sound`), tighter than the superadditive bounds (`lo_le_samB`, `samUp_le_upSpec`), shape
  of the bounds, and monotonicity: more knowledge and more rounds only tighten (`samS_samB_mono`,
  `samUp_anti`).
  `namespace SAMExample` at the end: the 3-player game `v c = −min(2, |c|)` with minimal information, on
  which the `samT` tables of `BoundsCommon` are built.
-/
import ICG.Lemmas.SpecSplit
import Mathlib.Algebra.Order.Group.Int

namespace ICG
open SpecSA (KnownLe)
variable {α : Type} [AddCommGroup α] [LinearOrder α] [IsOrderedAddMonoid α]

/-- the vector the monotone closure is applied to in round `i` -/
def samS (n : Nat) (known : Nat → Bool) (v : Nat → α) : Nat → Nat → α
  | 0 => loSpec known v
  | i + 1 => splitSpec known v (fun c => [samB n known v i c + v 0])

omit [IsOrderedAddMonoid α] in
theorem samB_eq (n : Nat) (known : Nat → Bool) (v : Nat → α) (i : Nat) :
    samB n known v i = closeSpec n known v (samS n known v i) := by
  cases i <;> rfl

/-- the extra candidates of round `i` -/
def samExtra (n : Nat) (known : Nat → Bool) (v : Nat → α) : Nat → Nat → List α
  | 0 => fun _ => []
  | i + 1 => fun c => [samB n known v i c + v 0]

omit [IsOrderedAddMonoid α] in
theorem samS_eq (n : Nat) (known : Nat → Bool) (v : Nat → α) (i : Nat) :
    samS n known v i = splitSpec known v (samExtra n known v i) := by
  cases i <;> rfl

omit [IsOrderedAddMonoid α] in
theorem samS_known {n : Nat} {known : Nat → Bool} {v : Nat → α} {i c : Nat}
    (hk : known c = true) : samS n known v i c = v c := by
  rw [samS_eq, splitSpec_known hk]

set_option linter.unusedSectionVars false in
theorem samCands_ne_nil {n : Nat} {known : Nat → Bool} (hmi : MinInfo n known) (v : Nat → α)
    (extra : Nat → List α) {c : Nat} (hc : c < 2 ^ n) (hk : known c = false) :
    splitCands known v extra c ≠ [] := by
  obtain ⟨x, hx⟩ := exists_properSub hmi hc hk
  exact splitCands_ne_nil hx

omit [IsOrderedAddMonoid α] in
theorem samS_le_samB {n : Nat} {known : Nat → Bool} {v : Nat → α} (i : Nat) {c : Nat}
    (hc : c < 2 ^ n) : samS n known v i c ≤ samB n known v i c := by
  cases hk : known c with
  | true => rw [samS_known hk, samB_known hk]
  | false =>
    rw [samB_eq]
    exact (closeSpec_unknown hc hk).2 c hc (Nat.and_self c)

/-! ### soundness -/

section sound
variable {n : Nat} {known : Nat → Bool} {v : Nat → α}

theorem samS_le_samB_le (hsa : SA n v) (hmd : MonoDec n v) (i : Nat) :
    (∀ c, c < 2 ^ n → samS n known v i c ≤ v c) ∧ (∀ c, c < 2 ^ n → samB n known v i c ≤ v c) := by
  induction i with
  | zero =>
    have h : ∀ c, c < 2 ^ n → samS n known v 0 c ≤ v c := by
      rw [samS_eq]
      exact splitSpec_le hsa (fun c _ _ e he => by simp [samExtra] at he)
    exact ⟨h, by rw [samB_eq]; exact closeSpec_le hmd h⟩
  | succ i ih =>
    have h : ∀ c, c < 2 ^ n → samS n known v (i + 1) c ≤ v c := by
      rw [samS_eq]
      refine splitSpec_le hsa (fun c hc _ e he => ?_)
      simp only [samExtra, List.mem_singleton] at he
      rw [he]
      exact add_le_of_le_of_nonpos (ih.2 c hc) hsa.zero_nonpos
    exact ⟨h, by rw [samB_eq]; exact closeSpec_le hmd h⟩

theorem samB_le (hsa : SA n v) (hmd : MonoDec n v) (r : Nat) {c : Nat} (hc : c < 2 ^ n) :
    samB n known v r c ≤ v c := (samS_le_samB_le hsa hmd r).2 c hc

theorem le_samUp (hsa : SA n v) (hmd : MonoDec n v) (hmi : MinInfo n known) (r : Nat) {c : Nat}
    (hc : c < 2 ^ n) : v c ≤ samUp n known v r c := by
  cases hk : known c with
  | true => rw [samUp_known hk]
  | false =>
    rcases (samUp_least (v := v) (r := r) hmi hc hk).1 with ⟨T, hT, h⟩ | ⟨x, hx, h⟩
    · rw [h]
      obtain ⟨hT1, hsub, _, _⟩ := mem_knownSupers_iff.mp hT
      have h1 : v c + v (T - c) ≤ v T := hsa.split_le hT1 hsub
      have h2 : samB n known v r (T - c) ≤ v (T - c) := samB_le hsa hmd r (Nat.sub_lt_of_lt hT1)
      exact le_trans (le_sub_iff_add_le.mpr h1) (sub_le_sub_left h2 _)
    · rw [h]
      obtain ⟨hsub, _, _, _⟩ := mem_knownSubs_iff.mp hx
      exact hmd x c hc hsub

/-- C04 soundness: `samB r c ≤ v c ≤ samUp r c` -/
theorem sam_sound (hsa : SA n v) (hmd : MonoDec n v) (hmi : MinInfo n known) (r : Nat) {c : Nat}
    (hc : c < 2 ^ n) : samB n known v r c ≤ v c ∧ v c ≤ samUp n known v r c :=
  ⟨samB_le hsa hmd r hc, le_samUp hsa hmd hmi r hc⟩

theorem samB_le_samUp (hsa : SA n v) (hmd : MonoDec n v) (hmi : MinInfo n known) (r : Nat) {c : Nat}
    (hc : c < 2 ^ n) : samB n known v r c ≤ samUp n known v r c :=
  le_trans (samB_le hsa hmd r hc) (le_samUp hsa hmd hmi r hc)

omit [IsOrderedAddMonoid α] in
theorem sam_width_zero_of_known (r : Nat) {c : Nat} (hk : known c = true) :
    samUp n known v r c - samB n known v r c = 0 := by
  rw [samUp_known hk, samB_known hk, sub_self]

set_option linter.unusedSectionVars false in
theorem sam_width_zero_of_all_known (hall : ∀ c, c < 2 ^ n → known c = true) (r : Nat) :
    ∀ c, c < 2 ^ n → samUp n known v r c - samB n known v r c = 0 :=
  fun c hc => sam_width_zero_of_known r (hall c hc)

end sound

/-! ### tighter than the superadditive bounds -/

section tighter
variable {n : Nat} {known : Nat → Bool} {v : Nat → α}

theorem lo_le_samS (hsa : SA n v) (hmi : MinInfo n known) (i : Nat) {c : Nat} (hc : c < 2 ^ n) :
    loSpec known v c ≤ samS n known v i c := by
  rw [samS_eq]
  refine splitSpec_mono (KnownLe.refl _) ?_ hmi ?_ c hc
  · exact splitSpec_le hsa (fun c _ _ e he => by simp at he)
  · intro c _ _ e he; simp at he

theorem lo_le_samB (hsa : SA n v) (hmi : MinInfo n known) (r : Nat) {c : Nat} (hc : c < 2 ^ n) :
    loSpec known v c ≤ samB n known v r c :=
  le_trans (lo_le_samS hsa hmi r hc) (samS_le_samB r hc)

theorem samUp_le_upSpec (hsa : SA n v) (hmi : MinInfo n known) (r : Nat) {c : Nat} (hc : c < 2 ^ n) :
    samUp n known v r c ≤ upSpec n known v c := by
  cases hk : known c with
  | true => rw [samUp_known hk, show upSpec n known v c = v c from upAgainst_known hk]
  | false =>
    obtain ⟨m, hm⟩ := exists_min_knownSupers hmi hc hk fun T => v T - loSpec known v (T - c)
    rw [show upSpec n known v c = m from upAgainst_of_min hk hm]
    obtain ⟨T, hT, hTe⟩ := List.mem_map.mp (listMin?_mem hm)
    rw [← hTe]
    obtain ⟨hT1, _, _, _⟩ := mem_knownSupers_iff.mp hT
    exact le_trans ((samUp_least (v := v) (r := r) hmi hc hk).2.1 T hT)
      (sub_le_sub_left (lo_le_samB hsa hmi r (Nat.sub_lt_of_lt hT1)) _)

end tighter

/-! ### lower bounds antitone along inclusion, upper caps -/

section shape
variable {n : Nat} {known : Nat → Bool} {v : Nat → α}

theorem samB_antitone (hsa : SA n v) (hmd : MonoDec n v) (r : Nat) {x c : Nat} (hsub : x &&& c = x)
    (hc : c < 2 ^ n) : samB n known v r c ≤ samB n known v r x := by
  have hx : x < 2 ^ n := sub_lt_two_pow hsub hc
  cases hkx : known x with
  | true =>
    rw [samB_known hkx]
    exact le_trans (samB_le hsa hmd r hc) (hmd x c hc hsub)
  | false =>
    obtain ⟨_, hubx⟩ := closeSpec_unknown (v := v) (A := samS n known v r) hx hkx
    rw [← samB_eq] at hubx
    cases hkc : known c with
    | true =>
      have h := hubx c hc hsub
      rwa [samS_known hkc, ← samB_known (n := n) (v := v) (i := r) hkc] at h
    | false =>
      obtain ⟨⟨T, hT, hcT, heq⟩, _⟩ := closeSpec_unknown (v := v) (A := samS n known v r) hc hkc
      rw [← samB_eq] at heq
      rw [heq]
      exact hubx T hT (sub_trans hsub hcT)

omit [IsOrderedAddMonoid α] in
theorem samUp_le_sub (hmi : MinInfo n known) (r : Nat) {c x : Nat} (hc : c < 2 ^ n)
    (hk : known c = false) (hsub : x &&& c = x) (hx0 : x ≠ 0) (hxc : x ≠ c) (hkx : known x = true) :
    samUp n known v r c ≤ v x :=
  (samUp_least (v := v) (r := r) hmi hc hk).2.2 x (mem_knownSubs_iff.mpr ⟨hsub, hx0, hxc, hkx⟩)

omit [IsOrderedAddMonoid α] in
theorem samUp_le_super (hmi : MinInfo n known) (r : Nat) {c T : Nat} (hc : c < 2 ^ n)
    (hk : known c = false) (hT : T < 2 ^ n) (hsub : c &&& T = c) (hTc : T ≠ c)
    (hkT : known T = true) : samUp n known v r c ≤ v T - samB n known v r (T - c) :=
  (samUp_least (v := v) (r := r) hmi hc hk).2.1 T (mem_knownSupers_iff.mpr ⟨hT, hsub, hTc, hkT⟩)

end shape

/-! ### monotone in the number of repetitions and in knowledge -/

section mono
variable {n : Nat} {known known' : Nat → Bool} {v : Nat → α}

/-- more knowledge and `d` more rounds never lower a stage of the sequence -/
theorem samS_samB_mono (hsa : SA n v) (hmd : MonoDec n v) (hmi' : MinInfo n known')
    (hkn : KnownLe known known') (d : Nat) : ∀ i,
    (∀ c, c < 2 ^ n → samS n known v i c ≤ samS n known' v (i + d) c) ∧
    (∀ c, c < 2 ^ n → samB n known v i c ≤ samB n known' v (i + d) c) := by
  have close : ∀ i j, (∀ c, c < 2 ^ n → samS n known v i c ≤ samS n known' v j c) →
      (∀ c, c < 2 ^ n → samB n known v i c ≤ samB n known' v j c) := by
    intro i j h c hc
    rw [samB_eq, samB_eq]
    refine closeSpec_mono hkn (fun c hc => ?_) h c hc
    rw [← samB_eq]; exact samB_le hsa hmd i hc
  have split : ∀ i j, (∀ c, c < 2 ^ n → known' c = false →
        ∀ e ∈ samExtra n known v i c, ∃ e' ∈ samExtra n known' v j c, e ≤ e') →
      (∀ c, c < 2 ^ n → samS n known v i c ≤ samS n known' v j c) := by
    intro i j h c hc
    rw [samS_eq, samS_eq]
    refine splitSpec_mono hkn (fun c hc => ?_) hmi' h c hc
    rw [← samS_eq]; exact (samS_le_samB_le hsa hmd i).1 _ hc
  intro i
  induction i with
  | zero =>
    have h := split 0 (0 + d) (fun c _ _ e he => absurd he List.not_mem_nil)
    exact ⟨h, close 0 _ h⟩
  | succ i ih =>
    have h := split (i + 1) (i + 1 + d) (fun c hc _ e he => by
      rw [Nat.add_right_comm]
      simp only [samExtra, List.mem_singleton] at he ⊢
      exact ⟨_, rfl, by rw [he]; exact add_le_add (ih.2 c hc) le_rfl⟩)
    exact ⟨h, close _ _ h⟩

theorem samB_mono_rep (hsa : SA n v) (hmd : MonoDec n v) (hmi : MinInfo n known) {r r' : Nat}
    (hr : r ≤ r') {c : Nat} (hc : c < 2 ^ n) : samB n known v r c ≤ samB n known v r' c := by
  have := (samS_samB_mono hsa hmd hmi (KnownLe.refl _) (r' - r) r).2 c hc
  rwa [Nat.add_sub_cancel' hr] at this

theorem samB_mono_known (hsa : SA n v) (hmd : MonoDec n v) (hmi' : MinInfo n known')
    (hkn : KnownLe known known') (r : Nat) {c : Nat} (hc : c < 2 ^ n) :
    samB n known v r c ≤ samB n known' v r c :=
  (samS_samB_mono hsa hmd hmi' hkn 0 r).2 c hc

/-- the upper bound only shrinks when knowledge grows and the lower bounds it reads grow -/
theorem samUp_anti (hsa : SA n v) (hmd : MonoDec n v) (hmi : MinInfo n known)
    (hmi' : MinInfo n known') (hkn : KnownLe known known') {r r' : Nat}
    (hB : ∀ c, c < 2 ^ n → samB n known v r c ≤ samB n known' v r' c) {c : Nat}
    (hc : c < 2 ^ n) : samUp n known' v r' c ≤ samUp n known v r c := by
  cases hk' : known' c with
  | true => rw [samUp_known hk']; exact le_samUp hsa hmd hmi r hc
  | false =>
    have hk := unknown_of_le hkn hk'
    obtain ⟨_, hsup', hsub'⟩ := samUp_least (v := v) (r := r') hmi' hc hk'
    rcases (samUp_least (v := v) (r := r) hmi hc hk).1 with ⟨T, hT, h⟩ | ⟨x, hx, h⟩
    · rw [h]
      obtain ⟨hT1, hT2, hT3, hT4⟩ := mem_knownSupers_iff.mp hT
      exact le_trans (hsup' T (mem_knownSupers_iff.mpr ⟨hT1, hT2, hT3, hkn T hT4⟩))
        (sub_le_sub_left (hB (T - c) (Nat.sub_lt_of_lt hT1)) _)
    · rw [h]
      obtain ⟨hx1, hx2, hx3, hx4⟩ := mem_knownSubs_iff.mp hx
      exact hsub' x (mem_knownSubs_iff.mpr ⟨hx1, hx2, hx3, hkn x hx4⟩)

theorem sam_mono_rep (hsa : SA n v) (hmd : MonoDec n v) (hmi : MinInfo n known) {r r' : Nat}
    (hr : r ≤ r') {c : Nat} (hc : c < 2 ^ n) :
    samB n known v r c ≤ samB n known v r' c ∧ samUp n known v r' c ≤ samUp n known v r c :=
  ⟨samB_mono_rep hsa hmd hmi hr hc,
   samUp_anti hsa hmd hmi hmi (KnownLe.refl _) (fun _ hc => samB_mono_rep hsa hmd hmi hr hc) hc⟩

theorem sam_mono_known (hsa : SA n v) (hmd : MonoDec n v) (hmi : MinInfo n known)
    (hmi' : MinInfo n known') (hkn : KnownLe known known') (r : Nat) {c : Nat}
    (hc : c < 2 ^ n) :
    samB n known v r c ≤ samB n known' v r c ∧ samUp n known' v r c ≤ samUp n known v r c :=
  ⟨samB_mono_known hsa hmd hmi' hkn r hc,
   samUp_anti hsa hmd hmi hmi' hkn (fun _ hc => samB_mono_known hsa hmd hmi' hkn r hc) hc⟩

end mono

section congr
variable {n : Nat} {known : Nat → Bool} {val val' : Nat → α}

set_option linter.unusedSectionVars false in
theorem samUp_congr (hmi : MinInfo n known)
    (hval : ∀ c, c < 2 ^ n → known c = true → val c = val' c) (r : Nat) {c : Nat} (hc : c < 2 ^ n) :
    samUp n known val r c = samUp n known val' r c :=
  Refine.samUp_congr hmi hval r c hc

end congr

/-! ### a concrete instance: the hypotheses are satisfiable

  Three players, `v c = −min(2, |c|)` over `Int`, minimal information. -/

namespace SAMExample

def v : Nat → Int
  | 0 => 0
  | 1 | 2 | 4 => -1
  | _ => -2

def known (c : Nat) : Bool := c == 0 || c == 1 || c == 2 || c == 4 || c == 7

/-- a strictly more informed knowledge pattern (the pair `{0,1}` revealed) -/
def known' (c : Nat) : Bool := known c || c == 3

theorem sa : SA 3 v := by
  have h : ∀ a, a < 2 ^ 3 → ∀ b, b < 2 ^ 3 → a &&& b = 0 → v a + v b ≤ v (a ||| b) := by decide
  exact fun a b ha hb hab => h a ha b hb hab

theorem monoDec : MonoDec 3 v := by
  have h : ∀ c, c < 2 ^ 3 → ∀ x, x < 2 ^ 3 → x &&& c = x → v c ≤ v x := by decide
  exact fun x c hc hx => h c hc x (sub_lt_two_pow hx hc) hx

theorem minInfo : MinInfo 3 known := by
  refine ⟨by decide, by decide, ?_⟩
  have h : ∀ i, i < 3 → known (2 ^ i) = true := by decide
  exact h

theorem minInfo' : MinInfo 3 known' := by
  refine ⟨by decide, by decide, ?_⟩
  have h : ∀ i, i < 3 → known' (2 ^ i) = true := by decide
  exact h

theorem known_le : KnownLe known known' := by
  intro c h; simp [known', h]

/-- the unknown pair `{0,2}` (mask 5) -/
example : known 5 = false ∧ known' 5 = false := by decide

example (r : Nat) : samB 3 known v r 5 ≤ v 5 ∧ v 5 ≤ samUp 3 known v r 5 :=
  sam_sound sa monoDec minInfo r (by decide)

example (r : Nat) : loSpec known v 5 ≤ samB 3 known v r 5 ∧ samUp 3 known v r 5 ≤ upSpec 3 known v 5 :=
  ⟨lo_le_samB sa minInfo r (by decide), samUp_le_upSpec sa minInfo r (by decide)⟩

example : samB 3 known v 1 5 ≤ samB 3 known v 4 5 ∧ samUp 3 known v 4 5 ≤ samUp 3 known v 1 5 :=
  sam_mono_rep sa monoDec minInfo (by decide) (by decide)

example (r : Nat) : samB 3 known v r 7 ≤ samB 3 known v r 5 :=
  samB_antitone sa monoDec r (by decide) (by decide)

example (r : Nat) : samUp 3 known v r 5 ≤ v 4 ∧ samUp 3 known v r 5 ≤ v 7 - samB 3 known v r (7 - 5) :=
  ⟨samUp_le_sub minInfo r (by decide) (by decide) (by decide) (by decide) (by decide) (by decide),
   samUp_le_super minInfo r (by decide) (by decide) (by decide) (by decide) (by decide) (by decide)⟩

example (r : Nat) :
    samB 3 known v r 5 ≤ samB 3 known' v r 5 ∧ samUp 3 known' v r 5 ≤ samUp 3 known v r 5 :=
  sam_mono_known sa monoDec minInfo minInfo' known_le r (by decide)

example (r : Nat) : samB 3 known v r 5 ≤ samUp 3 known v r 5 :=
  samB_le_samUp sa monoDec minInfo r (by decide)

/-- in this game the lower bound at the unknown pair `{0,2}` equals the true value `−2` in every
    round: `−2 = v 1 + v 4 ≤ loSpec 5 ≤ samB r 5 ≤ v 5 = −2` -/
example (r : Nat) : samB 3 known v r 5 = -2 := by
  apply le_antisymm
  · exact samB_le sa monoDec r (by decide)
  · refine le_trans ?_ (lo_le_samB sa minInfo r (by decide))
    have h5 : known 5 = false := by decide
    have hx : 1 ∈ properSubs 5 := mem_properSubs.mpr (by decide)
    have := (splitSpec_unknown (v := v) (extra := fun _ => []) h5 (splitCands_ne_nil hx)).2 _
      (mem_splitCands.mpr (Or.inr ⟨1, hx, rfl⟩))
    rw [splitSpec_known (by decide), splitSpec_known (by decide)] at this
    exact this

end SAMExample

end ICG

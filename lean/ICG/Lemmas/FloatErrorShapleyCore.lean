/-
  ICG.Lemmas.FloatErrorShapleyCore — the functions of ICG.Model.Shapley with every arithmetic operation replaced by an
  ARBITRARY binary function (`add' sub' mul' div'`): the same operations in the same order, the same `Except Err`
  plumbing.  Behind ICG.Props.FloatErrorShapley: the relation `RaiseAlike` with its rules for `bind` and `mapE`; the
  error of a rounded left fold (`sumOps`, `foldl_error`); what the rounded functions return on a game that answers
  (`phiApprox`); the coefficients of one player sum to `n!` (`sum_coef`); and `OpsErr` (absolute error `≤ δ` on the
  operations performed) with the bound `B n δ` on one rounded Shapley value (`phiApprox_error_on`).
-/
import ICG.Lemmas.ShapleyBridge
import ICG.Lemmas.ShapleyOrderings
import ICG.Lemmas.Rounding
import ICG.Lemmas.ListSum
import Mathlib.Data.List.TakeWhile
import Mathlib.Algebra.Order.Group.Abs
import Mathlib.Algebra.Order.Ring.Abs
import Mathlib.Algebra.Order.Field.Basic
import Mathlib.Tactic.Linarith
import Mathlib.Tactic.Ring
import Mathlib.Algebra.BigOperators.Ring.List

namespace ICG.ApproxShapley
open ICG ICG.Rounding Finset

section defs
variable {α : Type}

/-- Python's `sum(l)`: left to right from `0`, every `+` replaced by `add'`. -/
def sumApprox [Zero α] (add' : α → α → α) (l : List α) : α := l.foldl add' 0

/-- the operand pairs of the additions performed by `l.foldl add' z`, in order -/
def sumOps (add' : α → α → α) : α → List α → List (α × α)
  | _, [] => []
  | z, x :: l => (z, x) :: sumOps add' (add' z x) l

/-- the products `coef * (with − without)` of `_shapley_value_for_player`, rounded: one `sub'` and one
    `mul'` per term (the integer coefficient is converted exactly: it is `≤ n!`, far below `2^53` for
    every `n` the package can enumerate). -/
def shapleyTermsApprox [NatCast α] (sub' mul' : α → α → α) (cs : List Nat)
    (valuesWith valuesWithout : List α) : List α :=
  zipWith3' (fun (cont : Nat) (vw vo : α) => mul' (cont : α) (sub' vw vo)) cs valuesWith valuesWithout

/-- `shapleyCore` in rounded arithmetic: the terms `mul' coef (sub' with without)`, summed from `0` with
    `add'`, ONE final `div'` by `n!`.  The reads from the game, the coefficient lookup and hence every
    raising path are those of `shapleyCore`. -/
def shapleyCoreApprox [Zero α] [NatCast α] (add' sub' mul' div' : α → α → α) (n : Nat)
    (getValues : GetValues α) (single : Nat) (coefs : List Nat) (nFac : Nat) : Except Err α := do
  let without ← Table.fromiter (excludeCoalition single (allCoalitions n)) (2 ^ (n - 1))
  let withP := without.map (fun c => c ||| single)
  let valuesWithout ← getValues without
  let valuesWith ← getValues withP
  let cs ← lookupCoefs coefs (without.map size)
  .ok (div' (sumApprox add' (shapleyTermsApprox sub' mul' cs valuesWith valuesWithout)) (nFac : α))

def shapleyForPlayerApprox [Zero α] [NatCast α] (add' sub' mul' div' : α → α → α) (n : Nat)
    (getValues : GetValues α) (i : Nat) : Except Err α :=
  shapleyCoreApprox add' sub' mul' div' n getValues (fromPlayers [i]) (contributions n) (fact n)

def shapleyApprox [Zero α] [NatCast α] (add' sub' mul' div' : α → α → α) (n : Nat)
    (getValues : GetValues α) : Except Err (List α) :=
  mapE (fun i => shapleyCoreApprox add' sub' mul' div' n getValues (singleton i) (contributions n) (fact n))
    (List.range n)

/-- `exploitability` in rounded arithmetic: the per-player values by `shapleyForPlayerApprox` on the
    max-gain game, summed from `0` with `add'`, one `sub'` of the grand coalition's value.
    `maxGainValues` (`upper*mask + lower*(1 − mask)` with a 0/1 mask) is kept EXACT: in float64 `x*1`,
    `x*0`, `1−0`, `1−1`, `x+0` and `0+x` are exact for finite `x`, so that row is `upper` or `lower`
    without any rounding. -/
def exploitabilityApprox [Add α] [Sub α] [Mul α] [Zero α] [One α] [NatCast α]
    (add' sub' mul' div' : α → α → α) (n : Nat) (lo hi : Nat → α) (grandValue : Except Err α) :
    Except Err α := do
  let phis ← mapE (fun i => shapleyForPlayerApprox add' sub' mul' div' n (maxGainGetValues n i lo hi) i)
    (List.range n)
  let g ← grandValue
  .ok (sub' (sumApprox add' phis) g)

def tableExploitabilityApprox [Add α] [Sub α] [Mul α] [Zero α] [One α] [NatCast α]
    (add' sub' mul' div' : α → α → α) (t : Table α) : Except Err α :=
  exploitabilityApprox add' sub' mul' div' t.n t.lo t.hi (t.getValue (grand t.n))

/-! closed forms of what the rounded functions compute on a game that answers with `v` -/

/-- the coalitions without player `i`, in id order -/
def withoutList (n i : Nat) : List Nat := excludeCoalition (2 ^ i) (allCoalitions n)

def termApprox [NatCast α] (sub' mul' : α → α → α) (n i : Nat) (v : Nat → α) (S : Nat) : α :=
  mul' ((coef n (size S) : Nat) : α) (sub' (v (S ||| 2 ^ i)) (v S))

def numApprox [Zero α] [NatCast α] (add' sub' mul' : α → α → α) (n : Nat) (v : Nat → α) (i : Nat) : α :=
  sumApprox add' ((withoutList n i).map (termApprox sub' mul' n i v))

def phiApprox [Zero α] [NatCast α] (add' sub' mul' div' : α → α → α) (n : Nat) (v : Nat → α) (i : Nat) : α :=
  div' (numApprox add' sub' mul' n v i) ((fact n : Nat) : α)

end defs

/-! ### `Except` plumbing: rounding does not touch the raising paths -/
section plumbing
variable {α : Type}

/-- two computations raise alike: each raises exactly when, and what, the other does -/
def RaiseAlike {β γ : Type} (x' : Except Err β) (x : Except Err γ) : Prop :=
  ∀ e, x' = .error e ↔ x = .error e

theorem RaiseAlike.ok {β γ : Type} {a' : β} {a : γ} : RaiseAlike (.ok a' : Except Err β) (.ok a : Except Err γ) :=
  fun _ => iff_of_false nofun nofun

theorem RaiseAlike.ok_iff {β γ : Type} {x : Except Err β} {y : Except Err γ} (h : RaiseAlike x y) :
    (∃ a, x = .ok a) ↔ (∃ b, y = .ok b) := by
  cases x with
  | error e => rw [(h e).mp rfl]; exact iff_of_false (fun ⟨_, h⟩ => nomatch h) (fun ⟨_, h⟩ => nomatch h)
  | ok a => cases y with
    | error e' => exact absurd ((h e').mpr rfl) nofun
    | ok b => exact iff_of_true ⟨a, rfl⟩ ⟨b, rfl⟩

theorem RaiseAlike.bind {β β' γ γ' : Type} {x : Except Err β} {x' : Except Err β'} {k : β → Except Err γ}
    {k' : β' → Except Err γ'} (hx : RaiseAlike x' x) (hk : ∀ a' a, RaiseAlike (k' a') (k a)) :
    RaiseAlike (x' >>= k') (x >>= k) := by
  intro e
  cases x with
  | error e1 => rw [(hx e1).mpr rfl]; constructor <;> (intro h; cases h; rfl)
  | ok a =>
    cases x' with
    | error e1 => exact absurd ((hx e1).mp rfl) nofun
    | ok a' => exact hk a' a e

theorem RaiseAlike.bind_same {β γ γ' : Type} {x : Except Err β} {k : β → Except Err γ} {k' : β → Except Err γ'}
    (hk : ∀ a, RaiseAlike (k' a) (k a)) : RaiseAlike (x >>= k') (x >>= k) := by
  intro e
  cases x with
  | error e1 => constructor <;> (intro h; cases h; rfl)
  | ok a => exact hk a e

theorem mapE_cons {β γ : Type} (f : β → Except Err γ) (b : β) (l : List β) :
    mapE f (b :: l) = f b >>= fun c => mapE f l >>= fun cs => .ok (c :: cs) := by
  cases h1 : f b <;> cases h2 : mapE f l <;> simp [mapE, h1, h2, bind, Except.bind]

theorem RaiseAlike.mapE {β γ γ' : Type} {f : β → Except Err γ} {f' : β → Except Err γ'} :
    ∀ {l : List β}, (∀ x ∈ l, RaiseAlike (f' x) (f x)) → RaiseAlike (mapE f' l) (mapE f l)
  | [], _ => .ok
  | b :: l, h => by
    rw [mapE_cons, mapE_cons]
    exact .bind (h b List.mem_cons_self) fun _ _ =>
      .bind (RaiseAlike.mapE fun x hx => h x (List.mem_cons_of_mem _ hx)) fun _ _ => .ok

end plumbing

section fold
variable {α : Type} [Field α] [LinearOrder α] [IsStrictOrderedRing α]

theorem foldl_error {ι : Type} {add' : α → α → α} {δ : α} (f' f ε : ι → α) :
    ∀ (l : List ι) (z' z : α), (∀ x ∈ l, |f' x - f x| ≤ ε x) →
      (∀ p ∈ sumOps add' z' (l.map f'), |add' p.1 p.2 - (p.1 + p.2)| ≤ δ) →
      |(l.map f').foldl add' z' - (l.map f).foldl (· + ·) z|
        ≤ |z' - z| + (l.map ε).sum + (l.length : α) * δ
  | [], z', z, _, _ => by simp
  | x :: l, z', z, hε, hadd => by
    have ih := foldl_error f' f ε l (add' z' (f' x)) (z + f x)
      (fun y hy => hε y (List.mem_cons_of_mem _ hy)) (fun p hp => hadd p (by simp [sumOps, hp]))
    have h := abs_add_error (hadd (z', f' x) (by simp [sumOps])) (le_refl |z' - z|) (hε x (by simp))
    simp only [List.map_cons, List.foldl_cons, List.sum_cons, List.length_cons, Nat.cast_succ]
    linear_combination ih + h

end fold

section ok
variable {α : Type} [Field α]

theorem length_withoutList {n i : Nat} (hi : i < n) : (withoutList n i).length = 2 ^ (n - 1) :=
  length_exclude hi

theorem mem_withoutList {n i S : Nat} : S ∈ withoutList n i ↔ S < 2 ^ n ∧ S.testBit i = false :=
  mem_exclude

theorem shapleyCoreApprox_ok (add' sub' mul' div' : α → α → α) {n i : Nat} (hi : i < n)
    (g : GetValues α) (v : Nat → α) (hg : Answers n g v) :
    shapleyCoreApprox add' sub' mul' div' n g (2 ^ i) (contributions n) (fact n)
      = .ok (phiApprox add' sub' mul' div' n v i) := by
  unfold shapleyCoreApprox
  have hfrom := fromiter_exclude hi
  have hwo := hg (excludeCoalition (2 ^ i) (allCoalitions n)) (fun c hc => (mem_exclude.mp hc).1)
  have hwi := hg ((excludeCoalition (2 ^ i) (allCoalitions n)).map (fun c => c ||| 2 ^ i)) (by
    intro c hc
    obtain ⟨d, hd, rfl⟩ := List.mem_map.mp hc
    exact setBit_lt hi (mem_exclude.mp hd).1)
  have hco := lookupCoefs_ok n ((excludeCoalition (2 ^ i) (allCoalitions n)).map size) (by
    intro k hk
    obtain ⟨d, hd, rfl⟩ := List.mem_map.mp hk
    exact size_lt_of_not_mem hi (mem_exclude.mp hd).1 (mem_exclude.mp hd).2)
  simp only [hfrom, hwo, hwi, hco, bind, Except.bind, List.map_map]
  congr 1
  unfold phiApprox numApprox shapleyTermsApprox withoutList
  have := zipWith3'_map (fun (cont : Nat) (vw vo : α) => mul' (cont : α) (sub' vw vo))
    (coef n ∘ size) (v ∘ fun c => c ||| 2 ^ i) v (excludeCoalition (2 ^ i) (allCoalitions n))
  rw [this]
  rfl

theorem shapleyForPlayerApprox_ok (add' sub' mul' div' : α → α → α) {n i : Nat} (hi : i < n)
    (g : GetValues α) (v : Nat → α) (hg : Answers n g v) :
    shapleyForPlayerApprox add' sub' mul' div' n g i = .ok (phiApprox add' sub' mul' div' n v i) := by
  unfold shapleyForPlayerApprox
  rw [fromPlayers_singleton]
  exact shapleyCoreApprox_ok add' sub' mul' div' hi g v hg

theorem shapleyApprox_ok (add' sub' mul' div' : α → α → α) (n : Nat) (g : GetValues α) (v : Nat → α)
    (hg : Answers n g v) :
    shapleyApprox add' sub' mul' div' n g
      = .ok ((List.range n).map (phiApprox add' sub' mul' div' n v)) := by
  unfold shapleyApprox
  apply mapE_ok
  intro i hi
  exact shapleyCoreApprox_ok add' sub' mul' div' (List.mem_range.mp hi) g v hg

theorem exploitabilityApprox_eq (add' sub' mul' div' : α → α → α) (n : Nat) (lo hi : Nat → α)
    (gv : Except Err α) :
    exploitabilityApprox add' sub' mul' div' n lo hi gv =
      gv.map (fun g => sub' (sumApprox add'
        ((List.range n).map (fun i => phiApprox add' sub' mul' div' n (maxGainValues i lo hi) i))) g) := by
  unfold exploitabilityApprox
  have h := mapE_ok
    (fun i => shapleyForPlayerApprox add' sub' mul' div' n (maxGainGetValues n i lo hi) i)
    (fun i => phiApprox add' sub' mul' div' n (maxGainValues i lo hi) i)
    (List.range n) (by
      intro i hi'
      exact shapleyForPlayerApprox_ok add' sub' mul' div' (List.mem_range.mp hi') _ _
        (answers_maxGain n i lo hi))
  simp only [h, bind, Except.bind]
  cases gv <;> rfl

theorem listSum_withoutList {M : Type} [AddCommMonoid M] (n i : Nat) (f : Nat → M) :
    listSum ((withoutList n i).map f) = ∑ S ∈ (range (2 ^ n)).filter (fun S => S.testBit i = false), f S := by
  unfold withoutList excludeCoalition allCoalitions
  rw [listSum_map_filter_range]
  apply Finset.sum_congr
  · ext x; simp [and_two_pow_eq_zero_iff]
  · intro x _; rfl

theorem phi_eq_listSum (n : Nat) (v : Nat → α) (i : Nat) :
    phi n v i = listSum ((withoutList n i).map
      (fun S => ((coef n (size S) : Nat) : α) * (v (S ||| 2 ^ i) - v S))) / (n.factorial : α) := by
  rw [listSum_withoutList]
  rfl

end ok

section coef
variable {α : Type} [Field α] [CharZero α]

theorem sum_coef {n i : Nat} (hi : i < n) :
    ∑ S ∈ (range (2 ^ n)).filter (fun S => S.testBit i = false), ((coef n (size S) : Nat) : α)
      = (n.factorial : α) := by
  -- the game "is player `i` in?": every marginal contribution of `i` is 1
  let v : Nat → α := fun c => if c.testBit i = true then 1 else 0
  have h := phi_eq_shapleyOrd hi v
  have hn : (n.factorial : α) ≠ 0 := by exact_mod_cast Nat.factorial_ne_zero n
  have hL : phi n v i
      = (∑ S ∈ (range (2 ^ n)).filter (fun S => S.testBit i = false), ((coef n (size S) : Nat) : α))
          / (n.factorial : α) := by
    unfold phi psi
    congr 1
    apply Finset.sum_congr rfl
    intro S hS
    simp only [mem_filter] at hS
    simp only [v]
    rw [if_pos (testBit_setBit_self S i), if_neg (by simp [hS.2])]
    ring
  have hR : shapleyOrd n v i = (n.factorial : α) / (n.factorial : α) := by
    unfold shapleyOrd
    congr 1
    have hm : ∀ σ ∈ (List.range n).permutations, marginal v σ i = (1 : α) := by
      intro σ _
      unfold marginal predMask
      simp only [v]
      rw [if_pos (testBit_setBit_self _ i), if_neg, sub_zero]
      rw [testBit_maskOf]
      have : i ∉ σ.takeWhile (fun x => x != i) := by
        intro hmem
        have := List.mem_takeWhile_imp hmem
        simp at this
      simp [this]
    rw [List.map_congr_left hm]
    simp [List.length_permutations]
  rw [hL, hR, div_left_inj' hn] at h
  exact h

theorem sum_coef_list {n i : Nat} (hi : i < n) :
    ((withoutList n i).map (fun S => ((coef n (size S) : Nat) : α))).sum = (n.factorial : α) := by
  rw [← sum_coef (α := α) hi, ← listSum_eq_sum, listSum_withoutList]

end coef

section error
variable {α : Type} [Field α] [LinearOrder α] [IsStrictOrderedRing α]

/-- the error bound of one rounded Shapley value: `(2 + 2^n / n!)·δ`.
    Each of the `2^(n−1)` terms carries `δ` (its product) plus `coef·δ` (its difference, scaled); the sum
    adds `2^(n−1)·δ`; the coefficients sum to `n!`; the division scales all that by `1/n!` and adds `δ`. -/
def B (n : Nat) (δ : α) : α := (2 + (2 : α) ^ n / (n.factorial : α)) * δ

theorem B_nonneg (n : Nat) {δ : α} (hδ : 0 ≤ δ) : 0 ≤ B n δ :=
  mul_nonneg (add_nonneg zero_le_two (div_nonneg (pow_nonneg zero_le_two n) (Nat.cast_nonneg _))) hδ

/-- absolute error `δ` on the operations `shapleyForPlayerApprox` performs for player `i` of the
    `n`-player game `v`: one subtraction and one multiplication per coalition without `i`, the additions
    of the running sum (operand pairs `sumOps`), one division. -/
structure OpsErr (add' sub' mul' div' : α → α → α) (n : Nat) (v : Nat → α) (i : Nat) (δ : α) : Prop where
  sub : ∀ S, S < 2 ^ n → S.testBit i = false →
    |sub' (v (S ||| 2 ^ i)) (v S) - (v (S ||| 2 ^ i) - v S)| ≤ δ
  mul : ∀ S, S < 2 ^ n → S.testBit i = false →
    |mul' ((coef n (size S) : Nat) : α) (sub' (v (S ||| 2 ^ i)) (v S))
      - ((coef n (size S) : Nat) : α) * sub' (v (S ||| 2 ^ i)) (v S)| ≤ δ
  add : ∀ p ∈ sumOps add' 0 ((withoutList n i).map (termApprox sub' mul' n i v)),
    |add' p.1 p.2 - (p.1 + p.2)| ≤ δ
  div : |div' (numApprox add' sub' mul' n v i) (n.factorial : α)
      - numApprox add' sub' mul' n v i / (n.factorial : α)| ≤ δ

omit [IsStrictOrderedRing α] in
theorem OpsErr.of_forall {add' sub' mul' div' : α → α → α} {δ : α}
    (hadd : ∀ a b, |add' a b - (a + b)| ≤ δ) (hsub : ∀ a b, |sub' a b - (a - b)| ≤ δ)
    (hmul : ∀ a b, |mul' a b - a * b| ≤ δ) (hdiv : ∀ a b, |div' a b - a / b| ≤ δ)
    (n : Nat) (v : Nat → α) (i : Nat) : OpsErr add' sub' mul' div' n v i δ :=
  ⟨fun _ _ _ => hsub _ _, fun _ _ _ => hmul _ _, fun _ _ => hadd _ _, hdiv _ _⟩

/-- one rounded term against the exact one: `δ` for the product, `coef·δ` for the difference -/
theorem term_error {sub' mul' : α → α → α} {n i : Nat} {v : Nat → α} {δ : α} {S : Nat}
    (hsub : |sub' (v (S ||| 2 ^ i)) (v S) - (v (S ||| 2 ^ i) - v S)| ≤ δ)
    (hmul : |mul' ((coef n (size S) : Nat) : α) (sub' (v (S ||| 2 ^ i)) (v S))
      - ((coef n (size S) : Nat) : α) * sub' (v (S ||| 2 ^ i)) (v S)| ≤ δ) :
    |termApprox sub' mul' n i v S - ((coef n (size S) : Nat) : α) * (v (S ||| 2 ^ i) - v S)|
      ≤ δ + ((coef n (size S) : Nat) : α) * δ := by
  have hc : (0 : α) ≤ ((coef n (size S) : Nat) : α) := Nat.cast_nonneg _
  refine (abs_sub_le _ (((coef n (size S) : Nat) : α) * sub' (v (S ||| 2 ^ i)) (v S)) _).trans
    (add_le_add hmul ?_)
  rw [← mul_sub, abs_mul, abs_of_nonneg hc]
  exact mul_le_mul_of_nonneg_left hsub hc

theorem numApprox_error_on {add' sub' mul' div' : α → α → α} {n i : Nat} (hi : i < n) {v : Nat → α}
    {δ : α} (h : OpsErr add' sub' mul' div' n v i δ) :
    |numApprox add' sub' mul' n v i
        - listSum ((withoutList n i).map (fun S => ((coef n (size S) : Nat) : α) * (v (S ||| 2 ^ i) - v S)))|
      ≤ ((2 : α) ^ n + (n.factorial : α)) * δ := by
  have hf := foldl_error (add' := add') (δ := δ) (termApprox sub' mul' n i v)
    (fun S => ((coef n (size S) : Nat) : α) * (v (S ||| 2 ^ i) - v S))
    (fun S => δ + ((coef n (size S) : Nat) : α) * δ) (withoutList n i) 0 0
    (fun S hS => term_error (h.sub S (mem_withoutList.mp hS).1 (mem_withoutList.mp hS).2)
      (h.mul S (mem_withoutList.mp hS).1 (mem_withoutList.mp hS).2))
    h.add
  have hsum : ((withoutList n i).map (fun S => δ + ((coef n (size S) : Nat) : α) * δ)).sum
      = ((withoutList n i).length : α) * δ + (n.factorial : α) * δ := by
    rw [List.sum_map_add, List.sum_map_mul_right, sum_coef_list hi, sum_map_const]
  rw [hsum, length_withoutList hi, sub_self, abs_zero] at hf
  have h2 : ((2 ^ (n - 1) : Nat) : α) * 2 = (2 : α) ^ n := by
    obtain ⟨m, rfl⟩ : ∃ m, n = m + 1 := ⟨n - 1, by omega⟩
    simp only [Nat.add_sub_cancel]
    push_cast
    ring
  unfold numApprox sumApprox listSum
  calc _ ≤ _ := hf
    _ = ((2 : α) ^ n + (n.factorial : α)) * δ := by rw [← h2]; ring

/-- the division scales the numerator's `(2^n + n!)·δ` by `1/n!` and adds its own `δ` -/
theorem phiApprox_error_on {add' sub' mul' div' : α → α → α} {n i : Nat} (hi : i < n) {v : Nat → α}
    {δ : α} (h : OpsErr add' sub' mul' div' n v i δ) :
    |phiApprox add' sub' mul' div' n v i - phi n v i| ≤ B n δ := by
  have hn : (0 : α) < (n.factorial : α) := Nat.cast_pos.mpr (Nat.factorial_pos n)
  have h1 := abs_sub_le (div' (numApprox add' sub' mul' n v i) (n.factorial : α))
    (numApprox add' sub' mul' n v i / (n.factorial : α)) (phi n v i)
  have h2 := div_le_div_of_nonneg_right (numApprox_error_on hi h) hn.le
  rw [← abs_of_pos hn, ← abs_div, sub_div, abs_of_pos hn, ← phi_eq_listSum] at h2
  have h3 : ((2 : α) ^ n + (n.factorial : α)) * δ / (n.factorial : α) = B n δ - δ := by
    unfold B
    rw [mul_div_right_comm, add_div, div_self hn.ne']
    ring
  unfold phiApprox
  rw [fact_eq]
  linear_combination h1 + h.div + h2 + h3

end error

end ICG.ApproxShapley

#print axioms ICG.sum_map_const

/-
  ICG.Lemmas.ComposeSearch — helper lemmas for ICG/Props/Compose.lean, search part (C11, C13 / expected greedy).

  The theorems of C11 (`best_mono`, `ext_of_monotone`) and of Lemmas/ExpectedGreedy (`greedy_mono`,
  `greedy_ge_best`) are stated over an abstract column function / evaluation function with hypotheses
  "monotone under more knowledge", "depends on the set only", "defined", "mean ≠ −1".  Here, with
  `Kof start S` the knowledge `start ∪ S`, `colOf k gap t games q` the per-game gaps of the set `q` (`valOf` of
  `gapOfKnowledge`, which is defined there: `colOf_spec`), `realCands` the candidates of best-states, and
  `Sample k gap side t games` the setting (a gap with `GapFacts`, minimal information, games of the class), those
  hypotheses are discharged for a registered computer: `best_curve_of`, `best_min_of`, `greedy_curve_of`,
  `greedy_ge_best_of`.
-/
import ICG.Lemmas.ComposeCore
import ICG.Lemmas.ExpectedGreedy


namespace ICG.Compose
open ICG Table ICG.Search ICG.BoundsCommon ICG.SpecSA

variable {α : Type}

/-- the knowledge `start ∪ S` as the predicate C11 uses -/
abbrev Kof (start S : List Nat) : Nat → Bool := fun c => decide (c ∈ S ∨ c ∈ start)

/-- the value of a successful call (0 for a raising one; only ever used where the call succeeds) -/
def valOf [Zero α] : Except Err α → α
  | .ok x => x
  | .error _ => 0

theorem Kof_mono {start S T : List Nat} (h : S ⊆ T) : KnownLe (Kof start S) (Kof start T) := fun c hc => by
  simp only [Kof, decide_eq_true_eq] at hc ⊢
  exact hc.imp (fun h' => h h') id

theorem Kof_congr {start S T : List Nat} (h : ∀ c, c ∈ S ↔ c ∈ T) : Kof start S = Kof start T :=
  funext fun c => by simp only [Kof, h c]

def sndE {ε ι ρ : Type} : Except ε (List (ι × ρ)) → Except ε (List ρ)
  | .error e => .error e
  | .ok rs => .ok (rs.map (·.2))

theorem mapE_pair_snd {τ ρ ε ι : Type} (G : τ → Except ε ρ) (q : ι) : ∀ (l : List τ),
    sndE (Search.mapE (fun v => (G v).map (fun g => (q, g))) l) = Search.mapE G l
  | [] => rfl
  | x :: l => by
    have ih := mapE_pair_snd G q l
    simp only [Search.mapE]
    cases hg : G x with
    | error e => rfl
    | ok r =>
      rw [← ih]
      cases Search.mapE (fun v => (G v).map (fun g => (q, g))) l <;> rfl

theorem zip_map_self {ι β : Type} (f : ι → β) : ∀ (l : List ι), l.zip (l.map f) = l.map (fun q => (q, f q))
  | [] => rfl
  | _ :: l => by simp only [List.map_cons, List.zip_cons_cons, zip_map_self f l]

theorem zipWith_map_map {ι β γ δ : Type} (h : β → γ → δ) (a : ι → β) (b : ι → γ) : ∀ (l : List ι),
    List.zipWith h (l.map a) (l.map b) = l.map (fun q => h (a q) (b q))
  | [] => rfl
  | _ :: l => by simp only [List.map_cons, List.zipWith_cons_cons, zipWith_map_map h a b l]

/-- rows (one per game) to columns (one per sequence): a transposition -/
theorem columns_map {β δ ι : Type} (l : List ι) (f : δ → ι → β) : ∀ (gs : List δ),
    columns l.length (gs.map (fun v => l.map (f v))) = l.map (fun q => gs.map (fun v => f v q))
  | [] => by simp [columns]
  | v :: gs => by
    have ih := columns_map l f gs
    simp only [columns, List.map_cons, List.foldr_cons] at ih ⊢
    rw [ih, zipWith_map_map]

theorem cands_eq {β δ ι : Type} (seqs : List ι) (val : δ → ι → β) (games : List δ) :
    seqs.zip (columns seqs.length ((games.map (fun v => seqs.map (fun q => (q, val v q)))).map
      (fun r => r.map (·.2)))) = seqs.map (fun q => (q, games.map (fun v => val v q))) := by
  have : (games.map (fun v => seqs.map (fun q => (q, val v q)))).map (fun r => r.map (·.2)) =
      games.map (fun v => seqs.map (val v)) := by
    rw [List.map_map]
    apply List.map_congr_left
    intro v _
    simp only [Function.comp, List.map_map]
    rfl
  rw [this, columns_map, zip_map_self]

section tables

theorem mem_knownOf {t : Table α} {c : Nat} : c ∈ knownOf t ↔ c < 2 ^ t.n ∧ t.known c = true := by
  simp [knownOf, allCoalitions]

theorem mem_unknownOf {t : Table α} {c : Nat} : c ∈ unknownOf t ↔ c < 2 ^ t.n ∧ t.known c = false := by
  simp [unknownOf, allCoalitions]

theorem unknownOf_nodup (t : Table α) : (unknownOf t).Nodup :=
  List.Nodup.sublist List.filter_sublist List.nodup_range

theorem minInfo_Kof {t : Table α} (hmin : MinInfo t.n t.known) (S : List Nat) :
    MinInfo t.n (Kof (knownOf t) S) := by
  have hp := Nat.two_pow_pos t.n
  refine ⟨?_, ?_, fun i hi => ?_⟩ <;> simp only [Kof, decide_eq_true_eq, mem_knownOf]
  · exact Or.inr ⟨hp, hmin.1⟩
  · exact Or.inr ⟨by omega, hmin.2.1⟩
  · exact Or.inr ⟨Nat.pow_lt_pow_right (by omega) hi, hmin.2.2 i hi⟩

theorem possibleSeqs_inrange {t : Table α} {ko : Option Nat} {q : List Nat}
    (hq : q ∈ possibleSeqs (unknownOf t) ko) : ∀ c ∈ q, c < 2 ^ t.n := fun _ hc =>
  (mem_unknownOf.mp (((C11.enum_mem (unknownOf t) ko q).mp hq).1.subset hc)).1

variable [Zero α]

theorem exactTable_agree {n : Nat} {v : Nat → α} {K : Nat → Bool} (h0 : K 0 = true) :
    (exactTable n v K).Agree v := by
  intro c _ hk
  have : K c = true := by rw [← exactTable_known (v := v) (n := n) h0]; exact hk
  simp [exactTable, this]

theorem exactTable_knownOf_known (t0 : Table α) (h0 : t0.known 0 = true) (v : Nat → α) {c : Nat} (hc : c < 2 ^ t0.n) :
    (exactTable t0.n v (fun c => (knownOf t0).contains c)).known c = t0.known c := by
  rw [Bool.eq_iff_iff]
  simp only [exactTable, Bool.or_eq_true, beq_iff_eq, List.contains_iff_mem, mem_knownOf]
  constructor
  · rintro (rfl | h)
    · exact h0
    · exact h.2
  · exact fun h => Or.inr ⟨hc, h⟩

theorem knownOf_exact (t0 : Table α) (h0 : t0.known 0 = true) (v : Nat → α) :
    knownOf (exactTable t0.n v (fun c => (knownOf t0).contains c)) = knownOf t0 := by
  show (allCoalitions t0.n).filter (fun c => (exactTable t0.n v (fun c => (knownOf t0).contains c)).known c) =
    (allCoalitions t0.n).filter (fun c => t0.known c)
  apply List.filter_congr
  intro c hc
  exact exactTable_knownOf_known t0 h0 v (List.mem_range.mp hc)

theorem unknownOf_exact (t0 : Table α) (h0 : t0.known 0 = true) (v : Nat → α) :
    unknownOf (exactTable t0.n v (fun c => (knownOf t0).contains c)) = unknownOf t0 := by
  show (allCoalitions t0.n).filter (fun c => !(exactTable t0.n v (fun c => (knownOf t0).contains c)).known c) =
    (allCoalitions t0.n).filter (fun c => !t0.known c)
  apply List.filter_congr
  intro c hc
  rw [exactTable_knownOf_known t0 h0 v (List.mem_range.mp hc)]

end tables

/-! ### the reference quantity `gapOfKnowledge` for a registered computer and a real gap -/

section gok
variable [AddCommGroup α] [LinearOrder α] [IsOrderedAddMonoid α]
variable {k : Computer} {gap : Table α → Except Err α} {side : (Nat → α) → Prop}

theorem exact_computed (k : Computer) {n : Nat} {v : Nat → α} {K : Nat → Bool} (hmin : MinInfo n K)
    (hcl : InClass k n v) :
    ∃ s, k.run (exactTable n v K) = .ok s ∧ Computed (exactTable n v K) s v := by
  have hmi : MinInfo (exactTable n v K).n (exactTable n v K).known := by
    rw [exactTable_known hmin.1]; exact hmin
  obtain ⟨s, h1, h2⟩ := run_sound k (exactTable n v K) hcl.1 hcl.2 hmi (exactTable_agree hmin.1)
  exact ⟨s, h1, hmi, h2⟩

theorem gapOfKnowledge_nonneg_of (hg : GapFacts gap side) {n : Nat} {v : Nat → α} {K : Nat → Bool}
    (hmin : MinInfo n K) (hcl : InClass k n v) (hside : side v) :
    ∃ x, C11.gapOfKnowledge k.run gap n v K = .ok x ∧ 0 ≤ x := by
  obtain ⟨s, h1, hc⟩ := exact_computed k hmin hcl
  obtain ⟨x, hx, h0⟩ := hg.nonneg hside hc
  exact ⟨x, by simp only [C11.gapOfKnowledge, h1, hx], h0⟩

/-- the gap does not increase under more knowledge (C07 `mono_full`) -/
theorem gapOfKnowledge_mono_of (hg : GapFacts gap side) {n : Nat} {v : Nat → α} {K K' : Nat → Bool}
    (hmin : MinInfo n K) (hle : KnownLe K K') (hcl : InClass k n v)
    (hside : side v) :
    ∃ x x', C11.gapOfKnowledge k.run gap n v K = .ok x ∧ C11.gapOfKnowledge k.run gap n v K' = .ok x' ∧
      x' ≤ x ∧ 0 ≤ x' := by
  have hmin' : MinInfo n K' := minInfo_mono hmin hle
  have hmi : MinInfo (exactTable n v K).n (exactTable n v K).known := by
    rw [exactTable_known hmin.1]; exact hmin
  have hmi' : MinInfo (exactTable n v K').n (exactTable n v K').known := by
    rw [exactTable_known hmin'.1]; exact hmin'
  have hkle : KnownLe (exactTable n v K).known (exactTable n v K').known := by
    rw [exactTable_known hmin.1, exactTable_known hmin'.1]; exact hle
  obtain ⟨s, s', h1, h2, h3, h4, h5⟩ := C07.mono_full k (exactTable n v K) (exactTable n v K') v rfl hkle
    (exactTable_agree hmin.1) (exactTable_agree hmin'.1) hcl.1 hcl.2 hmi
  obtain ⟨x, x', hx, hx', hxx⟩ := hg.mono hside ⟨hmi, h4⟩ ⟨hmi', h5⟩ h3
  obtain ⟨y, hy, hy0⟩ := hg.nonneg hside ⟨hmi', h5⟩
  rw [hx'] at hy
  cases hy
  exact ⟨x, x', by simp only [C11.gapOfKnowledge, h1, hx], by simp only [C11.gapOfKnowledge, h2, hx'], hxx, hy0⟩

end gok

/-! ### `get_exploitabilities_of_action_sequence`: one pool task per sampled game -/

section evalseq
variable [Zero α] {γ : Type}
variable (compute : Table α → Except Err (Table α)) (gap : Table α → Except Err γ)

theorem getExploitabilitiesOfSeq_of_stateFree (t : Table α) (games : List (Nat → α)) (seq : List Nat)
    {procs : Nat} (hp : 0 < procs) (g : (Nat → α) → Except Err (List Nat × γ))
    (hsf : StateFree (fun t' v => seqGap compute gap v (knownOf t) t' seq) (fun t' => t'.n = t.n)
      (fun _ => True) g) :
    getExploitabilitiesOfSeq compute gap t games seq procs = sndE (Search.mapE g games) := by
  have hp' : procs ≠ 0 := Nat.ne_of_gt hp
  simp only [getExploitabilitiesOfSeq, starmap, hp', ↓reduceIte]
  rw [runPool_of_stateFree hsf t rfl _ (fun _ _ => trivial), poolChunks_flatten _ hp]
  cases Search.mapE g games <;> rfl

/-- all ids of the sequence are coalitions of the game: every pool task computes `gapOfKnowledge` of its game,
    whatever the chunking (number of processes) and whatever the shared scratch table holds -/
theorem evalSeq_inrange (hn : ∀ t t', compute t = .ok t' → t'.n = t.n) (t : Table α)
    (games : List (Nat → α)) (seq : List Nat) {procs : Nat} (hp : 0 < procs)
    (hr : ∀ c ∈ seq, c < 2 ^ t.n) :
    getExploitabilitiesOfSeq compute gap t games seq procs =
      Search.mapE (fun v => C11.gapOfKnowledge compute gap t.n v (Kof (knownOf t) seq)) games := by
  have hr' : ∀ c, c ∈ seq ∨ c ∈ knownOf t → c < 2 ^ t.n := by
    rintro c (hc | hc)
    · exact hr c hc
    · exact (mem_knownOf.mp hc).1
  rw [getExploitabilitiesOfSeq_of_stateFree compute gap t games seq hp
    (fun v => C11.seqResult compute gap t.n v (knownOf t) seq)
    (fun t' v ht' _ => C11.seqGap_stateFree compute gap hn t.n v (knownOf t) t' seq ht' hr')]
  exact mapE_pair_snd (fun v => C11.gapOfKnowledge compute gap t.n v (Kof (knownOf t) seq)) seq games

/-- an id outside the game: `full_game.get_values` raises IndexError in every task -/
theorem evalSeq_outrange (t : Table α) (games : List (Nat → α)) (seq : List Nat) {procs : Nat}
    (hp : 0 < procs) (hr : ¬ ∀ c ∈ seq, c < 2 ^ t.n) (hne : games ≠ []) :
    getExploitabilitiesOfSeq compute gap t games seq procs = .error .index := by
  rw [getExploitabilitiesOfSeq_of_stateFree compute gap t games seq hp (fun _ => .error .index)]
  · rw [mapE_error_of Err.index games hne]; rfl
  · intro t' v ht' _
    have : ¬ ∀ c ∈ seqIds seq (knownOf t), c < 2 ^ t'.n := by
      intro h
      apply hr
      intro c hc
      rw [← ht']
      exact h c ((mem_seqIds seq (knownOf t) c).mpr (Or.inl hc))
    simp only [seqGap, applySeq, applyIds_err t' v _ this]

theorem evalSeq_nil (t : Table α)
    (seq : List Nat) {procs : Nat} (hp : 0 < procs) :
    getExploitabilitiesOfSeq compute gap t [] seq procs = .ok [] := by
  have hp' : procs ≠ 0 := Nat.ne_of_gt hp
  simp [getExploitabilitiesOfSeq, starmap, hp', poolChunks, chunksOf, chunksGo, runPool]

end evalseq

/-! ### `get_best_exploitability` -/

section rows
variable [Zero α] {γ : Type}
variable (compute : Table α → Except Err (Table α)) (gap : Table α → Except Err γ)

/-- the parent-side loop over the sampled games: one row per game, every row over the SAME enumeration, entry
    `(q, gapOfKnowledge (game) (start ∪ q))` — under the assumption that those quantities are defined
    (`val`), which `gapOfKnowledge_nonneg_of` provides for games of the class.  The idea: after the parent-side
    `applyIds` the scratch table is `exactTable` of the game, whose known / unknown lists are those of `t0`
    (`h0`: `exactTable` makes ∅ known, so `t0` has to know it). -/
theorem sampleRows_ok (hn : ∀ t t', compute t = .ok t' → t'.n = t.n) (ko : Option Nat) {procs : Nat}
    (hp : 0 < procs) (t0 : Table α) (h0 : t0.known 0 = true) (val : (Nat → α) → List Nat → γ)
    (games : List (Nat → α)) (t : Table α) (ht : t.n = t0.n)
    (hval : ∀ v ∈ games, ∀ q ∈ possibleSeqs (unknownOf t0) ko,
      C11.gapOfKnowledge compute gap t0.n v (Kof (knownOf t0) q) = .ok (val v q)) :
    ∃ t', sampleRows compute gap (knownOf t0) ko procs t games =
      .ok (t', games.map (fun v => (possibleSeqs (unknownOf t0) ko).map (fun q => (q, val v q)))) := by
  induction games generalizing t with
  | nil => exact ⟨t, rfl⟩
  | cons v vs ih =>
    have hids : ∀ c ∈ knownOf t0, c < 2 ^ t.n := fun c hc => by rw [ht]; exact (mem_knownOf.mp hc).1
    have hsr := C11.search_result compute gap hn (exactTable t0.n v (fun c => (knownOf t0).contains c)) v ko
      procs hp
    rw [knownOf_exact t0 h0 v, unknownOf_exact t0 h0 v] at hsr
    have hrow : getExploitabilities compute gap (exactTable t0.n v (fun c => (knownOf t0).contains c)) v ko procs
        = .ok ((possibleSeqs (unknownOf t0) ko).map (fun q => (q, val v q))) := by
      rw [hsr]
      apply mapE_ok_of
      intro q hq
      have := hval v List.mem_cons_self q hq
      simp only [C11.seqResult, exactTable]
      rw [this]
      rfl
    obtain ⟨t', ih⟩ := ih (exactTable t0.n v (fun c => (knownOf t0).contains c)) rfl
      (fun w hw => hval w (List.mem_cons_of_mem _ hw))
    refine ⟨t', ?_⟩
    simp only [sampleRows, applyIds_ok t v (knownOf t0) hids, ht, hrow, ih, List.map_cons]

end rows

section best
variable [Field α] [LinearOrder α]
variable (compute : Table α → Except Err (Table α)) (gap : Table α → Except Err α)

theorem getBest_eq (hn : ∀ t t', compute t = .ok t' → t'.n = t.n) {procs : Nat} (hp : 0 < procs)
    (t : Table α) (h0 : t.known 0 = true) (draw : Nat → (Nat → α)) (maxSteps : Nat) {reps : Nat}
    (hreps : 0 < reps) (val : (Nat → α) → List Nat → α)
    (hval : ∀ i, i < reps → ∀ q ∈ possibleSeqs (unknownOf t) (some maxSteps),
      C11.gapOfKnowledge compute gap t.n (draw i) (Kof (knownOf t) q) = .ok (val (draw i) q)) :
    ∃ t', ∀ b, bestStates maxSteps reps ((possibleSeqs (unknownOf t) (some maxSteps)).map
          (fun q => (q, ((List.range reps).map draw).map (fun v => val v q)))) = .ok b →
      getBestExploitability compute gap t draw maxSteps reps procs = .ok (t', b) := by
  -- `max 1 reps`: the first game is sampled unconditionally
  have hmax : max 1 reps = reps := max_eq_right hreps
  obtain ⟨t', hrows⟩ := sampleRows_ok compute gap hn (some maxSteps) hp t h0 val ((List.range reps).map draw) t rfl
    (by
      intro v hv q hq
      obtain ⟨i, hi, rfl⟩ := List.mem_map.mp hv
      exact hval i (List.mem_range.mp hi) q hq)
  refine ⟨t', fun b hb => ?_⟩
  have hreps' : reps ≠ 0 := Nat.ne_of_gt hreps
  revert hb
  simp only [getBestExploitability, sampleExploitabilities, hmax, hrows, hreps', ↓reduceIte]
  cases hg : (List.range reps).map draw with
  | nil => exact absurd (List.range_eq_nil.mp (List.map_eq_nil_iff.mp hg)) hreps'
  | cons g0 gs =>
    have hact : ((possibleSeqs (unknownOf t) (some maxSteps)).map (fun q => (q, val g0 q))).map (·.1) =
        possibleSeqs (unknownOf t) (some maxSteps) := by
      rw [List.map_map]; exact List.map_id _
    simp only [List.map_cons, hact]
    have hc := cands_eq (possibleSeqs (unknownOf t) (some maxSteps)) val (g0 :: gs)
    simp only [List.map_cons] at hc
    rw [hc]
    intro hb
    rw [hb]

end best


/-! ### the search theorems with their hypotheses discharged (generic in a gap with `GapFacts`) -/

def ClassGames [Add α] [LE α] (k : Computer) (side : (Nat → α) → Prop) (n : Nat) (games : List (Nat → α)) : Prop :=
  ∀ v ∈ games, InClass k n v ∧ side v

theorem classGames_range [Add α] [LE α] {k : Computer} {side : (Nat → α) → Prop} {n reps : Nat}
    {draw : Nat → (Nat → α)}
    (h : ∀ i, i < reps → InClass k n (draw i) ∧ side (draw i)) :
    ClassGames k side n ((List.range reps).map draw) := by
  intro v hv
  obtain ⟨i, hi, rfl⟩ := List.mem_map.mp hv
  exact h i (List.mem_range.mp hi)

section searchreal
variable [Add α] [Sub α] [Max α] [Min α] [Zero α] {γ : Type}

/-- C11 `schedule_free` for the registered computers: its only hypothesis on the computer (`hn`) is `run_n` -/
theorem schedule_free_real (k : Computer) (gap : Table α → Except Err γ) (v : Nat → α) (start : List Nat)
    (scratch : Table α) (chunks : List (List (List Nat)))
    (hr : ∀ seq ∈ chunks.flatten, ∀ c, c ∈ seq ∨ c ∈ start → c < 2 ^ scratch.n) :
    runPool (seqGap k.run gap v start) scratch chunks =
      Search.mapE (C11.seqResult k.run gap scratch.n v start) chunks.flatten :=
  C11.schedule_free k.run gap (run_n k) v start scratch chunks hr

/-- the evaluation depends on the set of revealed coalitions only, not on their order or repetitions -/
theorem evalSeq_set {k : Computer} {gap : Table α → Except Err γ} {t : Table α} {games : List (Nat → α)} {procs : Nat} (hp : 0 < procs) (S T : List Nat)
    (hST : ∀ c, c ∈ S ↔ c ∈ T) :
    getExploitabilitiesOfSeq k.run gap t games S procs = getExploitabilitiesOfSeq k.run gap t games T procs := by
  obtain rfl | hgs := eq_or_ne games []
  · rw [evalSeq_nil _ _ _ _ hp, evalSeq_nil _ _ _ _ hp]
  obtain hr | hr := Classical.em (∀ x ∈ S, x < 2 ^ t.n)
  · have hr' : ∀ x ∈ T, x < 2 ^ t.n := fun x hx => hr x ((hST x).mpr hx)
    rw [evalSeq_inrange k.run gap (run_n k) t games S hp hr,
      evalSeq_inrange k.run gap (run_n k) t games T hp hr']
    rw [Kof_congr hST]
  · have hr' : ¬ ∀ x ∈ T, x < 2 ^ t.n := fun h => hr (fun x hx => h x ((hST x).mp hx))
    rw [evalSeq_outrange k.run gap t games S hp hr hgs, evalSeq_outrange k.run gap t games T hp hr' hgs]

end searchreal

section curves
variable [Field α] [LinearOrder α] [IsStrictOrderedRing α]
variable {k : Computer} {gap : Table α → Except Err α} {side : (Nat → α) → Prop}

/-- the per-game gaps of the set `q` (added to the start knowledge of `t`) -/
def colOf (k : Computer) (gap : Table α → Except Err α) (t : Table α) (games : List (Nat → α)) (q : List Nat) :
    List α :=
  games.map (fun v => valOf (C11.gapOfKnowledge k.run gap t.n v (Kof (knownOf t) q)))

/-- the setting of the search theorems: a gap function with C07's facts, a table with minimal information, and
    sampled games of the class the computer `k` assumes (satisfying the gap's side condition) -/
structure Sample (k : Computer) (gap : Table α → Except Err α) (side : (Nat → α) → Prop) (t : Table α)
    (games : List (Nat → α)) : Prop where
  facts : GapFacts gap side
  min : MinInfo t.n t.known
  cls : ClassGames k side t.n games

theorem gok_val {t : Table α} {games : List (Nat → α)} (H : Sample k gap side t games) {v : Nat → α} (hv : v ∈ games) (q : List Nat) :
    C11.gapOfKnowledge k.run gap t.n v (Kof (knownOf t) q) =
        .ok (valOf (C11.gapOfKnowledge k.run gap t.n v (Kof (knownOf t) q))) ∧
      0 ≤ valOf (C11.gapOfKnowledge k.run gap t.n v (Kof (knownOf t) q)) := by
  obtain ⟨hcl, hside⟩ := H.cls v hv
  obtain ⟨x, hx, h0⟩ := gapOfKnowledge_nonneg_of (k := k) H.facts (minInfo_Kof H.min q) hcl hside
  rw [hx]
  exact ⟨rfl, h0⟩

theorem colOf_spec {t : Table α} {games : List (Nat → α)} (H : Sample k gap side t games) (q : List Nat) :
    List.Forall₂ (fun v x => C11.gapOfKnowledge k.run gap t.n v (Kof (knownOf t) q) = .ok x ∧ 0 ≤ x) games
      (colOf k gap t games q) := by
  unfold colOf
  rw [List.forall₂_map_right_iff, List.forall₂_same]
  exact fun v hv => gok_val H hv q

theorem colOf_nonneg {t : Table α} {games : List (Nat → α)} (H : Sample k gap side t games) (q : List Nat) :
    ∀ x ∈ colOf k gap t games q, 0 ≤ x := by
  intro x hx
  obtain ⟨v, hv, rfl⟩ := List.mem_map.mp hx
  exact (gok_val H hv q).2

/-- more knowledge, pointwise smaller gaps on the same sampled games -/
theorem colOf_mono {t : Table α} {games : List (Nat → α)} (H : Sample k gap side t games) {S T : List Nat} (hST : S ⊆ T) :
    List.Forall₂ (· ≤ ·) (colOf k gap t games T) (colOf k gap t games S) := by
  unfold colOf
  rw [List.forall₂_map_left_iff, List.forall₂_map_right_iff, List.forall₂_same]
  intro v hv
  obtain ⟨hcl, hside⟩ := H.cls v hv
  obtain ⟨x, x', hx, hx', hxx, _⟩ :=
    gapOfKnowledge_mono_of (k := k) H.facts (minInfo_Kof H.min S) (Kof_mono hST) hcl hside
  rw [hx, hx']
  exact hxx

theorem evalSeq_col {t : Table α} {games : List (Nat → α)} (H : Sample k gap side t games) {procs : Nat} (hp : 0 < procs)
    {q : List Nat} (hr : ∀ c ∈ q, c < 2 ^ t.n) :
    getExploitabilitiesOfSeq k.run gap t games q procs = .ok (colOf k gap t games q) := by
  rw [evalSeq_inrange k.run gap (run_n k) t games q hp hr]
  exact mapE_ok_of _ _ games (fun v hv => (gok_val H hv q).1)

def realCands (k : Computer) (gap : Table α → Except Err α) (t : Table α) (games : List (Nat → α))
    (maxSteps : Nat) : List (List Nat × List α) :=
  (possibleSeqs (unknownOf t) (some maxSteps)).map (fun q => (q, colOf k gap t games q))

theorem realCands_length (k : Computer) (gap : Table α → Except Err α) (t : Table α) (games : List (Nat → α))
    (maxSteps : Nat) : ∀ p ∈ realCands k gap t games maxSteps, p.1.length ≤ maxSteps := fun p hp => by
  obtain ⟨q, hq, rfl⟩ := List.mem_map.mp hp
  exact ((C11.enum_mem (unknownOf t) (some maxSteps) q).mp hq).2

/-- the mean of a candidate is never the placeholder −1 (C07: gaps are non-negative) -/
theorem realCands_mean {t : Table α} {games : List (Nat → α)} (H : Sample k gap side t games) (maxSteps : Nat) :
    ∀ p ∈ realCands k gap t games maxSteps, mean p.2 ≠ -1 := fun p hp => by
  obtain ⟨q, _, rfl⟩ := List.mem_map.mp hp
  exact mean_ne_neg_one (colOf_nonneg H q)

/-- there is a candidate of every size up to the limit and the number of unknown coalitions: the first `s` unknown
    coalitions -/
theorem realCands_ofSize (k : Computer) (gap : Table α → Except Err α) (t : Table α) (games : List (Nat → α))
    {maxSteps s : Nat} (hs : s ≤ maxSteps) (hs' : s ≤ (unknownOf t).length) :
    ofSize (realCands k gap t games maxSteps) s ≠ [] := fun h0 => by
  refine List.ne_nil_of_mem (mem_ofSize.mpr ⟨List.mem_map.mpr ⟨(unknownOf t).take s,
    (C11.enum_mem _ _ _).mpr ⟨List.take_sublist _ _, ?_⟩, rfl⟩, ?_⟩) h0
  · exact (List.length_take_le _ _).trans hs
  · exact List.length_take_of_le hs'

theorem getBest_real (k : Computer) {procs : Nat} (hp : 0 < procs) (t : Table α) (draw : Nat → (Nat → α)) (maxSteps : Nat)
    {reps : Nat} (hreps : 0 < reps) (H : Sample k gap side t ((List.range reps).map draw)) :
    ∃ t' b, getBestExploitability k.run gap t draw maxSteps reps procs = .ok (t', b) ∧
      bestStates maxSteps reps (realCands k gap t ((List.range reps).map draw) maxSteps) = .ok b ∧
      b.length = maxSteps + 1 := by
  obtain ⟨b, hb, hbl, _⟩ := C11.best_min maxSteps reps hreps _ (realCands_length k gap t _ maxSteps)
  obtain ⟨t', hbest⟩ := getBest_eq k.run gap (run_n k) hp t H.min.1 draw maxSteps hreps
    (fun v q => valOf (C11.gapOfKnowledge k.run gap t.n v (Kof (knownOf t) q)))
    (fun i hi q _ => (gok_val H (List.mem_map.mpr ⟨i, List.mem_range.mpr hi, rfl⟩) q).1)
  exact ⟨t', b, hbest b hb, hb, hbl⟩

/-- C11 `best_mono` with its hypotheses discharged (`hext` through `ext_of_monotone` from C07) -/
theorem best_curve_of (k : Computer) {procs : Nat} (hp : 0 < procs) (t : Table α) (draw : Nat → (Nat → α)) (maxSteps : Nat)
    {reps : Nat} (hreps : 0 < reps) (H : Sample k gap side t ((List.range reps).map draw)) :
    ∃ t' b, getBestExploitability k.run gap t draw maxSteps reps procs = .ok (t', b) ∧
      b.length = maxSteps + 1 ∧
      ∀ s, s + 1 ≤ maxSteps → s + 1 ≤ (unknownOf t).length →
        ∃ r1 a1 r2 a2, b[s]? = some (r1, a1) ∧ b[s + 1]? = some (r2, a2) ∧ mean r2 ≤ mean r1 := by
  obtain ⟨t', b, hbest, hb, hbl⟩ := getBest_real k hp t draw maxSteps hreps H
  refine ⟨t', b, hbest, hbl, fun s hs hs' => ?_⟩
  have hext := C11.ext_of_monotone (unknownOf t) (some maxSteps) (colOf k gap t ((List.range reps).map draw))
    (fun S T hST _ => colOf_mono H hST.subset) s hs hs'
  obtain ⟨b', r1, a1, r2, a2, hb', h1, h2, h3⟩ :=
    C11.best_mono maxSteps reps hreps _ (realCands_length k gap t _ maxSteps) (realCands_mean H maxSteps) s hs
      (realCands_ofSize k gap t _ (Nat.le_of_succ_le hs) (Nat.le_of_succ_le hs')) hext
  rw [hb] at hb'
  cases hb'
  exact ⟨r1, a1, r2, a2, h1, h2, h3⟩

/-- C11 `best_is_min` with `hne` discharged by C07's non-negativity; the reported row `colOf … q` is the vector of
    the real gaps of the reported set on the sampled games -/
theorem best_min_of (k : Computer) {procs : Nat} (hp : 0 < procs) (t : Table α) (draw : Nat → (Nat → α)) (maxSteps : Nat)
    {reps : Nat} (hreps : 0 < reps) (H : Sample k gap side t ((List.range reps).map draw)) :
    ∃ t' b, getBestExploitability k.run gap t draw maxSteps reps procs = .ok (t', b) ∧
      ∀ s, s ≤ maxSteps → s ≤ (unknownOf t).length →
        ∃ q, q.Sublist (unknownOf t) ∧ q.length = s ∧
          b[s]? = some (colOf k gap t ((List.range reps).map draw) q, q) ∧
          List.Forall₂ (fun v x => C11.gapOfKnowledge k.run gap t.n v (Kof (knownOf t) q) = .ok x ∧ 0 ≤ x)
            ((List.range reps).map draw) (colOf k gap t ((List.range reps).map draw) q) ∧
          ∀ q', q'.Sublist (unknownOf t) → q'.length = s →
            mean (colOf k gap t ((List.range reps).map draw) q) ≤
              mean (colOf k gap t ((List.range reps).map draw) q') := by
  obtain ⟨t', b, hbest, hb, _⟩ := getBest_real k hp t draw maxSteps hreps H
  refine ⟨t', b, hbest, fun s hs hs' => ?_⟩
  obtain ⟨b', p, hb', hp', hps, hbs, hminp⟩ := C11.best_is_min maxSteps reps hreps _
    (realCands_length k gap t _ maxSteps) (realCands_mean H maxSteps) s hs (realCands_ofSize k gap t _ hs hs')
  rw [hb] at hb'
  cases hb'
  obtain ⟨q, hq, rfl⟩ := List.mem_map.mp hp'
  refine ⟨q, ((C11.enum_mem _ _ q).mp hq).1, hps, hbs, colOf_spec H q, fun q' hq' hl' => ?_⟩
  exact hminp (q', colOf k gap t ((List.range reps).map draw) q')
    (List.mem_map.mpr ⟨q', (C11.enum_mem _ _ q').mpr ⟨hq', le_of_eq_of_le hl' hs⟩, rfl⟩) hl'

/-- one more coalition, mean gap not larger (what `ExpectedGreedy.greedy_mono` asks of the evaluation function): no
    games, all ids in range (C07 through `colOf_mono`), or an id out of range (the longer call raises) -/
theorem evalSeq_mono {t : Table α} {games : List (Nat → α)} (H : Sample k gap side t games) {procs : Nat} (hp : 0 < procs)
    (S : List Nat) (c : Nat) (r rc : List α)
    (h1 : getExploitabilitiesOfSeq k.run gap t games S procs = .ok r)
    (h2 : getExploitabilitiesOfSeq k.run gap t games (S ++ [c]) procs = .ok rc) : mean rc ≤ mean r := by
  obtain rfl | hgs := eq_or_ne games []
  · rw [evalSeq_nil _ _ _ _ hp] at h1 h2
    cases h1; cases h2
    exact le_refl _
  obtain hr | hr := Classical.em (∀ x ∈ S ++ [c], x < 2 ^ t.n)
  · have hrS : ∀ x ∈ S, x < 2 ^ t.n := fun x hx => hr x (List.mem_append_left _ hx)
    rw [evalSeq_col H hp hrS] at h1
    rw [evalSeq_col H hp hr] at h2
    cases h1; cases h2
    exact mean_le_mean _ _ (colOf_mono H (List.subset_append_left S [c]))
  · rw [evalSeq_outrange _ _ _ _ _ hp hr hgs] at h2
    cases h2

theorem greedy_curve_of (k : Computer) {procs : Nat} (hp : 0 < procs)
    (order : List Nat → List Nat → List Nat) (hperm : ∀ acts s, (order acts s).Perm s) (t : Table α)
    (games : List (Nat → α)) (H : Sample k gap side t games)
    (explorable : List Nat) (maxSteps : Nat) (rows : List (List α)) (acts : List Nat)
    (h : expectedGreedy k.run gap order t games explorable maxSteps procs = .ok (rows, acts)) :
    ∀ i, i < maxSteps → ∃ r1 r2, rows[i]? = some r1 ∧ rows[i + 1]? = some r2 ∧ mean r2 ≤ mean r1 :=
  ExpectedGreedy.greedy_mono _ order hperm explorable maxSteps games.length rows acts h
    (evalSeq_mono H hp)

/-- `b` is what `get_best_exploitability` returns on the same games; the explorable coalitions are the unknown ones
    of `t`, which is what best-states enumerates -/
theorem greedy_ge_best_of (k : Computer) {procs procs' : Nat} (hp : 0 < procs)
    (hp' : 0 < procs') (order : List Nat → List Nat → List Nat) (hperm : ∀ acts s, (order acts s).Perm s)
    (t : Table α) (draw : Nat → (Nat → α)) (maxSteps : Nat) {reps : Nat}
    (hreps : 0 < reps) (H : Sample k gap side t ((List.range reps).map draw))
    (rows : List (List α)) (acts : List Nat)
    (h : expectedGreedy k.run gap order t ((List.range reps).map draw) (unknownOf t) maxSteps procs =
      .ok (rows, acts)) :
    ∃ t' b, getBestExploitability k.run gap t draw maxSteps reps procs' = .ok (t', b) ∧
      (∀ i, i ≤ maxSteps → ∃ rg rb ab, rows[i]? = some rg ∧ b[i]? = some (rb, ab) ∧ mean rb ≤ mean rg) ∧
      (∀ i, i ≤ maxSteps → i ≤ 1 →
        ∃ rg rb ab, rows[i]? = some rg ∧ b[i]? = some (rb, ab) ∧ mean rb = mean rg) := by
  obtain ⟨t', b, hbest, hb, _⟩ := getBest_real k hp' t draw maxSteps hreps H
  have hlen : ((List.range reps).map draw).length = reps := by rw [List.length_map, List.length_range]
  rw [expectedGreedy, hlen] at h
  have := ExpectedGreedy.greedy_ge_best _ order hperm (unknownOf t) (unknownOf_nodup t) maxSteps reps hreps rows acts
    h (evalSeq_set hp) (colOf k gap t ((List.range reps).map draw))
    (fun q hq => evalSeq_col H hp (possibleSeqs_inrange hq))
    (fun q _ => mean_ne_neg_one (colOf_nonneg H q)) b hb
  exact ⟨t', b, hbest, this.1, this.2⟩

end curves

end ICG.Compose

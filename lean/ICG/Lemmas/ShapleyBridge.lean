/-
  ICG.Lemmas.ShapleyBridge — from the executable model of shapley.py / exploitability.py (list folds,
  `Except`) to closed forms over `Finset.range (2^n)`, and the double counting behind C05 / C06.

  On a game whose `get_values` answers with the values of `v` (`Answers`) the model returns the closed form `phi`;
  `compute_exploitability` returns `Σ_i psi n hi lo i − get_value(N)`; `sum_psi` is the double counting.
-/
import ICG.Model.Shapley
import ICG.Lemmas.NormFacts
import Mathlib.Algebra.BigOperators.Group.Finset.Basic
import Mathlib.Algebra.BigOperators.Group.Finset.Sigma
import Mathlib.Algebra.BigOperators.Ring.Finset
import Mathlib.Algebra.BigOperators.Field
import Mathlib.Algebra.Order.Field.Basic
import Mathlib.Data.Nat.Choose.Basic
import Mathlib.Data.Nat.Factorial.Basic
import Mathlib.Data.Nat.Cast.Field
import Mathlib.Algebra.CharZero.Defs
import Mathlib.Tactic.Ring

namespace ICG
open Finset

/-! ### lists, folds, `Except` plumbing -/

theorem listSum_eq_sum {M : Type} [AddCommMonoid M] (l : List M) : listSum l = l.sum := Norm.listSum_eq_sum l

theorem listSum_map_filter_range {M : Type} [AddCommMonoid M] (m : Nat) (p : Nat → Bool) (f : Nat → M) :
    listSum (((List.range m).filter p).map f) = ∑ x ∈ (range m).filter (fun x => p x = true), f x := by
  rw [listSum_eq_sum, ← List.sum_toFinset f ((List.nodup_range).filter _)]
  congr 1
  ext x
  simp

theorem listSum_map_range {M : Type} [AddCommMonoid M] (m : Nat) (f : Nat → M) :
    listSum ((List.range m).map f) = ∑ x ∈ range m, f x := Norm.listSum_range_map m f

theorem mapE_ok {β γ : Type} (f : β → Except Err γ) (g : β → γ) :
    ∀ (l : List β), (∀ x ∈ l, f x = .ok (g x)) → mapE f l = .ok (l.map g)
  | [], _ => rfl
  | b :: l, h => by
    have hb := h b (by simp)
    have hl := mapE_ok f g l (fun x hx => h x (by simp [hx]))
    simp [mapE, hb, hl]

theorem zipWith3'_map {ι β γ δ ε : Type} (f : β → γ → δ → ε) (a : ι → β) (b : ι → γ) (c : ι → δ) :
    ∀ l : List ι, zipWith3' f (l.map a) (l.map b) (l.map c) = l.map (fun x => f (a x) (b x) (c x))
  | [] => rfl
  | x :: l => by simp [zipWith3', zipWith3'_map f a b c l]

theorem fact_eq (n : Nat) : fact n = n.factorial := by
  induction n with
  | zero => rfl
  | succ n ih => simp [fact, ih, Nat.factorial_succ]

/-- the Shapley weight (not divided by `n!`) of a coalition of size `s` not containing the player -/
def coef (n s : Nat) : Nat := s.factorial * (n - s - 1).factorial

theorem coef_succ_zero (r : Nat) : coef (r + 1) 0 = r.factorial := by
  rw [coef, Nat.factorial_zero, Nat.one_mul, Nat.sub_zero, Nat.add_sub_cancel]

/-- one more player, placed among the predecessors -/
theorem coef_succ_succ (r k : Nat) : coef (r + 1) (k + 1) = (k + 1) * coef r k := by
  rw [coef, coef, Nat.factorial_succ, Nat.add_sub_add_right, Nat.mul_assoc]

theorem lookupCoefs_ok (n : Nat) (sizes : List Nat) (h : ∀ k ∈ sizes, k < n) :
    lookupCoefs (contributions n) sizes = .ok (sizes.map (coef n)) := by
  unfold lookupCoefs
  apply mapE_ok
  intro k hk
  simp [contributions, h k hk, fact_eq, coef]

/-! ### setting and clearing one player's bit -/

theorem setBit_lt {n i S : ℕ} (hi : i < n) (hS : S < 2 ^ n) : S ||| 2 ^ i < 2 ^ n :=
  Nat.or_lt_two_pow hS (Nat.pow_lt_pow_right (by omega) hi)

theorem testBit_setBit_self (S i : ℕ) : (S ||| 2 ^ i).testBit i = true := by
  simp [Nat.testBit_or, Nat.testBit_two_pow_self]

theorem clear_set {S i : ℕ} (h : S.testBit i = false) : (S ||| 2 ^ i) ^^^ 2 ^ i = S := by
  apply Nat.eq_of_testBit_eq; intro j
  simp only [Nat.testBit_xor, Nat.testBit_or, Nat.testBit_two_pow]
  by_cases hij : i = j
  · subst hij; simp [h]
  · simp [hij]

theorem set_clear {T i : ℕ} (h : T.testBit i = true) : (T ^^^ 2 ^ i) ||| 2 ^ i = T := by
  apply Nat.eq_of_testBit_eq; intro j
  simp only [Nat.testBit_xor, Nat.testBit_or, Nat.testBit_two_pow]
  by_cases hij : i = j
  · subst hij; simp [h]
  · simp [hij]

theorem clear_lt {n i T : ℕ} (hi : i < n) (hT : T < 2 ^ n) : T ^^^ 2 ^ i < 2 ^ n :=
  Nat.xor_lt_two_pow hT (Nat.pow_lt_pow_right (by omega) hi)

theorem testBit_clear_self {T i : ℕ} (h : T.testBit i = true) : (T ^^^ 2 ^ i).testBit i = false := by
  simp [Nat.testBit_xor, Nat.testBit_two_pow_self, h]

theorem and_two_pow_eq_zero_iff (c i : Nat) : (c &&& 2 ^ i == 0) = !c.testBit i := by
  rw [← two_pow_and_ne_zero_iff, Nat.and_comm, bne, Bool.not_not]

theorem and_two_pow_eq_zero {c i : Nat} (h : c.testBit i = false) : c &&& 2 ^ i = 0 := by
  have := and_two_pow_eq_zero_iff c i
  simpa [h] using this

theorem size_setBit {S i : Nat} (h : S.testBit i = false) : size (S ||| 2 ^ i) = size S + 1 := by
  rw [size_or_of_disjoint _ _ (and_two_pow_eq_zero h), size_two_pow]

/-- adding player `i` is a bijection from the coalitions without `i` onto those with `i` -/
theorem sum_reindex_setBit {M} [AddCommMonoid M] (n i : ℕ) (hi : i < n) (g : ℕ → M) :
    ∑ S ∈ (range (2 ^ n)).filter (fun S => S.testBit i = false), g (S ||| 2 ^ i)
  = ∑ T ∈ (range (2 ^ n)).filter (fun T => T.testBit i = true), g T := by
  refine Finset.sum_nbij' (fun S => S ||| 2 ^ i) (fun T => T ^^^ 2 ^ i) ?_ ?_ ?_ ?_ ?_
  · intro S hS; simp only [mem_filter, mem_range] at hS ⊢
    exact ⟨setBit_lt hi hS.1, testBit_setBit_self S i⟩
  · intro T hT; simp only [mem_filter, mem_range] at hT ⊢
    exact ⟨clear_lt hi hT.1, testBit_clear_self hT.2⟩
  · intro S hS; simp only [mem_filter, mem_range] at hS; exact clear_set hS.2
  · intro T hT; simp only [mem_filter, mem_range] at hT; exact set_clear hT.2
  · intro S _; rfl

/-- `Finset.sum_comm` for pairs (player, coalition) restricted by a relation `p` -/
theorem double_count {M} [AddCommMonoid M] (n : ℕ) (p : ℕ → ℕ → Prop) [∀ i T, Decidable (p i T)]
    (g : ℕ → ℕ → M) :
    ∑ i ∈ range n, ∑ T ∈ (range (2 ^ n)).filter (fun T => p i T), g i T
  = ∑ T ∈ range (2 ^ n), ∑ i ∈ (range n).filter (fun i => p i T), g i T := by
  simp only [Finset.sum_filter]
  exact Finset.sum_comm

theorem card_without {n i : Nat} (hi : i < n) :
    ((range (2 ^ n)).filter (fun S => S.testBit i = false)).card = 2 ^ (n - 1) := by
  have h1 := sum_reindex_setBit (M := ℕ) n i hi (fun _ => 1)
  rw [← Finset.card_eq_sum_ones, ← Finset.card_eq_sum_ones] at h1
  have h2 := Finset.card_filter_add_card_filter_not (s := range (2 ^ n)) (fun S => S.testBit i = false)
  have h3 : ((range (2 ^ n)).filter (fun S => ¬ S.testBit i = false))
      = (range (2 ^ n)).filter (fun S => S.testBit i = true) := by
    apply Finset.filter_congr; intro x _; simp
  rw [h3, card_range] at h2
  -- `h1`: as many without `i` as with `i`; `h2`: together `2^n`
  obtain ⟨m, rfl⟩ : ∃ m, n = m + 1 := ⟨n - 1, by omega⟩
  have hp : (2 : ℕ) ^ (m + 1) = 2 ^ m * 2 := pow_succ 2 m
  simp only [Nat.add_sub_cancel]
  omega

theorem length_exclude {n i : Nat} (hi : i < n) :
    (excludeCoalition (2 ^ i) (allCoalitions n)).length = 2 ^ (n - 1) := by
  rw [← card_without hi]
  unfold excludeCoalition allCoalitions
  rw [← List.toFinset_card_of_nodup ((List.nodup_range).filter _)]
  congr 1
  ext x
  simp [and_two_pow_eq_zero_iff]

/-- `np.fromiter(…, count = 2^(n−1))` takes exactly the coalitions without the player: nothing is truncated -/
theorem fromiter_exclude {n i : Nat} (hi : i < n) :
    Table.fromiter (excludeCoalition (2 ^ i) (allCoalitions n)) (2 ^ (n - 1))
      = .ok (excludeCoalition (2 ^ i) (allCoalitions n)) := by
  unfold Table.fromiter
  rw [if_neg (by rw [length_exclude hi]; exact Nat.lt_irrefl _), ← length_exclude hi, List.take_length]

theorem mem_exclude {n i c : Nat} :
    c ∈ excludeCoalition (2 ^ i) (allCoalitions n) ↔ c < 2 ^ n ∧ c.testBit i = false := by
  simp [excludeCoalition, allCoalitions, and_two_pow_eq_zero_iff]

theorem size_lt_of_not_mem {n i S : Nat} (hi : i < n) (hS : S < 2 ^ n) (h : S.testBit i = false) :
    size S < n := by
  have := size_le n _ (setBit_lt hi hS)
  rw [size_setBit h] at this
  omega

theorem hasPlayer_eq (c i : Nat) : hasPlayer c i = c.testBit i := hasPlayer_eq_testBit c i

/-! ### games as `get_values` callables -/

/-- the game `get_values` answers with the values of `v` on ids of the `n`-player game -/
def Answers {α : Type} (n : Nat) (g : GetValues α) (v : Nat → α) : Prop :=
  ∀ l : List Nat, (∀ c ∈ l, c < 2 ^ n) → g l = .ok (l.map v)

theorem answers_complete {β : Type} (n : Nat) (v : Nat → β) : Answers n (completeGame v) v := fun _ _ => rfl

theorem gameValues_unknown {β : Type} (t : Table β) {ids : List Nat} {c : Nat} (hlt : ∀ d ∈ ids, d < 2 ^ t.n)
    (hc : c ∈ ids) (hunk : t.known c = false) : t.gameValues ids = .error .value := by
  have h1 : ids.all (· < t.rows) = true := List.all_eq_true.mpr (fun d hd => decide_eq_true (hlt d hd))
  have h2 : ids.all t.known = false := by
    rw [List.all_eq_false]; exact ⟨c, hc, by simp [hunk]⟩
  simp only [Table.gameValues, Table.getValues, h1, h2, if_true, Bool.false_eq_true, if_false]

/-! ### closed forms -/
section
variable {α : Type} [Field α]

/-- The Shapley formula with the value of `S ∪ {i}` read from one game (`a`) and that of `S` from another (`b`).
    One game twice is the Shapley value (`phi`); `a = upper`, `b = lower` is the Shapley value of player `i` in
    his MaxGain game (`phi_maxGain`), which is why C05 and C06 share one double counting (`sum_psi`). -/
def psi (n : Nat) (a b : Nat → α) (i : Nat) : α :=
  (∑ S ∈ (range (2 ^ n)).filter (fun S => S.testBit i = false),
      (coef n (size S) : α) * (a (S ||| 2 ^ i) - b S)) / (n.factorial : α)

/-- the Shapley value of player `i` in the game `v` (closed form of shapley.py) -/
def phi (n : Nat) (v : Nat → α) (i : Nat) : α := psi n v v i

theorem shapleyCore_ok {n i : Nat} (hi : i < n) (g : GetValues α) (v : Nat → α) (hg : Answers n g v) :
    shapleyCore n g (2 ^ i) (contributions n) (fact n) = .ok (phi n v i) := by
  unfold shapleyCore
  have hfrom := fromiter_exclude hi
  have hwo := hg (excludeCoalition (2 ^ i) (allCoalitions n)) (fun c hc => (mem_exclude.mp hc).1)
  have hwi := hg ((excludeCoalition (2 ^ i) (allCoalitions n)).map (fun c => c ||| 2 ^ i)) (by
    intro c hc
    obtain ⟨d, hd, rfl⟩ := List.mem_map.mp hc
    exact setBit_lt hi (mem_exclude.mp hd).1)
  have hco := lookupCoefs_ok n ((excludeCoalition (2 ^ i) (allCoalitions n)).map size) (by
    intro k hk
    obtain ⟨d, hd, rfl⟩ := List.mem_map.mp hk
    exact size_lt_of_not_mem hi (mem_exclude.mp hd).1 (mem_exclude.mp hd).2)
  simp only [hfrom, hwo, hwi, hco, bind, Except.bind, List.map_map]
  congr 1
  have := zipWith3'_map (fun (cont : Nat) (vw vo : α) => (cont : α) * (vw - vo))
    (coef n ∘ size) (v ∘ fun c => c ||| 2 ^ i) v (excludeCoalition (2 ^ i) (allCoalitions n))
  rw [this]
  unfold phi psi excludeCoalition allCoalitions
  rw [listSum_map_filter_range, fact_eq]
  congr 1
  apply Finset.sum_congr
  · ext x; simp [and_two_pow_eq_zero_iff]
  · intro x _; rfl

theorem shapleyForPlayer_ok {n i : Nat} (hi : i < n) (g : GetValues α) (v : Nat → α) (hg : Answers n g v) :
    shapleyForPlayer n g i = .ok (phi n v i) := by
  unfold shapleyForPlayer
  rw [fromPlayers_singleton]
  exact shapleyCore_ok hi g v hg

theorem shapley_ok (n : Nat) (g : GetValues α) (v : Nat → α) (hg : Answers n g v) :
    shapley n g = .ok ((List.range n).map (phi n v)) := by
  unfold shapley
  apply mapE_ok
  intro i hi
  exact shapleyCore_ok (List.mem_range.mp hi) g v hg

/-- a null player (never changes the value of a coalition it joins) gets zero -/
theorem phi_null {n i : Nat} (v : Nat → α)
    (hnull : ∀ S, S < 2 ^ n → S.testBit i = false → v (S ||| 2 ^ i) = v S) : phi n v i = 0 := by
  unfold phi psi
  rw [Finset.sum_eq_zero, zero_div]
  intro S hS
  simp only [mem_filter, mem_range] at hS
  rw [hnull S hS.1 hS.2, sub_self, mul_zero]

theorem phi_linear (n i : Nat) (a : α) (v w : Nat → α) :
    phi n (fun c => a * v c + w c) i = a * phi n v i + phi n w i := by
  unfold phi psi
  rw [mul_div_assoc', ← add_div, Finset.mul_sum, ← Finset.sum_add_distrib]
  congr 1
  apply Finset.sum_congr rfl
  intro S _
  ring

/-! ### MaxGainGame and exploitability -/

theorem maxGainValues_eq (i : Nat) (lo hi : Nat → α) (c : Nat) :
    maxGainValues i lo hi c = if c.testBit i = true then hi c else lo c := by
  unfold maxGainValues
  rw [hasPlayer_eq]
  cases c.testBit i <;> simp

theorem answers_maxGain (n i : Nat) (lo hi : Nat → α) :
    Answers n (maxGainGetValues n i lo hi) (maxGainValues i lo hi) := by
  intro l hl
  unfold maxGainGetValues
  rw [if_pos]
  simpa using hl

theorem phi_maxGain (n i : Nat) (lo hi : Nat → α) : phi n (maxGainValues i lo hi) i = psi n hi lo i := by
  unfold phi psi
  congr 1
  apply Finset.sum_congr rfl
  intro S hS
  simp only [mem_filter] at hS
  rw [maxGainValues_eq, maxGainValues_eq, if_pos (testBit_setBit_self S i), if_neg (by simp [hS.2])]

/-- `compute_exploitability` in closed form: it raises exactly when `get_value(N)` raises -/
theorem exploitability_eq (n : Nat) (lo hi : Nat → α) (gv : Except Err α) :
    exploitability n lo hi gv =
      match gv with
      | .ok g => .ok (∑ i ∈ range n, psi n hi lo i - g)
      | .error e => .error e := by
  unfold exploitability
  have h := mapE_ok (fun i => shapleyForPlayer n (maxGainGetValues n i lo hi) i) (fun i => psi n hi lo i)
    (List.range n) (by
      intro i hi'
      rw [shapleyForPlayer_ok (List.mem_range.mp hi') _ _ (answers_maxGain n i lo hi), phi_maxGain])
  simp only [h, bind, Except.bind]
  cases gv with
  | error e => rfl
  | ok g => simp only [listSum_map_range]

end

/-! ### sizes as cardinalities -/

theorem size_eq_card {n c : Nat} (hc : c < 2 ^ n) :
    size c = ((range n).filter (fun i => c.testBit i = true)).card := by
  rw [← sizeId_eq_size hc, sizeId_eq_length_playersId, playersId_eq_filter,
    ← List.toFinset_card_of_nodup ((List.nodup_range).filter _)]
  congr 1
  ext x
  simp

theorem card_absent {n c : Nat} (hc : c < 2 ^ n) :
    ((range n).filter (fun i => c.testBit i = false)).card = n - size c := by
  have h2 := Finset.card_filter_add_card_filter_not (s := range n) (fun i => c.testBit i = true)
  have h3 : ((range n).filter (fun i => ¬ c.testBit i = true))
      = (range n).filter (fun i => c.testBit i = false) := by
    apply Finset.filter_congr; intro x _; simp
  rw [h3, card_range, ← size_eq_card hc] at h2
  omega

/-! ### the coefficient identities and the double counting -/
section
variable {K : Type} [Field K] [CharZero K]
open Nat

theorem fact_mul_fact_div (n s : ℕ) (hs : s ≤ n) :
    ((s ! * (n - s)! : ℕ) : K) / (n ! : K) = 1 / (n.choose s : K) := by
  have hch : (n.choose s : K) ≠ 0 := by exact_mod_cast (Nat.choose_pos hs).ne'
  have hn : (n ! : K) ≠ 0 := by exact_mod_cast Nat.factorial_ne_zero n
  rw [div_eq_div_iff hn hch, one_mul, ← Nat.cast_mul, ← Nat.choose_mul_factorial_mul_factorial hs,
    Nat.mul_comm, Nat.mul_assoc]

/-- a coalition of size `t ≥ 1` is counted once for each of its members -/
theorem coef_upper (n t : ℕ) (ht : 1 ≤ t) (htn : t ≤ n) :
    (t : K) * (coef n (t - 1) : K) / (n ! : K) = 1 / (n.choose t : K) := by
  rw [← fact_mul_fact_div n t htn, ← Nat.cast_mul]
  obtain ⟨s, rfl⟩ : ∃ s, t = s + 1 := ⟨t - 1, by omega⟩
  rw [coef, Nat.add_sub_cancel, Nat.factorial_succ, Nat.sub_sub, Nat.mul_assoc]

/-- a coalition of size `s < n` is counted once for each absent player -/
theorem coef_lower (n s : ℕ) (hs : s < n) :
    ((n - s : ℕ) : K) * (coef n s : K) / (n ! : K) = 1 / (n.choose s : K) := by
  rw [← fact_mul_fact_div n s hs.le, ← Nat.cast_mul]
  obtain ⟨m, hm⟩ : ∃ m, n - s = m + 1 := ⟨n - s - 1, by omega⟩
  rw [coef, hm, Nat.add_sub_cancel, Nat.factorial_succ, Nat.mul_left_comm]

/-- the "with" half of the double count; the empty coalition is the only one no player is in -/
theorem sum_with (n : Nat) (a : Nat → K) :
    ∑ i ∈ range n, ∑ S ∈ (range (2 ^ n)).filter (fun S => S.testBit i = false),
        (coef n (size S) : K) * a (S ||| 2 ^ i) / (n ! : K)
    = ∑ T ∈ range (2 ^ n), a T / (n.choose (size T) : K) - a 0 := by
  have step1 : ∀ i ∈ range n,
      ∑ S ∈ (range (2 ^ n)).filter (fun S => S.testBit i = false),
        (coef n (size S) : K) * a (S ||| 2 ^ i) / (n ! : K)
      = ∑ T ∈ (range (2 ^ n)).filter (fun T => T.testBit i = true),
        (coef n (size T - 1) : K) * a T / (n ! : K) := by
    intro i hi
    rw [← sum_reindex_setBit n i (mem_range.mp hi)
      (fun T => (coef n (size T - 1) : K) * a T / (n ! : K))]
    apply Finset.sum_congr rfl
    intro S hS
    simp only [mem_filter] at hS
    rw [size_setBit hS.2, Nat.add_sub_cancel]
  have hterm : ∀ T ∈ range (2 ^ n),
      ∑ _i ∈ (range n).filter (fun i => T.testBit i = true), (coef n (size T - 1) : K) * a T / (n ! : K)
      = a T / (n.choose (size T) : K) - if T = 0 then a T else 0 := by
    intro T hT
    rw [Finset.sum_const, ← size_eq_card (mem_range.mp hT), nsmul_eq_mul]
    by_cases h0 : T = 0
    · subst h0
      rw [size_zero, Nat.cast_zero, zero_mul, Nat.choose_zero_right, Nat.cast_one, div_one, if_pos rfl, sub_self]
    · rw [if_neg h0, sub_zero, mul_div_assoc, ← mul_assoc, mul_comm, div_mul_eq_mul_div, mul_div_assoc,
        coef_upper n (size T) (size_pos_of_ne_zero T h0) (size_le n T (mem_range.mp hT)), mul_one_div]
  rw [Finset.sum_congr rfl step1, double_count n (fun i T => T.testBit i = true), Finset.sum_congr rfl hterm,
    Finset.sum_sub_distrib, Finset.sum_ite_eq', if_pos (mem_range.mpr (Nat.two_pow_pos n))]

/-- the "without" half; the grand coalition is the only one no player is absent from -/
theorem sum_without (n : Nat) (b : Nat → K) :
    ∑ i ∈ range n, ∑ S ∈ (range (2 ^ n)).filter (fun S => S.testBit i = false),
        (coef n (size S) : K) * b S / (n ! : K)
    = ∑ S ∈ range (2 ^ n), b S / (n.choose (size S) : K) - b (grand n) := by
  have hterm : ∀ S ∈ range (2 ^ n),
      ∑ _i ∈ (range n).filter (fun i => S.testBit i = false), (coef n (size S) : K) * b S / (n ! : K)
      = b S / (n.choose (size S) : K) - if S = grand n then b S else 0 := by
    intro S hS
    rw [Finset.sum_const, card_absent (mem_range.mp hS), nsmul_eq_mul]
    by_cases hN : S = grand n
    · subst hN
      rw [size_grand, Nat.sub_self, Nat.cast_zero, zero_mul, Nat.choose_self, Nat.cast_one, div_one, if_pos rfl,
        sub_self]
    · rw [if_neg hN, sub_zero, mul_div_assoc, ← mul_assoc, mul_comm, div_mul_eq_mul_div, mul_div_assoc,
        coef_lower n (size S) (size_lt_of_ne_grand (mem_range.mp hS) hN), mul_one_div]
  rw [double_count n (fun i S => S.testBit i = false), Finset.sum_congr rfl hterm,
    Finset.sum_sub_distrib, Finset.sum_ite_eq', if_pos (mem_range.mpr (grand_lt n))]

/-- the double counting behind C05 and Shapley efficiency: every coalition is weighted by `1 / C(n,|c|)`, except
    that ∅ never occurs as "with" and `N` never as "without" -/
theorem sum_psi (n : Nat) (a b : Nat → K) :
    ∑ i ∈ range n, psi n a b i
    = ∑ c ∈ range (2 ^ n), (a c - b c) / (n.choose (size c) : K) - a 0 + b (grand n) := by
  have h : ∑ i ∈ range n, psi n a b i
      = (∑ T ∈ range (2 ^ n), a T / (n.choose (size T) : K) - a 0)
        - (∑ S ∈ range (2 ^ n), b S / (n.choose (size S) : K) - b (grand n)) := by
    rw [← sum_with n a, ← sum_without n b, ← Finset.sum_sub_distrib]
    apply Finset.sum_congr rfl
    intro i _
    unfold psi
    rw [Finset.sum_div, ← Finset.sum_sub_distrib]
    apply Finset.sum_congr rfl
    intro S _
    ring
  rw [h]
  simp only [sub_div, Finset.sum_sub_distrib]
  ring

theorem phi_efficiency (n : Nat) (v : Nat → K) : ∑ i ∈ range n, phi n v i = v (grand n) - v 0 := by
  unfold phi
  rw [sum_psi]
  simp only [sub_self, zero_div, Finset.sum_const_zero, zero_sub, neg_add_eq_sub]

end
end ICG

#print axioms ICG.gameValues_unknown
#print axioms ICG.phi_efficiency
#print axioms ICG.phi_null
#print axioms ICG.phi_linear

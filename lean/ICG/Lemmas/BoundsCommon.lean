/-
  ICG.Lemmas.BoundsCommon — the glue shared by the property files C01–C04, C07, C08 (and
  `EquivarianceCore`).
  `enumFacts` is plugged into the refinement theorems here (`run_spec`, `run_spec_agree`, `run_sameGame`):
  no theorem below has an `EnumFacts` hypothesis.  `Table.Agree t v` (every known row of `t` holds `v`'s
  value in both cells) ties a table to a game; a reveal (`putValue`) keeps `KnownLe`, `Inv`, `Agree`.
  The mathematics of `SpecSA` / `SpecSAM` is restated uniformly for the registry of computers
  (`spec_sound`, `spec_mono_known`; `Computer.NeedsMono` marks the computer that assumes `MonoDec`), and
  `run_sound` is the soundness of the model.  At the end, concrete 3-player `Table Int` instances with
  stale unknown rows for the `example`s of the property files.
  `Computer.IsSA` marks the two exact computers; `SoundFor t s v` is what a sound run `s` of `t` satisfies.
  Dot-notation extensions (`Table.Agree…`, `Table.SameGame.clearRow_putValue`, `Computer.…`,
  `Completion.congr`) and the `putValue` lemmas live in `ICG`, the other free-standing helpers and the
  example tables in `ICG.BoundsCommon`.
-/
import ICG.Lemmas.RefineCor
import ICG.Lemmas.Enum
import ICG.Lemmas.SpecSA
import ICG.Lemmas.SpecSAM

namespace ICG
open ICG.SpecSA (KnownLe)

variable {α : Type}

/-- every known row of the table holds `v`'s value in both bound cells -/
def Table.Agree (t : Table α) (v : Nat → α) : Prop :=
  ∀ c, c < 2 ^ t.n → t.known c = true → t.lo c = v c ∧ t.hi c = v c

theorem Table.Agree.inv {t : Table α} {v : Nat → α} (h : t.Agree v) : t.Inv :=
  fun c hc hk => by rw [(h c hc hk).1, (h c hc hk).2]

theorem Table.Agree.completion [Add α] [LE α] {t : Table α} {v : Nat → α} (h : t.Agree v)
    (hsa : SA t.n v) : Completion t.n t.known t.lo v :=
  ⟨hsa, fun c hc hk => (h c hc hk).1.symm⟩

theorem Table.Inv.agree_self {t : Table α} (h : t.Inv) : t.Agree t.lo :=
  fun c hc hk => ⟨rfl, (h c hc hk).symm⟩

theorem Completion.congr [Add α] [LE α] {n : Nat} {known : Nat → Bool} {val w w' : Nat → α}
    (h : Completion n known val w) (hw : ∀ c, c < 2 ^ n → w' c = w c) : Completion n known val w' := by
  refine ⟨?_, ?_⟩
  · intro a b ha hb hab
    rw [hw a ha, hw b hb, hw _ (or_lt_two_pow ha hb)]
    exact h.1 a b ha hb hab
  · intro c hc hk
    rw [hw c hc]; exact h.2 c hc hk

/-! ### revealing one value: `putValue` keeps everything the property files assume of a table -/

section reveal

theorem knownLe_putValue (t : Table α) (c : Nat) (x : α) :
    KnownLe t.known (t.putValue c x).known := by
  intro d hd
  show (if d = c then true else t.known d) = true
  split
  · rfl
  · exact hd

theorem known_of_putValue {t : Table α} {c d : Nat} {x : α} (hdc : d ≠ c)
    (hk : (t.putValue c x).known d = true) : t.known d = true := by
  have : (if d = c then true else t.known d) = true := hk
  rwa [if_neg hdc] at this

theorem Table.Inv.putValue {t : Table α} (h : t.Inv) (c : Nat) (x : α) : (t.putValue c x).Inv := by
  intro d hd hk
  show (if d = c then x else t.lo d) = if d = c then x else t.hi d
  by_cases hdc : d = c
  · rw [if_pos hdc, if_pos hdc]
  · rw [if_neg hdc, if_neg hdc]; exact h d hd (known_of_putValue hdc hk)

theorem Table.Agree.putValue {t : Table α} {v : Nat → α} (h : t.Agree v) (c : Nat) :
    (t.putValue c (v c)).Agree v := by
  intro d hd hk
  show (if d = c then v c else t.lo d) = v d ∧ (if d = c then v c else t.hi d) = v d
  by_cases hdc : d = c
  · rw [if_pos hdc, if_pos hdc, hdc]; exact ⟨rfl, rfl⟩
  · rw [if_neg hdc, if_neg hdc]; exact h d hd (known_of_putValue hdc hk)

theorem Table.SameGame.clearRow_putValue [Zero α] {t s : Table α} {c : Nat} {x : α}
    (h : s.SameGame (t.putValue c x)) (hc : c < 2 ^ t.n) (hkc : t.known c = false) :
    (s.clearRow c).SameGame t := by
  refine ⟨h.n, ?_, fun d hd => ?_⟩
  · funext d
    show (if d = c then false else s.known d) = _
    by_cases hdc : d = c
    · rw [if_pos hdc, hdc, hkc]
    · rw [if_neg hdc, h.known]; exact if_neg hdc
  · have hdc : d ≠ c := fun e => Bool.false_ne_true (hkc.symm.trans (e ▸ hd (e ▸ hc)))
    have r := h.rows d fun hlt => (if_neg hdc).trans (hd hlt)
    show (if d = c then 0 else s.lo d) = _ ∧ (if d = c then 0 else s.hi d) = _
    rw [if_neg hdc, if_neg hdc, r.1, r.2]
    exact ⟨if_neg hdc, if_neg hdc⟩

end reveal

/-- the two exact superadditive computers -/
def Computer.IsSA : Computer → Prop
  | .sa => True
  | .sac => True
  | .sam _ => False

/-- the approximation for superadditive *monotone non-increasing* games -/
def Computer.NeedsMono : Computer → Prop
  | .sam _ => True
  | _ => False

theorem Computer.isSA_iff (k : Computer) : k.IsSA ↔ k = .sa ∨ k = .sac := by
  cases k <;> simp [Computer.IsSA]

theorem Computer.not_needsMono_of_isSA {k : Computer} (h : k.IsSA) : ¬ k.NeedsMono := by
  cases k <;> simp_all [Computer.IsSA, Computer.NeedsMono]

section refinement
variable [Add α] [Sub α] [LinearOrder α]

omit [Sub α] in
theorem Computer.specLo_known (k : Computer) (n : Nat) {known : Nat → Bool} (v : Nat → α) {c : Nat}
    (hk : known c = true) : k.specLo n known v c = v c := by
  cases k with
  | sam r => exact samB_known hk
  | _ => exact splitSpec_known hk

theorem Computer.specUp_known (k : Computer) (n : Nat) {known : Nat → Bool} (v : Nat → α) {c : Nat}
    (hk : known c = true) : k.specUp n known v c = v c := by
  cases k with
  | sam r => exact samUp_known hk
  | _ => exact upAgainst_known hk

theorem Computer.spec_congr (k : Computer) {n : Nat} {known : Nat → Bool} (hmin : MinInfo n known)
    {v v' : Nat → α} (hv : ∀ c, c < 2 ^ n → known c = true → v c = v' c) {c : Nat} (hc : c < 2 ^ n) :
    k.specLo n known v c = k.specLo n known v' c ∧ k.specUp n known v c = k.specUp n known v' c :=
  ⟨(k.refines enumFacts).lo_congr n known v v' hmin hv c hc,
   (k.refines enumFacts).up_congr n known v v' hmin hv c hc⟩

namespace BoundsCommon

theorem run_spec (k : Computer) (t : Table α) (hmin : MinInfo t.n t.known) (hinv : t.Inv) :
    ∃ t', k.run t = .ok t' ∧ t'.n = t.n ∧ t'.known = t.known ∧
      (∀ c, c < 2 ^ t.n → t'.lo c = k.specLo t.n t.known t.lo c ∧
        t'.hi c = k.specUp t.n t.known t.lo c) ∧
      (∀ c, 2 ^ t.n ≤ c → t'.lo c = t.lo c ∧ t'.hi c = t.hi c) :=
  compute_eq_spec enumFacts k t hmin hinv

/-- the same with the specification evaluated at the game `v` the table agrees with -/
theorem run_spec_agree (k : Computer) (t : Table α) {v : Nat → α} (hmin : MinInfo t.n t.known)
    (hag : t.Agree v) :
    ∃ t', k.run t = .ok t' ∧ t'.n = t.n ∧ t'.known = t.known ∧
      (∀ c, c < 2 ^ t.n → t'.lo c = k.specLo t.n t.known v c ∧ t'.hi c = k.specUp t.n t.known v c) ∧
      (∀ c, 2 ^ t.n ≤ c → t'.lo c = t.lo c ∧ t'.hi c = t.hi c) := by
  obtain ⟨t', h1, h2, h3, h4, h5⟩ := run_spec k t hmin hag.inv
  refine ⟨t', h1, h2, h3, ?_, h5⟩
  intro c hc
  have hcg := k.spec_congr hmin (v := t.lo) (v' := v) (fun d hd hk => (hag d hd hk).1) hc
  rw [(h4 c hc).1, (h4 c hc).2, hcg.1, hcg.2]
  exact ⟨rfl, rfl⟩

theorem minInfo_of_run {k : Computer} {t t' : Table α} (h : k.run t = .ok t') : MinInfo t.n t.known :=
  (compute_defined_iff enumFacts k t).mp ⟨t', h⟩

theorem run_sameGame {k : Computer} {t t' : Table α} (hinv : t.Inv) (h : k.run t = .ok t') :
    t'.SameGame t :=
  (k.refines enumFacts).sameGame_output (minInfo_of_run h) hinv h

end BoundsCommon

end refinement

section ordered
variable [AddCommGroup α] [LinearOrder α] [IsOrderedAddMonoid α]

theorem Computer.spec_sound (k : Computer) {n : Nat} {known : Nat → Bool} {v : Nat → α} (hsa : SA n v)
    (hmd : k.NeedsMono → MonoDec n v) (hmin : MinInfo n known) {c : Nat} (hc : c < 2 ^ n) :
    k.specLo n known v c ≤ v c ∧ v c ≤ k.specUp n known v c := by
  cases k with
  | sam r => exact sam_sound hsa (hmd trivial) hmin r hc
  | _ => exact SpecSA.soundness hmin (SpecSA.completion_self known hsa) c hc

theorem Computer.spec_mono_known (k : Computer) {n : Nat} {known known' : Nat → Bool} {v : Nat → α}
    (hsa : SA n v) (hmd : k.NeedsMono → MonoDec n v) (hmin : MinInfo n known)
    (hle : KnownLe known known') {c : Nat} (hc : c < 2 ^ n) :
    k.specLo n known v c ≤ k.specLo n known' v c ∧ k.specUp n known' v c ≤ k.specUp n known v c := by
  cases k with
  | sam r => exact sam_mono_known hsa (hmd trivial) hmin (SpecSA.minInfo_mono hmin hle) hle r hc
  | _ => exact ⟨SpecSA.loSpec_mono_knowledge hmin hle hsa c hc, SpecSA.upSpec_anti_knowledge hmin hle hsa c hc⟩

namespace BoundsCommon

/-- the conclusion of the soundness properties (C01, C04): same game size, same flags, the true value
    inside a non-empty interval on every row, and the interval is the point `v c` on known rows -/
def SoundFor (t t' : Table α) (v : Nat → α) : Prop :=
  t'.n = t.n ∧ t'.known = t.known ∧
    ∀ c, c < 2 ^ t.n → t'.lo c ≤ v c ∧ v c ≤ t'.hi c ∧ t'.lo c ≤ t'.hi c ∧
      (t.known c = true → t'.lo c = v c ∧ t'.hi c = v c)

/-- **soundness of the model**, uniformly for the registry: NO assumption on the stale content of
    unknown rows -/
theorem run_sound (k : Computer) (t : Table α) {v : Nat → α} (hsa : SA t.n v)
    (hmd : k.NeedsMono → MonoDec t.n v) (hmin : MinInfo t.n t.known) (hag : t.Agree v) :
    ∃ t', k.run t = .ok t' ∧ SoundFor t t' v := by
  obtain ⟨t', h1, h2, h3, h4, _⟩ := run_spec_agree k t hmin hag
  refine ⟨t', h1, h2, h3, ?_⟩
  intro c hc
  obtain ⟨s1, s2⟩ := k.spec_sound hsa hmd hmin (known := t.known) hc
  rw [(h4 c hc).1, (h4 c hc).2]
  refine ⟨s1, s2, le_trans s1 s2, ?_⟩
  intro hk
  exact ⟨k.specLo_known _ _ hk, k.specUp_known _ _ hk⟩

end BoundsCommon

end ordered

/-! ### concrete 3-player tables over `Int` (unknown rows hold stale junk) -/

namespace BoundsCommon.Ex
open ICG.SpecSA

/-- the 3-player table of the game `v` with knowledge `kn`; unknown rows hold `99` / `-99` -/
def mk (kn : Nat → Bool) (v : Nat → Int) : Table Int :=
  { n := 3, known := kn, lo := fun c => if kn c then v c else 99, hi := fun c => if kn c then v c else -99 }

theorem mk_agree (kn : Nat → Bool) (v : Nat → Int) : (mk kn v).Agree v := by
  intro c _ hk
  have hk' : kn c = true := hk
  simp [mk, hk']

/-- minimal information about the strictly superadditive game `exV` -/
def exT : Table Int := mk exKnown exV
/-- additionally the pair {0,1} -/
def exT' : Table Int := mk exKnown' exV

theorem exT_sa : SA exT.n exV := exV_SA
theorem exT_min : MinInfo exT.n exT.known := exKnown_minInfo
theorem exT_agree : exT.Agree exV := mk_agree _ _
theorem exT'_agree : exT'.Agree exV := mk_agree _ _
theorem exT_le : KnownLe exT.known exT'.known := exKnown_le

/-- minimal information about the superadditive, monotone non-increasing game `SAMExample.v` -/
def samT : Table Int := mk SAMExample.known SAMExample.v
def samT' : Table Int := mk SAMExample.known' SAMExample.v

theorem samT_sa : SA samT.n SAMExample.v := SAMExample.sa
theorem samT_md : MonoDec samT.n SAMExample.v := SAMExample.monoDec
theorem samT_min : MinInfo samT.n samT.known := SAMExample.minInfo
theorem samT_agree : samT.Agree SAMExample.v := mk_agree _ _
theorem samT'_agree : samT'.Agree SAMExample.v := mk_agree _ _
theorem samT_le : KnownLe samT.known samT'.known := SAMExample.known_le

end BoundsCommon.Ex

end ICG

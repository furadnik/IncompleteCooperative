/-
  ICG.Lemmas.Search — lemmas about ICG.Model.Search shared by Props/C11, Props/C12, Lemmas/ExpectedGreedy and
  Lemmas/ComposeSearch (core Lean only): `mapE`; the pool (any chunking = sequential map when tasks are state-free
  on an invariant; `runPool_map_of`, `runPool_total`: a view of the results that depends on the task alone, and a pool of
  total steps returns); the real chunking is a partition; what `set_known_values(full.get_values(ids), ids)` leaves in
  the table whatever it held before (`mem_seqIds`: which ids those are).  At the start, for C12: `getElem?_pad` (reading
  a padded row) and `rows_cases` / `rows_eq_cases` (inverting an equation between the result parts of two runs).
-/
import ICG.Model.Search
import ICG.Lemmas.EnvBasic

namespace ICG.Search
open ICG Table

theorem getElem?_pad {β : Type} (l : List β) (z : β) {limit t : Nat} (ht : t < limit) :
    (l ++ List.replicate (limit - l.length) z)[t]? = some (l[t]?.getD z) := by
  by_cases hl : t < l.length
  · rw [List.getElem?_append_left hl, List.getElem?_eq_getElem hl]; rfl
  · rw [List.getElem?_append_right (Nat.le_of_not_lt hl), List.getElem?_eq_none (Nat.le_of_not_lt hl),
      List.getElem?_replicate, if_pos (by omega)]; rfl

/-! ### calls that return `(state, result)` -/

theorem rows_cases {ε' σ β : Type} {x : Except ε' (σ × β)} {z : Except ε' β} (h : x.map (·.2) = z) :
    (∃ e, x = .error e ∧ z = .error e) ∨ ∃ s b, x = .ok (s, b) ∧ z = .ok b := by
  cases x with
  | error e => exact Or.inl ⟨e, rfl, h.symm⟩
  | ok p => exact Or.inr ⟨p.1, p.2, rfl, h.symm⟩

theorem rows_eq_cases {ε' σ σ' β : Type} {x : Except ε' (σ × β)} {y : Except ε' (σ' × β)}
    (h : x.map (·.2) = y.map (·.2)) :
    (∃ e, x = .error e ∧ y = .error e) ∨ ∃ s s' b, x = .ok (s, b) ∧ y = .ok (s', b) := by
  cases x with
  | error e =>
    cases y with
    | error e' => exact Or.inl ⟨e, rfl, by cases h; rfl⟩
    | ok q => cases h
  | ok p =>
    cases y with
    | error e' => cases h
    | ok q =>
      obtain ⟨s, b⟩ := p
      obtain ⟨s', b'⟩ := q
      cases h
      exact Or.inr ⟨s, s', b, rfl, rfl⟩

/-! ### the pool -/
section pool
variable {σ τ ρ ε : Type}

/-- tasks (those satisfying `P`) whose outcome, on every state satisfying an invariant the tasks
    preserve, is a function `g` of the task alone -/
def StateFree (step : σ → τ → Except ε (σ × ρ)) (Inv : σ → Prop) (P : τ → Prop) (g : τ → Except ε ρ) : Prop :=
  ∀ s t, Inv s → P t →
    match step s t with
    | .ok (s', r) => Inv s' ∧ g t = .ok r
    | .error e => g t = .error e

theorem runChunk_of_stateFree {step : σ → τ → Except ε (σ × ρ)} {Inv : σ → Prop} {P : τ → Prop}
    {g : τ → Except ε ρ} (h : StateFree step Inv P g) :
    ∀ (ts : List τ) (s : σ), Inv s → (∀ t ∈ ts, P t) → runChunk step s ts = mapE g ts := by
  intro ts
  induction ts with
  | nil => intro s _ _; rfl
  | cons t ts ih =>
    intro s hs hP
    have := h s t hs (hP t List.mem_cons_self)
    simp only [runChunk, mapE]
    cases hst : step s t with
    | error e => rw [hst] at this; simp only at this; rw [this]
    | ok p =>
      obtain ⟨s', r⟩ := p
      rw [hst] at this
      simp only at this
      simp only [this.2, ih s' this.1 (fun t' ht' => hP t' (List.mem_cons_of_mem _ ht'))]

theorem mapE_append (g : τ → Except ε ρ) (a b : List τ) :
    mapE g (a ++ b) =
      match mapE g a with
      | .error e => .error e
      | .ok r => match mapE g b with
        | .error e => .error e
        | .ok rs => .ok (r ++ rs) := by
  induction a with
  | nil => simp only [List.nil_append, mapE]; cases mapE g b <;> rfl
  | cons t a ih =>
    simp only [List.cons_append, mapE, ih]
    cases g t with
    | error e => rfl
    | ok r =>
      cases mapE g a with
      | error e => rfl
      | ok ra => cases mapE g b <;> rfl

theorem mapE_ok_of (g : τ → Except ε ρ) (f : τ → ρ) :
    ∀ (l : List τ), (∀ x ∈ l, g x = .ok (f x)) → mapE g l = .ok (l.map f) := by
  intro l
  induction l with
  | nil => intro _; rfl
  | cons x l ih =>
    intro h
    simp only [mapE, h x List.mem_cons_self, ih (fun y hy => h y (List.mem_cons_of_mem _ hy)), List.map_cons]

theorem mapE_getElem? (g : τ → Except ε ρ) : ∀ (l : List τ) (rs : List ρ), mapE g l = .ok rs →
    ∀ (i : Nat) (t : τ), l[i]? = some t → ∃ r, rs[i]? = some r ∧ g t = .ok r := by
  intro l
  induction l with
  | nil => intro _ _ _ _ ht; cases ht
  | cons t ts ih =>
    intro rs h i t' ht
    rw [mapE] at h
    cases hg : g t with
    | error e => rw [hg] at h; cases h
    | ok r =>
      cases hm : mapE g ts with
      | error e => rw [hg, hm] at h; cases h
      | ok rs' =>
        rw [hg, hm] at h
        cases h
        cases i with
        | zero => cases ht; exact ⟨r, rfl, hg⟩
        | succ i => exact ih rs' hm i t' ht

theorem mapE_error_of (e : ε) : ∀ (l : List τ), l ≠ [] →
    mapE (fun _ => (Except.error e : Except ε ρ)) l = .error e
  | [], h => absurd rfl h
  | _ :: _, _ => rfl

/-- every chunking gives the sequential map (quantifier over worker counts and chunk sizes). -/
theorem runPool_of_stateFree {step : σ → τ → Except ε (σ × ρ)} {Inv : σ → Prop} {P : τ → Prop}
    {g : τ → Except ε ρ} (h : StateFree step Inv P g) (snapshot : σ) (hs : Inv snapshot)
    (chunks : List (List τ)) (hP : ∀ t ∈ chunks.flatten, P t) :
    runPool step snapshot chunks = mapE g chunks.flatten := by
  induction chunks with
  | nil => rfl
  | cons c cs ih =>
    have h1 : ∀ t ∈ c, P t := fun t ht => hP t (by simp [ht])
    have h2 : ∀ t ∈ cs.flatten, P t := fun t ht => hP t (by
      simp only [List.flatten_cons, List.mem_append]; exact Or.inr ht)
    simp only [runPool, List.flatten_cons, mapE_append, runChunk_of_stateFree h c snapshot hs h1, ih h2]
    cases mapE g c with
    | error e => rfl
    | ok r => cases mapE g cs.flatten <;> rfl

theorem runPool_chunking_irrelevant {step : σ → τ → Except ε (σ × ρ)} {Inv : σ → Prop} {P : τ → Prop}
    {g : τ → Except ε ρ} (h : StateFree step Inv P g) (snapshot : σ) (hs : Inv snapshot)
    (c1 c2 : List (List τ)) (hc : c1.flatten = c2.flatten) (hP : ∀ t ∈ c1.flatten, P t) :
    runPool step snapshot c1 = runPool step snapshot c2 := by
  rw [runPool_of_stateFree h snapshot hs c1 hP, runPool_of_stateFree h snapshot hs c2 (hc ▸ hP), hc]

theorem runChunk_cons_ok {step : σ → τ → Except ε (σ × ρ)} {s : σ} {t : τ} {ts : List τ} {rs : List ρ}
    (h : runChunk step s (t :: ts) = .ok rs) :
    ∃ s' r rs', step s t = .ok (s', r) ∧ runChunk step s' ts = .ok rs' ∧ rs = r :: rs' := by
  rw [runChunk] at h
  cases hst : step s t with
  | error e => rw [hst] at h; cases h
  | ok p =>
    rw [hst] at h
    dsimp only at h
    cases hr : runChunk step p.1 ts with
    | error e => rw [hr] at h; cases h
    | ok rs' => rw [hr] at h; cases h; exact ⟨p.1, p.2, rs', rfl, hr, rfl⟩

theorem runPool_cons_ok {step : σ → τ → Except ε (σ × ρ)} {snapshot : σ} {c : List τ} {cs : List (List τ)}
    {rs : List ρ} (h : runPool step snapshot (c :: cs) = .ok rs) :
    ∃ r rs', runChunk step snapshot c = .ok r ∧ runPool step snapshot cs = .ok rs' ∧ rs = r ++ rs' := by
  rw [runPool] at h
  cases hc : runChunk step snapshot c with
  | error e => rw [hc] at h; cases h
  | ok r =>
    rw [hc] at h
    dsimp only at h
    cases hcs : runPool step snapshot cs with
    | error e => rw [hcs] at h; cases h
    | ok rs' => rw [hcs] at h; cases h; exact ⟨r, rs', rfl, rfl, rfl⟩

/-- if some view `π` of every task's result is a function `f` of the task alone (whatever the shared state), a chunk's
    results, viewed through `π`, are `f` of its tasks -/
theorem runChunk_map_of {β : Type} {step : σ → τ → Except ε (σ × ρ)} {π : ρ → β} {f : τ → β}
    (H : ∀ s t s' r, step s t = .ok (s', r) → π r = f t) :
    ∀ (ts : List τ) (s : σ) (rs : List ρ), runChunk step s ts = .ok rs → rs.map π = ts.map f := by
  intro ts
  induction ts with
  | nil => intro _ _ hr; cases hr; rfl
  | cons t ts ih =>
    intro s _ hr
    obtain ⟨s', r, rs', hst, hrest, rfl⟩ := runChunk_cons_ok hr
    rw [List.map_cons, List.map_cons, H s t s' r hst, ih s' rs' hrest]

theorem runPool_map_of {β : Type} {step : σ → τ → Except ε (σ × ρ)} {π : ρ → β} {f : τ → β}
    (H : ∀ s t s' r, step s t = .ok (s', r) → π r = f t) (snapshot : σ) :
    ∀ (chunks : List (List τ)) (rs : List ρ), runPool step snapshot chunks = .ok rs →
      rs.map π = chunks.flatten.map f := by
  intro chunks
  induction chunks with
  | nil => intro _ hr; cases hr; rfl
  | cons c cs ih =>
    intro _ hr
    obtain ⟨r, rs', hc, hcs, rfl⟩ := runPool_cons_ok hr
    rw [List.map_append, List.flatten_cons, List.map_append, runChunk_map_of H c snapshot r hc, ih rs' hcs]

theorem runChunk_total {step : σ → τ → Except ε (σ × ρ)}
    (H : ∀ s t, ∃ p, step s t = .ok p) : ∀ (ts : List τ) (s : σ), ∃ rs, runChunk step s ts = .ok rs := by
  intro ts
  induction ts with
  | nil => intro s; exact ⟨[], rfl⟩
  | cons t ts ih =>
    intro s
    obtain ⟨⟨s', r⟩, hp⟩ := H s t
    obtain ⟨rs, hrs⟩ := ih s'
    exact ⟨r :: rs, by simp only [runChunk, hp, hrs]⟩

theorem runPool_total {step : σ → τ → Except ε (σ × ρ)}
    (H : ∀ s t, ∃ p, step s t = .ok p) (snapshot : σ) :
    ∀ (chunks : List (List τ)), ∃ rs, runPool step snapshot chunks = .ok rs := by
  intro chunks
  induction chunks with
  | nil => exact ⟨[], rfl⟩
  | cons c cs ih =>
    obtain ⟨r, hr⟩ := runChunk_total H c snapshot
    obtain ⟨rs, hrs⟩ := ih
    exact ⟨r ++ rs, by simp only [runPool, hr, hrs]⟩

theorem chunksGo_flatten (size : Nat) (hsize : 0 < size) :
    ∀ (fuel : Nat) (l : List τ), l.length ≤ fuel → (chunksGo size fuel l).flatten = l := by
  intro fuel
  induction fuel with
  | zero => intro l hl; simp only [Nat.le_zero, List.length_eq_zero_iff] at hl; subst hl; rfl
  | succ f ih =>
    intro l hl
    simp only [chunksGo]
    by_cases hnil : l = []
    · subst hnil; rfl
    · have h0 : (l.isEmpty || size == 0) = false := by
        simp only [Bool.or_eq_false_iff, List.isEmpty_eq_false_iff, beq_eq_false_iff_ne]
        exact ⟨hnil, by omega⟩
      rw [h0]
      simp only [Bool.false_eq_true, ↓reduceIte, List.flatten_cons]
      rw [ih (l.drop size)]
      · exact List.take_append_drop size l
      · have : 0 < l.length := List.length_pos_iff.mpr hnil
        simp only [List.length_drop]; omega

theorem chunkSize_pos {len procs : Nat} (hl : 0 < len) (hp : 0 < procs) : 0 < chunkSize len procs := by
  unfold chunkSize
  by_cases h : len % (4 * procs) = 0
  · have : 4 * procs ≤ len := Nat.le_of_dvd hl (Nat.dvd_of_mod_eq_zero h)
    have := Nat.div_pos this (by omega : 0 < 4 * procs)
    omega
  · simp [h]

/-- the chunks `Pool.starmap` really makes are a partition of the task list into consecutive blocks -/
theorem poolChunks_flatten (l : List τ) {procs : Nat} (hp : 0 < procs) : (poolChunks l procs).flatten = l := by
  unfold poolChunks chunksOf
  cases l with
  | nil => rfl
  | cons a l =>
    exact chunksGo_flatten _ (chunkSize_pos (by simp) hp) _ _ (Nat.le_refl _)

end pool

/-! ### what `set_known_values(full.get_values(ids), ids)` writes -/
section apply
variable {α : Type} [Zero α]

/-- `set_known_values(full.get_values(ids), ids)` on the scratch table: whatever it held, afterwards it is `exactTable` -/
theorem applyIds_ok (t : Table α) (v : Nat → α) (ids : List Nat) (h : ∀ c ∈ ids, c < 2 ^ t.n) :
    applyIds t v ids = .ok (exactTable t.n v (fun c => ids.contains c)) := by
  have hall : ids.all (fun x => decide (x < 2 ^ t.n)) = true :=
    List.all_eq_true.mpr (fun x hx => decide_eq_true (h x hx))
  simp only [applyIds, hiddenValues, hall, ↓reduceIte, Env.setKnownValues_ids t v ids h]

theorem applyIds_err (t : Table α) (v : Nat → α) (ids : List Nat) (h : ¬ ∀ c ∈ ids, c < 2 ^ t.n) :
    applyIds t v ids = .error (.index, t) := by
  have hall : ids.all (fun x => decide (x < 2 ^ t.n)) = false := by
    rw [Bool.eq_false_iff]; intro hc; exact h (by simpa [List.all_eq_true] using hc)
  simp [applyIds, hiddenValues, hall]

theorem applyIds_n {t t1 : Table α} {v : Nat → α} {ids : List Nat} (h : applyIds t v ids = .ok t1) : t1.n = t.n := by
  by_cases hr : ∀ c ∈ ids, c < 2 ^ t.n
  · rw [applyIds_ok t v ids hr] at h; cases h; rfl
  · rw [applyIds_err t v ids hr] at h; cases h

/-- the table written depends on the *set* of ids only — not on their order or multiplicity (this is why
    the unspecified iteration order of the Python set in `apply_action_sequence` does not matter). -/
theorem applyIds_congr (t : Table α) (v : Nat → α) (ids ids' : List Nat) (h : ∀ c, c ∈ ids ↔ c ∈ ids') :
    applyIds t v ids = applyIds t v ids' := by
  by_cases hr : ∀ c ∈ ids, c < 2 ^ t.n
  · have hr' : ∀ c ∈ ids', c < 2 ^ t.n := fun c hc => hr c ((h c).mpr hc)
    rw [applyIds_ok t v ids hr, applyIds_ok t v ids' hr']
    congr 2
    funext c
    rw [Bool.eq_iff_iff]; simp [h c]
  · have hr' : ¬ ∀ c ∈ ids', c < 2 ^ t.n := fun hc => hr (fun c hc' => hc c ((h c).mp hc'))
    rw [applyIds_err t v ids hr, applyIds_err t v ids' hr']

theorem mem_seqIds (seq incl : List Nat) (c : Nat) : c ∈ seqIds seq incl ↔ c ∈ seq ∨ c ∈ incl := by
  unfold seqIds
  cases incl with
  | nil => simp
  | cons a incl => simp [List.mem_eraseDups]

end apply
end ICG.Search

#print axioms ICG.Search.runChunk_map_of
#print axioms ICG.Search.runPool_map_of
#print axioms ICG.Search.runChunk_total
#print axioms ICG.Search.runPool_total

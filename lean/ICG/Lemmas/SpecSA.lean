/-
  ICG.Lemmas.SpecSA — the mathematics of the superadditive bound specification (`ICG.Spec.Bounds`),
  for every number of players `n` and every ordered abelian group of values.
  `SpecSA1`–`3` live in `namespace ICG.SpecSA`; what holds for every `splitSpec` / `upAgainst`, of which
  `loSpec` / `upSpec` are instances, is in `SpecBasic` and `SpecSplit` (`namespace ICG`, except `KnownLe`
  and `minInfo_mono`, which `SpecBasic` puts into `ICG.SpecSA`).  The SAM sequence is in `SpecSAM`
  (`namespace ICG`), not imported here.

  `SpecSA1`: no junk under `MinInfo`, congruence, soundness (C01)
  `SpecSA2`: tightness of both bounds and the best-partition formula (C02)
  `SpecSA3`: monotonicity in knowledge (C07), gaps, a concrete 3-player instance over `Int` satisfying all
             hypotheses
-/
import ICG.Lemmas.SpecSA1
import ICG.Lemmas.SpecSA2
import ICG.Lemmas.SpecSA3

/-
  ICG.Lemmas.EnvReal — the model's own bound computers (`Computer.run`: reference, cached, monotone
  approximation with any number of repetitions) satisfy what the environment theorems assume about the
  `compute` parameter: `ComputeOK`, `KnowledgeOnly` (ICG.Lemmas.EnvUndo) and definedness on every table that
  knows the minimal information.  All three follow from `computer_run_spec` (the row-wise specification of a successful
  run on a table with exact known rows).  Obtained from the refinement corollaries (ICG.Lemmas.RefineCor) with
  `enumFacts` plugged in; for every linearly ordered value type with `+` and `-`.
-/
import ICG.Lemmas.EnvUndo
import ICG.Lemmas.RefineCor
import ICG.Lemmas.Enum

namespace ICG.Env
open ICG
variable {α : Type} [Add α] [Sub α] [LinearOrder α]

/-- a successful run of a registered computer on a table with exact known rows: the row-wise specification -/
theorem computer_run_spec (k : Computer) {t t' : Table α} (hex : Exact t) (h : k.run t = .ok t') :
    t'.n = t.n ∧ t'.known = t.known ∧
      (∀ c, c < 2 ^ t.n → t'.lo c = k.specLo t.n t.known t.lo c ∧ t'.hi c = k.specUp t.n t.known t.lo c) ∧
      (∀ c, 2 ^ t.n ≤ c → t'.lo c = t.lo c ∧ t'.hi c = t.hi c) := by
  have hmin := (compute_defined_iff enumFacts k t).mp ⟨t', h⟩
  obtain ⟨t'', h', rest⟩ := compute_eq_spec enumFacts k t hmin (fun c _ hc => hex c hc)
  rw [h] at h'
  cases h'
  exact rest

theorem computer_ok (k : Computer) : ComputeOK (k.run : Table α → Except Err (Table α)) where
  n := fun hex h => (computer_run_spec k hex h).1
  known := fun hex h c => by rw [(computer_run_spec k hex h).2.1]
  vals := by
    intro t t' hex h c hc
    obtain ⟨_, _, hrows, hout⟩ := computer_run_spec k hex h
    by_cases hlt : c < 2 ^ t.n
    · have := hrows c hlt
      rw [this.1, this.2, (k.refines enumFacts).lo_known _ _ _ _ hc, (k.refines enumFacts).up_known _ _ _ _ hc]
      exact ⟨rfl, hex c hc⟩
    · exact hout c (Nat.le_of_not_lt hlt)

theorem computer_knowledgeOnly (k : Computer) : KnowledgeOnly (k.run : Table α → Except Err (Table α)) where
  rows := by
    intro t1 t2 r1 r2 hsk hex1 hex2 h1 h2 c hc
    have hmin := (compute_defined_iff enumFacts k t1).mp ⟨r1, h1⟩
    obtain ⟨r1', r2', g1, g2, _, _, hrows⟩ := compute_knowledge_only enumFacts k t1 t2 hsk.n (funext hsk.known)
      (fun c _ hk => (hsk.vals hk).1) hmin (fun c _ hk => hex1 c hk) (fun c _ hk => hex2 c hk)
    rw [h1] at g1
    rw [h2] at g2
    cases g1
    cases g2
    exact hrows c hc

/-- the registered computers run on every table that knows ∅, N and the singletons -/
theorem computer_total (k : Computer) (t : Table α) (hmin : MinInfo t.n t.known) : ∃ t', k.run t = .ok t' :=
  (compute_defined_iff enumFacts k t).mpr hmin

end ICG.Env

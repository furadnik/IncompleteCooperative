/-
  ICG.Lemmas.RefineSam — the refinement for the approximate superadditive-monotone computer `sam r`.
  One round (split pass + superset-max pass) computes `closeSpec (splitSpec … extra)`; in rounds `i ≥ 1`
  the extra candidate of row `c` is `lo c + lo ∅`, read from the table at the start of the round.
  `sam_core`: the table `sam r` returns on a `MinInfo` table, lower column `samB … r`, upper column
  `samUpG` (`samUp` with the three columns it reads kept apart); with `Inv` it is `samUp … r`.
-/
import ICG.Lemmas.Refine

namespace ICG.Refine
open Table

variable {α : Type}

section steps
variable [Add α] [Sub α] [LinearOrder α]

omit [Add α] [Sub α] [LinearOrder α] in
/-- `all_coalitions[(coal_structure[c] == k1) | (coal_structure[c] == k2)]` -/
theorem mem_structSel_or (E : EnumFacts) {n c d : Nat} (hc : c < 2 ^ n) (h0 : c ≠ 0) (k1 k2 : Int) :
    d ∈ (allCoalitions n).filter (fun d => coalStructure n c d == k1 || coalStructure n c d == k2) ↔
      d < 2 ^ n ∧ (relCode c d = k1 ∨ relCode c d = k2) := by
  simp only [allCoalitions, List.mem_filter, List.mem_range, Bool.or_eq_true, beq_iff_eq]
  exact and_congr_right fun hd => by rw [coalStructure_eq_relCode E hc h0 hd]

omit [Sub α] in
theorem samSplitStep_true :
    samSplitStep true = (sacLowerStep : Table α → Nat → Except Err α) := by
  funext t c; rfl

omit [Sub α] in
/-- split step of a round `i ≥ 1`: the candidates are the proper splits and `lo c + lo ∅` -/
theorem samSplitStep_false_ok (E : EnumFacts) (t : Table α) (c : Nat) (L : Nat → α) (e : α)
    (hc : c < 2 ^ t.n) (h0 : c ≠ 0)
    (hlo : ∀ x, x &&& c = x → x ≠ 0 → x ≠ c → t.lo x = L x)
    (he : t.lo c + t.lo 0 = e) :
    ∃ m, listMax? ([e] ++ (properSubs c).map fun x => L x + L (c - x)) = some m ∧
      samSplitStep false t c = .ok m := by
  obtain ⟨m, hm⟩ := listMax?_isSome
    (l := [e] ++ (properSubs c).map fun x => L x + L (c - x)) (by simp)
  refine ⟨m, hm, npMax_of ((listMax?_congr fun y => ?_).trans hm)⟩
  have hval : ∀ d, d &&& c = d → d ≠ 0 → d ≠ c → t.lo d + t.lo (c ^^^ d) = L d + L (c - d) := by
    intro d h1 h2 h3
    obtain ⟨g1, g2, g3⟩ := compl_proper h1 h2 h3
    rw [← sub_eq_xor_of_sub h1, hlo d h1 h2 h3, hlo (c - d) g1 g2 g3]
  simp only [Bool.false_eq_true, if_false, List.mem_map, mem_structSel_or E hc h0, relCode_eq_one,
    relCode_eq_zero h0, List.mem_append, List.mem_singleton, mem_properSubs]
  constructor
  · rintro ⟨d, ⟨_, ⟨h1, h2, h3⟩ | rfl⟩, rfl⟩
    · exact Or.inr ⟨d, ⟨h1, h2, h3⟩, (hval d h1 h2 h3).symm⟩
    · exact Or.inl (by rw [Nat.xor_self, he])
  · rintro (rfl | ⟨d, ⟨h1, h2, h3⟩, rfl⟩)
    · exact ⟨c, ⟨hc, Or.inr rfl⟩, by rw [Nat.xor_self, he]⟩
    · exact ⟨d, ⟨sub_lt_two_pow h1 hc, Or.inl ⟨h1, h2, h3⟩⟩, hval d h1 h2 h3⟩

omit [Add α] [Sub α] in
theorem samSuperStep_ok (E : EnumFacts) (t : Table α) (c : Nat) (A : Nat → α)
    (hc : c < 2 ^ t.n) (h0 : c ≠ 0)
    (hlo : ∀ T, T < 2 ^ t.n → c &&& T = c → t.lo T = A T) :
    ∃ m, listMax? ((supers t.n c).map A) = some m ∧
      samSuperStep t c = .ok m := by
  obtain ⟨m, hm⟩ := listMax?_isSome (supers_map_ne_nil hc A)
  have hmem : ∀ T, T ∈ (allCoalitions t.n).filter
        (fun d => coalStructure t.n c d == 2 || coalStructure t.n c d == 0) ↔
      T ∈ supers t.n c := by
    intro T
    rw [mem_supers, mem_structSel_or E hc h0, relCode_eq_two, relCode_eq_zero h0]
    refine and_congr_right fun _ => ⟨?_, fun h => ?_⟩
    · rintro (h | rfl)
      · exact h.1
      · exact Nat.and_self T
    · by_cases hTc : T = c
      · exact Or.inr hTc
      · exact Or.inl ⟨h, hTc⟩
  refine ⟨m, hm, npMax_of ((listMax?_map_congr hmem fun T hT => ?_).trans hm)⟩
  obtain ⟨h1, h2⟩ := mem_supers.mp ((hmem T).mp hT)
  exact hlo T h1 h2

omit [Add α] in
theorem samUpperStep_ok (E : EnumFacts) (t : Table α) (c : Nat) (V L H : Nat → α)
    (hmin : MinInfo t.n t.known) (hc : c < 2 ^ t.n) (hk : t.known c = false)
    (hV : ∀ T, T < 2 ^ t.n → t.known T = true → t.lo T = V T)
    (hL : ∀ x, x < 2 ^ t.n → t.lo x = L x)
    (hH : ∀ x, x < 2 ^ t.n → t.known x = true → t.hi x = H x) :
    samUpperStep t c = .ok (samUpG t.n t.known V L H c) := by
  obtain ⟨a, ha⟩ := exists_min_knownSupers hmin hc hk (fun T => V T - L (T - c))
  obtain ⟨b, hb⟩ := exists_min_knownSubs hmin hc hk H
  rw [samUpG_unknown hk ha hb]
  have h0 := hmin.ne_zero hk
  have hmem := mem_structSel_two_known E t hc h0
  have hmem' : ∀ x, x ∈ (structSel t.n c 1).filter t.known ↔ x ∈ knownSubs t.known c := by
    intro x
    rw [List.mem_filter, mem_structSel_one E hc h0, mem_knownSubs_iff, and_assoc, and_assoc]
  have e1 : npMin (((structSel t.n c 2).filter t.known).map (fun x => t.lo x - t.lo (c ^^^ x))) =
      .ok a := by
    refine npMin_of ((listMin?_map_congr hmem fun T hT => ?_).trans ha)
    obtain ⟨h1, h2, _, h4⟩ := mem_knownSupers_iff.mp ((hmem T).mp hT)
    rw [xor_eq_sub_of_sup h2, hV T h1 h4, hL (T - c) (Nat.sub_lt_of_lt h1)]
  have e2 : npMin (((structSel t.n c 1).filter t.known).map t.hi) = .ok b := by
    refine npMin_of ((listMin?_map_congr hmem' fun x hx => ?_).trans hb)
    obtain ⟨hs, _, _, hkx⟩ := mem_knownSubs_iff.mp ((hmem' x).mp hx)
    exact hH x (sub_lt_two_pow hs hc) hkx
  unfold samUpperStep
  simp only [e1, e2, bind, Except.bind, pure, Except.pure]

end steps

section rounds
variable [Add α] [Sub α] [LinearOrder α]

/-- the extra candidates of a split pass: none in round 0, `lo c + lo ∅` afterwards -/
def roundExtra (first : Bool) (lo : Nat → α) : Nat → List α :=
  if first then fun _ => [] else fun c => [lo c + lo 0]

omit [Sub α] in
theorem samRound_spec (E : EnumFacts) (t0 : Table α) (hmin : MinInfo t0.n t0.known)
    (order : List Nat) (ho : UnknownOrder t0.n t0.known order) (first : Bool) :
    samRound order first t0 = .ok
      { t0 with lo := fun c => if c < 2 ^ t0.n then
          closeSpec t0.n t0.known t0.lo (splitSpec t0.known t0.lo (roundExtra first t0.lo)) c
        else t0.lo c } := by
  have h1 := splitPass E t0 hmin (roundExtra first t0.lo) order ho (samSplitStep first)
    fun lo c L hc hk hsub hself hzero => by
      obtain ⟨_, hx⟩ := exists_properSub hmin hc hk
      cases first with
      | true => exact sacLowerStep_ok E _ c L hc (hmin.ne_zero hk) hx hsub
      | false =>
        exact samSplitStep_false_ok E _ c L _ hc (hmin.ne_zero hk) hsub
          (congrArg₂ (· + ·) hself hzero)
  have h2 := closePass E
    { t0 with lo := fun c =>
        if c < 2 ^ t0.n then splitSpec t0.known t0.lo (roundExtra first t0.lo) c else t0.lo c }
    order ho samSuperStep fun lo c hc hk hsup =>
      samSuperStep_ok E { t0 with lo := lo } c _ hc (hmin.ne_zero hk) hsup
  simp only [samRound, h1, compactT_eq, h2, bind, Except.bind, pure, Except.pure]
  congr 2
  funext c
  by_cases hc : c < 2 ^ t0.n
  · rw [if_pos hc, if_pos hc]
    exact closeSpec_congr (fun d hd hkd => (if_pos hd).trans (splitSpec_known hkd))
      (fun d hd => if_pos hd) c hc
  · rw [if_neg hc, if_neg hc, if_neg hc]

omit [Sub α] in
theorem samRounds_spec (E : EnumFacts) (t : Table α) (hmin : MinInfo t.n t.known)
    (order : List Nat) (ho : UnknownOrder t.n t.known order) :
    ∀ (r i : Nat),
      samRounds order r
          { t with lo := fun c => if c < 2 ^ t.n then samB t.n t.known t.lo i c else t.lo c } = .ok
        { t with lo := fun c => if c < 2 ^ t.n then samB t.n t.known t.lo (i + r) c else t.lo c }
  | 0, _ => rfl
  | r + 1, i => by
    have hpos : 0 < 2 ^ t.n := Nat.two_pow_pos _
    have h1 := samRound_spec E
      { t with lo := fun c => if c < 2 ^ t.n then samB t.n t.known t.lo i c else t.lo c }
      hmin order ho false
    have h2 := samRounds_spec E t hmin order ho r (i + 1)
    rw [Nat.add_assoc, Nat.add_comm 1 r] at h2
    simp only [samRounds, h1, bind, Except.bind]
    refine Eq.trans (congrArg (samRounds order r) ?_) h2
    congr 1
    funext c
    by_cases hc : c < 2 ^ t.n
    · rw [if_pos hc, if_pos hc]
      have hB : ∀ d, d < 2 ^ t.n → t.known d = true →
          (if d < 2 ^ t.n then samB t.n t.known t.lo i d else t.lo d) = t.lo d :=
        fun d hd hkd => (if_pos hd).trans (samB_known hkd)
      refine closeSpec_congr hB (splitSpec_congr hmin hB fun d hd _ => ?_) c hc
      show [(if d < 2 ^ t.n then _ else _) + (if 0 < 2 ^ t.n then _ else _)] = [_]
      rw [if_pos hd, if_pos hpos, samB_known hmin.1]
    · rw [if_neg hc, if_neg hc, if_neg hc]

theorem _root_.ICG.sam_core (E : EnumFacts) (r : Nat) (t : Table α) (hmin : MinInfo t.n t.known) :
    sam r t = .ok
      { t with
        lo := fun c => if c < 2 ^ t.n then samB t.n t.known t.lo r c else t.lo c
        hi := fun c => if c < 2 ^ t.n ∧ t.known c = false then
            samUpG t.n t.known t.lo (samB t.n t.known t.lo r) t.hi c else t.hi c } := by
  have ho := unknownOrder_sac E t
  have h0 : samRound (unknownSorted t) true t = .ok
      { t with lo := fun c => if c < 2 ^ t.n then samB t.n t.known t.lo 0 c else t.lo c } :=
    samRound_spec E t hmin _ ho true
  have h1 := samRounds_spec E t hmin _ ho r 0
  rw [Nat.zero_add] at h1
  have h2 := hiPass
    { t with lo := fun c => if c < 2 ^ t.n then samB t.n t.known t.lo r c else t.lo c }
    (unknownSorted t) ho.mem (samUpG t.n t.known t.lo (samB t.n t.known t.lo r) t.hi) samUpperStep
    fun _ c hc hk hhi =>
      samUpperStep_ok E _ c t.lo (samB t.n t.known t.lo r) t.hi hmin hc hk
        (fun T hT hkT => (if_pos hT).trans (samB_known hkT)) (fun x hx => if_pos hx)
        (fun x _ hx => hhi x hx)
  unfold sam
  rw [if_pos (sacPrecond_of_minInfo hmin)]
  simp only [h0, h1, compactT_eq, h2, bind, Except.bind, pure, Except.pure]

theorem _root_.ICG.sam_eq_spec (E : EnumFacts) (r : Nat) (t : Table α) (hmin : MinInfo t.n t.known)
    (hinv : t.Inv) :
    ∃ t', sam r t = .ok t' ∧ t'.n = t.n ∧ t'.known = t.known ∧
      (∀ c, c < 2 ^ t.n → t'.lo c = samB t.n t.known t.lo r c ∧
        t'.hi c = samUp t.n t.known t.lo r c) ∧
      (∀ c, 2 ^ t.n ≤ c → t'.lo c = t.lo c ∧ t'.hi c = t.hi c) :=
  rows_of_written (sam_core E r t hmin)
    (fun c hc hk => ((hinv c hc hk).symm.trans (samUp_known hk).symm))
    (fun c hc _ => samUpG_congr hmin (fun _ _ _ => rfl) (fun _ _ => rfl)
      (fun d hd hkd => (hinv d hd hkd).symm) c hc)

end rounds

end ICG.Refine

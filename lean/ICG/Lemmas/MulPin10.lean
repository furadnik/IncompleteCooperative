/-
  ICG.Lemmas.MulPin10 — the candidate coalitions that the model of `compute_max_xos_approximation` computes for the game
  `pin10` (ICG/Lemmas/MulPin10Game.lean) at the DEFAULT parameters: one run of `candidates` in the kernel.  What follows
  from it: `ICG.Mul.lower_bound_fails_default` (ICG/Props/Mul.lean).
-/
import ICG.Lemmas.MulPin10Game
namespace ICG.Mul
open ICG

/-- rows: the k-values √10, 2√10, 10; columns: the r-values 1, 2, 4, …, 64, 100 -/
def pin10Cands : List (List (List Nat)) :=
  [[[], [1, 4, 16], [], [42], [42], [42], [], []],
   [[1, 4, 16, 64, 256], [], [175], [175], [175], [], [], []],
   [[], [511], [511], [511], [511], [], [], []]]

set_option maxRecDepth 1000000 in
theorem pin10_candidates : ∃ q, candidates (okGet pin10) 10 alpha0 1 eps0 4100 = .ok (pin10Cands, q) := by
  have h : (candidates (okGet pin10) 10 alpha0 1 eps0 4100).map Prod.fst = .ok pin10Cands := by decide +kernel
  cases hc : candidates (okGet pin10) 10 alpha0 1 eps0 4100 with
  | error e => rw [hc] at h; cases h
  | ok res =>
    obtain ⟨arr, q⟩ := res
    rw [hc] at h
    cases h
    exact ⟨q, rfl⟩

/-- the fuel 4100 above satisfies the hypothesis `n < fuel·eps²` of `maxSubroutine_terminates` (the least such number,
    `AtRat.fuelFor 10 eps0`, is 4000) -/
example : (10 : Rat) < (4100 : Nat) * eps0 * eps0 := by decide +kernel

end ICG.Mul

/-
  ICG.Lemmas.GenFacts — (namespace `ICG.Gen`) lemmas for C10: games gated by one player, "cost" functions (whose
  negations are the SAM games), `Except` plumbing (`bind_eq_ok`, `mapM_ok_*`), facts about the loops and sums of
  generators.py (pair sums, the `_apply_or` loop, coverage unions with `coverFinset`), and the mask identities for
  splitting a disjoint pair along a disjoint union.
-/
import ICG.Model.Generators
import ICG.Spec.Bounds
import ICG.Lemmas.NormFacts
import ICG.Lemmas.ListMax
import Mathlib.Algebra.Order.Ring.Defs
import Mathlib.Data.Finset.Card
import Mathlib.Data.Finset.Union

namespace ICG.Gen
open ICG ICG.Norm Finset

variable {α : Type}

theorem sub_iff_testBit {x c : Nat} : x &&& c = x ↔ ∀ i, x.testBit i = true → c.testBit i = true :=
  ICG.sub_iff_testBit

/-! ### weight sums (`np.sum(weights[list(coalition.players)])`) -/

section wsum
variable [AddCommMonoid α]

theorem wsum_eq {n c : Nat} (hc : c < 2 ^ n) (w : Nat → α) : wsum w c = bsum n w c := listSum_players hc w

theorem wsum_or {n a b : Nat} (ha : a < 2 ^ n) (hb : b < 2 ^ n) (hab : a &&& b = 0) (w : Nat → α) :
    wsum w (a ||| b) = wsum w a + wsum w b := by
  rw [wsum_eq (or_lt_two_pow ha hb), wsum_eq ha, wsum_eq hb, bsum_or _ _ hab]

theorem wsum_empty (w : Nat → α) : wsum w 0 = 0 := by
  rw [wsum, players_zero]; rfl

theorem wsum_nonneg [PartialOrder α] [IsOrderedAddMonoid α] {n c : Nat} (hc : c < 2 ^ n) {w : Nat → α}
    (hw : ∀ i, i < n → 0 ≤ w i) : 0 ≤ wsum w c := by
  rw [wsum_eq hc]; exact bsum_nonneg n hw c

end wsum

theorem zeroAt_nonneg [Zero α] [Preorder α] {n : Nat} {w : Nat → α} (hw : ∀ i, i < n → 0 ≤ w i) (owner : Nat) :
    ∀ i, i < n → 0 ≤ zeroAt w owner i := by
  intro i hi
  unfold zeroAt
  split
  · exact le_refl _
  · exact hw i hi

/-- A game that is 0 on every coalition without `owner`: of two disjoint coalitions at most one contains the owner
    and the other is worth 0, so superadditivity only asks that `g` does not decrease when a disjoint coalition
    joins one that contains the owner. -/
theorem gated_SA [AddZeroClass α] [Preorder α] {n : Nat} (owner : Nat) {g : Nat → α}
    (hg : ∀ a b, a < 2 ^ n → b < 2 ^ n → a &&& b = 0 → a.testBit owner = true → g a ≤ g (a ||| b)) :
    SA n (fun c => if hasPlayer c owner then g c else 0) := by
  intro a b ha hb hab
  show (if hasPlayer a owner then g a else 0) + (if hasPlayer b owner then g b else 0)
    ≤ if hasPlayer (a ||| b) owner then g (a ||| b) else 0
  rw [hasPlayer_eq_testBit, hasPlayer_eq_testBit, hasPlayer_eq_testBit, Nat.testBit_or]
  cases hao : a.testBit owner <;> cases hbo : b.testBit owner
  · simp only [Bool.or_false, Bool.false_eq_true, if_false, zero_add, le_refl]
  · simp only [Bool.false_or, Bool.false_eq_true, if_false, if_true, zero_add]
    rw [Nat.or_comm]
    exact hg b a hb ha (Nat.and_comm a b ▸ hab) hbo
  · simp only [Bool.or_false, Bool.false_eq_true, if_false, if_true, add_zero]
    exact hg a b ha hb hab hao
  · exact absurd ⟨hao, hbo⟩ (testBit_disjoint hab)

/-! ### cost functions: `u ∅ = 0`, subadditive, monotone non-decreasing; their negations are the SAM games -/

section cost
variable [Add α] [Zero α] [LE α]

/-- superadditive, monotone non-increasing, zero at ∅ -/
def SAM0 (n : Nat) (v : Nat → α) : Prop := SA n v ∧ MonoDec n v ∧ v 0 = 0

structure Cost (n : Nat) (u : Nat → α) : Prop where
  zero : u 0 = 0
  subadd : ∀ a b, a < 2 ^ n → b < 2 ^ n → a &&& b = 0 → u (a ||| b) ≤ u a + u b
  mono : ∀ x c, c < 2 ^ n → x &&& c = x → u x ≤ u c
end cost

theorem Cost.nonneg [Add α] [Zero α] [LE α] {n : Nat} {u : Nat → α} (h : Cost n u) {c : Nat} (hc : c < 2 ^ n) :
    0 ≤ u c :=
  h.zero ▸ h.mono 0 c hc (Nat.zero_and c)

section costfacts
variable [AddCommGroup α] [PartialOrder α] [IsOrderedAddMonoid α]

theorem Cost.neg_SAM0 {n : Nat} {u : Nat → α} (h : Cost n u) : SAM0 n (fun c => - u c) := by
  refine ⟨fun a b ha hb hab => ?_, fun x c hc hx => neg_le_neg (h.mono x c hc hx), ?_⟩
  · show - u a + - u b ≤ - u (a ||| b)
    rw [← neg_add]
    exact neg_le_neg (h.subadd a b ha hb hab)
  · show - u 0 = 0
    rw [h.zero, neg_zero]

/-- closure under attained suprema (what `np.max(…, axis=0)` computes): sub-additivity and monotonicity of `M` at a
    coalition are inherited from the member that attains `M` there -/
theorem Cost.sup {n : Nat} {games : List (Nat → α)} {M : Nat → α} (h : ∀ g ∈ games, Cost n g)
    (hge : ∀ g ∈ games, ∀ c, g c ≤ M c) (hatt : ∀ c, ∃ g ∈ games, M c = g c) : Cost n M where
  zero := by
    obtain ⟨g, hg, he⟩ := hatt 0
    rw [he, (h g hg).zero]
  subadd a b ha hb hab := by
    obtain ⟨g, hg, he⟩ := hatt (a ||| b)
    rw [he]
    exact le_trans ((h g hg).subadd a b ha hb hab) (add_le_add (hge g hg a) (hge g hg b))
  mono x c hc hx := by
    obtain ⟨g, hg, he⟩ := hatt x
    rw [he]
    exact le_trans ((h g hg).mono x c hc hx) (hge g hg c)

end costfacts

/-! ### `Except` plumbing -/

theorem bind_eq_ok {ε β γ : Type} {x : Except ε β} {f : β → Except ε γ} {b : γ} (h : x >>= f = .ok b) :
    ∃ a, x = .ok a ∧ f a = .ok b := by
  cases x with
  | error e => simp [bind, Except.bind] at h
  | ok a => exact ⟨a, rfl, h⟩

theorem mapM_ok_mem {β γ : Type} (f : β → Except Err γ) :
    ∀ (l : List β) (l' : List γ), l.mapM f = .ok l' → ∀ y ∈ l', ∃ x ∈ l, f x = .ok y := by
  intro l
  induction l with
  | nil =>
    intro l' h y hy
    cases h; cases hy
  | cons a l ih =>
    intro l' h y hy
    rw [List.mapM_cons] at h
    obtain ⟨b, hfa, h⟩ := bind_eq_ok h
    obtain ⟨bs, hl, h⟩ := bind_eq_ok h
    cases h
    rcases List.mem_cons.mp hy with rfl | hy
    · exact ⟨a, List.mem_cons_self, hfa⟩
    · obtain ⟨x, hx, hfx⟩ := ih bs hl y hy
      exact ⟨x, List.mem_cons_of_mem a hx, hfx⟩

theorem mapM_ok_of_forall {β γ : Type} (f : β → Except Err γ) :
    ∀ (l : List β), (∀ x ∈ l, ∃ y, f x = .ok y) → ∃ l', l.mapM f = .ok l' ∧ l'.length = l.length := by
  intro l
  induction l with
  | nil => intro _; exact ⟨[], rfl, rfl⟩
  | cons a l ih =>
    intro h
    obtain ⟨b, hb⟩ := h a (by simp)
    obtain ⟨bs, hbs, hlen⟩ := ih (fun x hx => h x (by simp [hx]))
    refine ⟨b :: bs, ?_, by simp [hlen]⟩
    rw [List.mapM_cons, hb, hbs]
    rfl

/-! ### pair sums of graph games -/

section pairsum
variable [AddCommMonoid α]

/-- the sum the code forms over `combinations(players, 2)` as a double sum over the members -/
theorem listSum_pairs (f : Nat → Nat → α) : ∀ (l : List Nat), l.Pairwise (· < ·) →
    listSum ((pairs l).map (fun p => f p.1 p.2)) =
      ∑ i ∈ l.toFinset, ∑ j ∈ l.toFinset, if i < j then f i j else 0 := by
  intro l
  induction l with
  | nil => intro _; simp [pairs, listSum]
  | cons a l ih =>
    intro hl
    rw [List.pairwise_cons] at hl
    have hnd : l.Nodup := hl.2.imp (fun h => Nat.ne_of_lt h)
    have hal : a ∉ l.toFinset := by
      rw [List.mem_toFinset]; intro h; exact Nat.lt_irrefl _ (hl.1 a h)
    have ih' := ih hl.2
    rw [listSum_eq_sum] at ih' ⊢
    simp only [pairs, List.map_append, List.map_map, List.sum_append, Function.comp_def]
    rw [ih', List.toFinset_cons, Finset.sum_insert hal, Finset.sum_insert hal]
    have h1 : (List.map (fun b => f a b) l).sum = ∑ j ∈ l.toFinset, if a < j then f a j else 0 := by
      rw [← List.sum_toFinset _ hnd]
      apply Finset.sum_congr rfl
      intro j hj
      rw [if_pos (hl.1 j (List.mem_toFinset.mp hj))]
    have h2 : ∀ i ∈ l.toFinset, (∑ j ∈ insert a l.toFinset, if i < j then f i j else 0) =
        ∑ j ∈ l.toFinset, if i < j then f i j else 0 := by
      intro i hi
      rw [Finset.sum_insert hal]
      have : ¬ i < a := Nat.not_lt.mpr (Nat.le_of_lt (hl.1 i (List.mem_toFinset.mp hi)))
      rw [if_neg this, zero_add]
    rw [h1, Finset.sum_congr rfl h2, if_neg (Nat.lt_irrefl a), zero_add]
end pairsum

theorem players_toFinset_or {a b : Nat} (h : a &&& b = 0) :
    (players (a ||| b)).toFinset = (players a).toFinset ∪ (players b).toFinset ∧
      Disjoint (players a).toFinset (players b).toFinset := by
  constructor
  · ext i
    simp only [List.mem_toFinset, mem_players, Finset.mem_union, Nat.testBit_or, Bool.or_eq_true]
  · rw [Finset.disjoint_left]
    intro i hi hj
    rw [List.mem_toFinset, mem_players] at hi hj
    exact testBit_disjoint h ⟨hi, hj⟩

theorem dsum_union_ge [AddCommMonoid α] [PartialOrder α] [IsOrderedAddMonoid α] {A B : Finset Nat}
    (hd : Disjoint A B) (g : Nat → Nat → α) (hg : ∀ i ∈ A ∪ B, ∀ j ∈ A ∪ B, 0 ≤ g i j) :
    (∑ i ∈ A, ∑ j ∈ A, g i j) + (∑ i ∈ B, ∑ j ∈ B, g i j) ≤ ∑ i ∈ A ∪ B, ∑ j ∈ A ∪ B, g i j := by
  rw [Finset.sum_union hd]
  apply add_le_add
  · apply Finset.sum_le_sum
    intro i hi
    apply Finset.sum_le_sum_of_subset_of_nonneg Finset.subset_union_left
    intro j hj _
    exact hg i (Finset.mem_union_left _ hi) j hj
  · apply Finset.sum_le_sum
    intro i hi
    apply Finset.sum_le_sum_of_subset_of_nonneg Finset.subset_union_right
    intro j hj _
    exact hg i (Finset.mem_union_right _ hi) j hj

/-! ### the update loop of `_apply_or` -/

section orloop
variable [Add α] [LinearOrder α]

theorem orLoop_spec (v1 v2 : Nat → α) : ∀ (P : List (Nat × Nat)) (x0 : Nat → α) (d : Nat),
    let X := P.foldl (fun x p => orUpdate v1 v2 x p.1 p.2) x0
    X d ≤ x0 d ∧ (∀ p ∈ P, p.1 ||| p.2 = d → X d ≤ v1 p.1 + v2 p.2) ∧
    (X d = x0 d ∨ ∃ p ∈ P, p.1 ||| p.2 = d ∧ X d = v1 p.1 + v2 p.2) := by
  intro P
  induction P with
  | nil => intro x0 d; simp
  | cons q P ih =>
    intro x0 d
    simp only [List.foldl_cons]
    obtain ⟨h1, h2, h3⟩ := ih (orUpdate v1 v2 x0 q.1 q.2) d
    have hx : orUpdate v1 v2 x0 q.1 q.2 d =
        if d = q.1 ||| q.2 then min (v1 q.1 + v2 q.2) (x0 (q.1 ||| q.2)) else x0 d := rfl
    refine ⟨?_, ?_, ?_⟩
    · apply le_trans h1
      rw [hx]
      split
      · next h => rw [h]; exact min_le_right _ _
      · exact le_refl _
    · intro p hp hd
      rcases List.mem_cons.mp hp with rfl | hp
      · apply le_trans h1
        rw [hx, if_pos hd.symm]
        exact min_le_left _ _
      · exact h2 p hp hd
    · rcases h3 with h3 | ⟨p, hp, hd, he⟩
      · rw [h3, hx]
        split
        · next h =>
          rcases min_choice (v1 q.1 + v2 q.2) (x0 (q.1 ||| q.2)) with hm | hm
          · right; exact ⟨q, by simp, h.symm, by rw [hm]⟩
          · left; rw [hm, h]
        · left; rfl
      · right; exact ⟨p, by simp [hp], hd, he⟩

theorem mem_orPairs {n : Nat} {p : Nat × Nat} :
    p ∈ orPairs n ↔ p.1 < 2 ^ n ∧ p.2 < 2 ^ n ∧ p.1 &&& p.2 = 0 := by
  simp only [orPairs, allCoalitions, List.mem_flatMap, List.mem_range, List.mem_map, List.mem_filter,
    disjoint, beq_iff_eq]
  constructor
  · rintro ⟨S, hS, T, ⟨hT, hd⟩, rfl⟩
    exact ⟨hS, hT, hd⟩
  · rintro ⟨h1, h2, h3⟩
    exact ⟨p.1, h1, p.2, ⟨h2, h3⟩, rfl⟩

end orloop

/-! ### coverage unions -/

/-- the elements covered by the members of `c` -/
def coverFinset (sets : Nat → List Nat) (c : Nat) : Finset Nat :=
  (players c).toFinset.biUnion (fun i => (sets i).toFinset)

theorem coverUnion_fold (sets : Nat → List Nat) : ∀ (l : List Nat) (u : List Nat), u.Nodup →
    (l.foldl (fun u i => (u ++ sets i).eraseDups) u).Nodup ∧
      ∀ x, x ∈ l.foldl (fun u i => (u ++ sets i).eraseDups) u ↔ x ∈ u ∨ ∃ i ∈ l, x ∈ sets i := by
  intro l
  induction l with
  | nil => intro u hu; simp [hu]
  | cons a l ih =>
    intro u _
    simp only [List.foldl_cons]
    obtain ⟨h1, h2⟩ := ih ((u ++ sets a).eraseDups) (nodup_eraseDups _)
    refine ⟨h1, ?_⟩
    intro x
    rw [h2 x, List.mem_eraseDups, List.mem_append]
    constructor
    · rintro ((h | h) | ⟨i, hi, hx⟩)
      · exact Or.inl h
      · exact Or.inr ⟨a, by simp, h⟩
      · exact Or.inr ⟨i, by simp [hi], hx⟩
    · rintro (h | ⟨i, hi, hx⟩)
      · exact Or.inl (Or.inl h)
      · rcases List.mem_cons.mp hi with rfl | hi
        · exact Or.inl (Or.inr hx)
        · exact Or.inr ⟨i, hi, hx⟩

theorem mem_coverUnion {sets : Nat → List Nat} {c x : Nat} :
    x ∈ coverUnion sets c ↔ ∃ i, c.testBit i = true ∧ x ∈ sets i := by
  unfold coverUnion
  rw [(coverUnion_fold sets (players c) [] List.nodup_nil).2 x]
  simp [mem_players]

theorem lookupSet_ok {pl : List (List Nat)} {k : Nat} (h : k < pl.length) : lookupSet pl k = .ok pl[k] := by
  simp [lookupSet, h]

theorem mem_of_lookupSet {pl : List (List Nat)} {k : Nat} {y : List Nat} (h : lookupSet pl k = .ok y) : y ∈ pl := by
  unfold lookupSet at h
  split at h
  · next s hs => cases h; exact List.mem_of_getElem? hs
  · cases h

theorem coverUnion_length (sets : Nat → List Nat) (c : Nat) :
    (coverUnion sets c).length = (coverFinset sets c).card := by
  obtain ⟨h1, h2⟩ := coverUnion_fold sets (players c) [] List.nodup_nil
  unfold coverUnion coverFinset
  rw [← List.toFinset_card_of_nodup h1]
  congr 1
  ext x
  rw [List.mem_toFinset, h2 x]
  simp

theorem coverFinset_or (sets : Nat → List Nat) (a b : Nat) :
    coverFinset sets (a ||| b) = coverFinset sets a ∪ coverFinset sets b := by
  ext x
  simp only [coverFinset, Finset.mem_biUnion, List.mem_toFinset, mem_players, Finset.mem_union,
    Nat.testBit_or, Bool.or_eq_true]
  constructor
  · rintro ⟨i, hi | hi, hx⟩
    · exact Or.inl ⟨i, hi, hx⟩
    · exact Or.inr ⟨i, hi, hx⟩
  · rintro (⟨i, hi, hx⟩ | ⟨i, hi, hx⟩)
    · exact ⟨i, Or.inl hi, hx⟩
    · exact ⟨i, Or.inr hi, hx⟩

theorem coverFinset_mono (sets : Nat → List Nat) {x c : Nat} (h : x &&& c = x) :
    coverFinset sets x ⊆ coverFinset sets c := by
  intro y
  simp only [coverFinset, Finset.mem_biUnion, List.mem_toFinset, mem_players]
  rintro ⟨i, hi, hy⟩
  exact ⟨i, sub_testBit h i hi, hy⟩

/-! ### splitting a disjoint pair along a disjoint union -/

section split
variable {S T a b x c : Nat}

theorem split_or_left (hd : S ||| T = a ||| b) : (S &&& a) ||| (T &&& a) = a := by
  rw [← Nat.and_or_distrib_right, hd, Nat.and_comm, and_or_self]

theorem split_and_left (hst : S &&& T = 0) : (S &&& a) &&& (T &&& a) = 0 := by
  rw [Nat.and_assoc, Nat.and_comm T a, ← Nat.and_assoc a a T, Nat.and_self, Nat.and_comm a T, ← Nat.and_assoc, hst,
    Nat.zero_and]

theorem split_or_self (hd : S ||| T = a ||| b) : (S &&& a) ||| (S &&& b) = S := by
  rw [← Nat.and_or_distrib_left, ← hd, and_or_self]

theorem split_or_self' (hd : S ||| T = a ||| b) : (T &&& a) ||| (T &&& b) = T := by
  rw [Nat.or_comm S T] at hd; exact split_or_self hd

theorem split_and_self (hab : a &&& b = 0) : (S &&& a) &&& (S &&& b) = 0 := by
  rw [Nat.and_comm S a, Nat.and_comm S b]; exact split_and_left hab

/-- extending the second part of a disjoint pair to a superset of the union -/
theorem extend_or (hd : S ||| T = x) (hx : x &&& c = x) : S ||| (T ||| (c ^^^ x)) = c := by
  rw [← Nat.or_assoc, hd, or_xor_self_of_sub hx]

theorem extend_and (hd : S ||| T = x) (hst : S &&& T = 0) (hx : x &&& c = x) : S &&& (T ||| (c ^^^ x)) = 0 := by
  rw [Nat.and_or_distrib_left, hst, Nat.zero_or, ← and_or_self S T, hd, Nat.and_assoc, and_xor_self_of_sub hx,
    Nat.and_zero]

end split

end ICG.Gen

#print axioms ICG.Gen.wsum_eq
#print axioms ICG.Gen.wsum_or
#print axioms ICG.Gen.wsum_nonneg
#print axioms ICG.Gen.wsum_empty
#print axioms ICG.Gen.zeroAt_nonneg

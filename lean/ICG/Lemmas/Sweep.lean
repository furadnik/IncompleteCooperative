/-
  ICG.Lemmas.Sweep — the in-place sweep `sweepM`: the rule `sweepM_written` (a family of tables `T pre`
  indexed by the processed prefix) with its lower- and upper-column instances, and `UnknownOrder`, the
  size-sorted duplicate-free enumerations of the unknown coalitions over which the lower passes run.
  The upper pass of `sa` runs over `unknownIds t`, which is not size-sorted: upper passes need
  membership only (`Refine.hiPass` in RefinePass).  Also `sweepM_ok_step_of_inv` (a failing step under an
  invariant fails the sweep) and the lemmas on `sortByKey` (`mem_sortByKey`, `sortByKey_stable`).
-/
import ICG.Model.Bounds
import ICG.Spec.Bounds
import ICG.Spec.EnumFacts

namespace ICG.Refine
open Table

variable {α : Type}

theorem sweepM_nil (f : Table α → Nat → Except Err α) (put : Table α → Nat → α → Table α)
    (t : Table α) : sweepM f put [] t = .ok t := rfl

theorem sweepM_cons (f : Table α → Nat → Except Err α) (put : Table α → Nat → α → Table α)
    (c : Nat) (l : List Nat) (t : Table α) :
    sweepM f put (c :: l) t =
      (match f t c with
       | .ok v => sweepM f put l (put t c v)
       | .error e => .error e) := by
  simp only [sweepM, List.foldlM_cons, bind, Except.bind, pure, Except.pure]
  cases f t c <;> rfl

theorem sweepM_ok_step_of_inv (f : Table α → Nat → Except Err α) (put : Table α → Nat → α → Table α)
    (I : Table α → Prop) (hput : ∀ t c v, I t → I (put t c v)) :
    ∀ (order : List Nat) (t t' : Table α), I t → sweepM f put order t = .ok t' →
      ∀ c ∈ order, ∃ s v, I s ∧ f s c = .ok v := by
  intro order
  induction order with
  | nil => intro t t' _ _ c hc; cases hc
  | cons d l ih =>
    intro t t' hI h c hc
    rw [sweepM_cons] at h
    cases hd : f t d with
    | error e => rw [hd] at h; cases h
    | ok v =>
      rw [hd] at h
      rcases List.mem_cons.mp hc with rfl | hc
      · exact ⟨t, v, hI, hd⟩
      · exact ih _ _ (hput t d v hI) h c hc

theorem sweepM_ok_step (f : Table α → Nat → Except Err α) (put : Table α → Nat → α → Table α) :
    ∀ (order : List Nat) (t t' : Table α), sweepM f put order t = .ok t' →
      ∀ c ∈ order, ∃ s v, f s c = .ok v := fun order t t' h c hc =>
  let ⟨s, v, _, hs⟩ := sweepM_ok_step_of_inv f put (fun _ => True) (fun _ _ _ _ => trivial)
    order t t' trivial h c hc
  ⟨s, v, hs⟩

/-- the sweep with the result written out.  `T p` is the table after the coalitions `p` have been
    processed and `P c` the value row `c` is to receive: if the step at the next coalition `c` returns
    `P c` on `T p`, and writing it gives `T (p ++ [c])`, the sweep over `rest` takes `T pre` to
    `T (pre ++ rest)`. -/
theorem sweepM_written (f : Table α → Nat → Except Err α) (put : Table α → Nat → α → Table α)
    (T : List Nat → Table α) (P : Nat → α) (hT : ∀ pre c, put (T pre) c (P c) = T (pre ++ [c])) :
    ∀ (rest pre : List Nat),
      (∀ (p : List Nat) (c : Nat) (q : List Nat), pre ++ rest = p ++ c :: q → f (T p) c = .ok (P c)) →
      sweepM f put rest (T pre) = .ok (T (pre ++ rest))
  | [], pre, _ => by rw [List.append_nil]; rfl
  | c :: rest, pre, hstep => by
    have ih := sweepM_written f put T P hT rest (pre ++ [c]) fun p c' q h =>
      hstep p c' q (by rw [← h, List.append_assoc]; rfl)
    rw [List.append_assoc] at ih
    rw [sweepM_cons, hstep pre c rest rfl]
    exact (congrArg (sweepM f put rest) (hT pre c)).trans ih

theorem ite_mem_append_singleton (pre : List Nat) (c : Nat) (P v : Nat → α) :
    (fun d => if d = c then P c else if d ∈ pre then P d else v d) =
      fun d => if d ∈ pre ++ [c] then P d else v d := by
  funext d
  by_cases hd : d = c
  · subst hd
    exact (if_pos rfl).trans (if_pos (List.mem_append_right pre (List.mem_singleton.mpr rfl))).symm
  · refine (if_neg hd).trans ?_
    by_cases hp : d ∈ pre
    · exact (if_pos hp).trans (if_pos (List.mem_append_left [c] hp)).symm
    · exact (if_neg hp).trans (if_neg fun h => (List.mem_append.mp h).elim hp
        fun h => hd (List.mem_singleton.mp h)).symm

theorem sweepM_putLo (f : Table α → Nat → Except Err α) (t0 : Table α) (P : Nat → α) (order : List Nat)
    (hstep : ∀ (p : List Nat) (c : Nat) (q : List Nat), order = p ++ c :: q →
      f { t0 with lo := fun d => if d ∈ p then P d else t0.lo d } c = .ok (P c)) :
    sweepM f putLo order t0 = .ok { t0 with lo := fun d => if d ∈ order then P d else t0.lo d } :=
  sweepM_written f putLo (fun p => { t0 with lo := fun d => if d ∈ p then P d else t0.lo d }) P
    (fun pre c => congrArg (fun l => ({ t0 with lo := l } : Table α))
      (ite_mem_append_singleton pre c P t0.lo)) order [] hstep

theorem sweepM_putHi (f : Table α → Nat → Except Err α) (t0 : Table α) (P : Nat → α) (order : List Nat)
    (hstep : ∀ (p : List Nat) (c : Nat) (q : List Nat), order = p ++ c :: q →
      f { t0 with hi := fun d => if d ∈ p then P d else t0.hi d } c = .ok (P c)) :
    sweepM f putHi order t0 = .ok { t0 with hi := fun d => if d ∈ order then P d else t0.hi d } :=
  sweepM_written f putHi (fun p => { t0 with hi := fun d => if d ∈ p then P d else t0.hi d }) P
    (fun pre c => congrArg (fun h => ({ t0 with hi := h } : Table α))
      (ite_mem_append_singleton pre c P t0.hi)) order [] hstep

/-! ### size-sorted enumerations of the unknown coalitions -/

/-- `order` enumerates exactly the coalitions within `n` players that `known` does not know, without
    repetition, by ascending size -/
structure UnknownOrder (n : Nat) (known : Nat → Bool) (order : List Nat) : Prop where
  mem : ∀ c, c ∈ order ↔ c < 2 ^ n ∧ known c = false
  sorted : order.Pairwise (fun a b => size a ≤ size b)
  nodup : order.Nodup

theorem mem_sortByKey {β} (key : β → Nat) (m : Nat) (l : List β) (x : β) :
    x ∈ sortByKey key m l ↔ x ∈ l ∧ key x ≤ m := by
  simp only [sortByKey, List.mem_flatMap, List.mem_range, List.mem_filter, beq_iff_eq]
  constructor
  · rintro ⟨k, hk, hx, rfl⟩; exact ⟨hx, by omega⟩
  · rintro ⟨hx, hk⟩; exact ⟨key x, by omega, hx, rfl⟩

theorem sortByKey_stable {β} (key : β → Nat) (m : Nat) {l : List β} {R : β → β → Prop}
    (h : l.Pairwise R) :
    (sortByKey key m l).Pairwise (fun x y => key x < key y ∨ (key x = key y ∧ R x y)) := by
  unfold sortByKey
  rw [List.pairwise_flatMap]
  constructor
  · intro k _
    refine List.Pairwise.imp_of_mem ?_ (h.filter fun x => key x == k)
    intro a b ha hb hab
    simp only [List.mem_filter, beq_iff_eq] at ha hb
    exact Or.inr ⟨ha.2.trans hb.2.symm, hab⟩
  · refine List.Pairwise.imp ?_ (List.pairwise_lt_range (n := m + 1))
    intro a b hab x hx y hy
    simp only [List.mem_filter, beq_iff_eq] at hx hy
    exact Or.inl (by omega)

theorem sortByKey_sorted {β} (key : β → Nat) (m : Nat) (l : List β) :
    (sortByKey key m l).Pairwise (fun a b => key a ≤ key b) :=
  (sortByKey_stable key m (List.pairwise_of_forall (R := fun _ _ => True) fun _ _ => trivial)).imp
    fun h => h.elim Nat.le_of_lt fun h => Nat.le_of_eq h.1

theorem sortByKey_nodup {β} (key : β → Nat) (m : Nat) (l : List β) (h : l.Nodup) :
    (sortByKey key m l).Nodup :=
  (sortByKey_stable key m h).imp fun hab e => hab.elim (fun hlt => by rw [e] at hlt; omega) (·.2 e)

theorem mem_unknownIds (t : Table α) (c : Nat) :
    c ∈ unknownIds t ↔ c < 2 ^ t.n ∧ t.known c = false := by
  simp [unknownIds, allCoalitions]

theorem unknownOrder_sa (E : EnumFacts) (t : Table α) :
    UnknownOrder t.n t.known (sortByKey size t.n (unknownIds t)) where
  mem c := by
    rw [mem_sortByKey, mem_unknownIds]
    constructor
    · exact fun h => h.1
    · exact fun h => ⟨h, E.size_le _ _ h.1⟩
  sorted := sortByKey_sorted _ _ _
  nodup := sortByKey_nodup _ _ _ (List.Pairwise.filter _ List.nodup_range)

theorem unknownOrder_sac (E : EnumFacts) (t : Table α) :
    UnknownOrder t.n t.known (unknownSorted t) where
  mem c := by
    simp only [unknownSorted, allSorted, List.mem_filter, mem_sortByKey, allCoalitions, List.mem_range,
      Bool.not_eq_eq_eq_not, Bool.not_true]
    constructor
    · exact fun h => ⟨h.1.1, h.2⟩
    · exact fun h => ⟨⟨h.1, E.size_le _ _ h.1⟩, h.2⟩
  sorted := List.Pairwise.filter _ (sortByKey_sorted _ _ _)
  nodup := List.Pairwise.filter _ (sortByKey_nodup _ _ _ List.nodup_range)

theorem UnknownOrder.of_perm {n : Nat} {known : Nat → Bool} {o o' : List Nat}
    (h : UnknownOrder n known o) (hp : o'.Perm o)
    (hs : o'.Pairwise (fun a b => size a ≤ size b)) : UnknownOrder n known o' where
  mem c := by rw [hp.mem_iff]; exact h.mem c
  sorted := hs
  nodup := hp.nodup_iff.mpr h.nodup

section splits
variable {n : Nat} {known : Nat → Bool} {order pre post : List Nat} {c : Nat}

theorem UnknownOrder.smaller_mem_pre (h : UnknownOrder n known order)
    (hsplit : order = pre ++ c :: post) {x : Nat} (hx : x ∈ order) (hlt : size x < size c) :
    x ∈ pre := by
  have hs := h.sorted
  rw [hsplit] at hs hx
  rcases List.mem_append.mp hx with hx | hx
  · exact hx
  · exfalso
    have hs' := (List.pairwise_append.mp hs).2.1
    rcases List.mem_cons.mp hx with rfl | hx
    · omega
    · have := (List.pairwise_cons.mp hs').1 x hx; omega

theorem UnknownOrder.larger_not_mem_pre (h : UnknownOrder n known order)
    (hsplit : order = pre ++ c :: post) {x : Nat} (hlt : size c < size x) : x ∉ pre := by
  intro hx
  have hs := h.sorted
  rw [hsplit] at hs
  have := (List.pairwise_append.mp hs).2.2 x hx c List.mem_cons_self
  omega

theorem UnknownOrder.self_not_mem_pre (h : UnknownOrder n known order)
    (hsplit : order = pre ++ c :: post) : c ∉ pre := by
  intro hx
  have hs := h.nodup
  rw [hsplit] at hs
  exact (List.nodup_append.mp hs).2.2 c hx c List.mem_cons_self rfl

omit n known in
theorem mem_of_split (hsplit : order = pre ++ c :: post) : c ∈ order := by
  rw [hsplit]; simp

omit n known in
theorem mem_of_mem_pre (hsplit : order = pre ++ c :: post) {x : Nat} (hx : x ∈ pre) : x ∈ order := by
  rw [hsplit]; simp [hx]

/-- on the rows of the game, "scheduled" and "unknown" are the same thing: a column that holds `P`
    on the scheduled rows and `v` elsewhere holds `P` on every row of the game as soon as `P` is `v`
    on known rows -/
theorem UnknownOrder.ite_mem {α : Type} (h : UnknownOrder n known order) {P v : Nat → α}
    (hP : ∀ c, known c = true → P c = v c) :
    (fun c => if c ∈ order then P c else v c) = fun c => if c < 2 ^ n then P c else v c := by
  funext c
  by_cases hc : c < 2 ^ n
  · rw [if_pos hc]
    cases hk : known c with
    | true => rw [if_neg (fun hm => by rw [((h.mem c).mp hm).2] at hk; cases hk), hP c hk]
    | false => rw [if_pos ((h.mem c).mpr ⟨hc, hk⟩)]
  · rw [if_neg hc, if_neg (fun hm => hc ((h.mem c).mp hm).1)]

end splits

end ICG.Refine

/-
  ICG.Lemmas.SpecSplit — the split recursion `splitSpec` and the monotone closure `closeSpec` against a
  true game `v` (`SA.zero_nonpos`, `SA.split_le`: what superadditivity gives along a split; the closure
  needs `MonoDec n v`), over a
  linearly ordered abelian group: soundness (`splitSpec_le`, `closeSpec_le`) and
  monotonicity in knowledge and in the extra candidates (`splitSpec_mono`, `closeSpec_mono`).
  `loSpec` is the case without extra candidates (`ICG.Lemmas.SpecSA1`, `SpecSA3`); the SAM sequence
  (`ICG.Lemmas.SpecSAM`) uses the general one.
-/
import ICG.Lemmas.SpecBasic
import Mathlib.Algebra.Order.Group.Defs

namespace ICG
open SpecSA (KnownLe)

section generic
variable {α : Type} [AddCommGroup α] [LinearOrder α] [IsOrderedAddMonoid α]

theorem SA.zero_nonpos {n : Nat} {v : Nat → α} (hsa : SA n v) : v 0 ≤ 0 := by
  have h := hsa 0 0 (Nat.two_pow_pos n) (Nat.two_pow_pos n) (by simp)
  simp only [Nat.or_self] at h
  exact add_le_iff_nonpos_left.mp h

omit [IsOrderedAddMonoid α] in
theorem SA.split_le {n : Nat} {v : Nat → α} (hsa : SA n v) {x c : Nat} (hc : c < 2 ^ n)
    (hx : x &&& c = x) : v x + v (c - x) ≤ v c := by
  have h := hsa x (c - x) (sub_lt_two_pow hx hc) (Nat.sub_lt_of_lt hc) (sub_or_self hx).2
  rwa [(sub_or_self hx).1] at h

theorem splitSpec_le {n : Nat} {known : Nat → Bool} {v : Nat → α} {extra : Nat → List α}
    (hsa : SA n v)
    (hext : ∀ c, c < 2 ^ n → known c = false → ∀ e ∈ extra c, e ≤ v c) :
    ∀ c, c < 2 ^ n → splitSpec known v extra c ≤ v c := by
  intro c
  induction c using Nat.strongRecOn with
  | _ c ih =>
    intro hc
    cases hk : known c with
    | true => rw [splitSpec_known hk]
    | false =>
      by_cases hnil : splitCands known v extra c = []
      · rw [splitSpec_nil hk hnil]
      · rcases mem_splitCands.mp (splitSpec_unknown hk hnil).1 with h | ⟨x, hx, h⟩
        · exact hext c hc hk _ h
        · rw [h]
          obtain ⟨hsub, _, _⟩ := mem_properSubs.mp hx
          obtain ⟨h1, h2⟩ := properSubs_lt hx
          exact le_trans (add_le_add (ih x h1 (Nat.lt_trans h1 hc)) (ih (c - x) h2 (Nat.lt_trans h2 hc)))
            (hsa.split_le hc hsub)

/-- the split recursion is monotone in knowledge (given soundness of the less informed side) and in
    the extra candidates -/
theorem splitSpec_mono {n : Nat} {known known' : Nat → Bool} {v : Nat → α}
    {extra extra' : Nat → List α}
    (hkn : KnownLe known known')
    (hsound : ∀ c, c < 2 ^ n → splitSpec known v extra c ≤ v c)
    (hmin' : MinInfo n known')
    (hext : ∀ c, c < 2 ^ n → known' c = false → ∀ e ∈ extra c, ∃ e' ∈ extra' c, e ≤ e') :
    ∀ c, c < 2 ^ n → splitSpec known v extra c ≤ splitSpec known' v extra' c := by
  intro c
  induction c using Nat.strongRecOn with
  | _ c ih =>
    intro hc
    cases hk' : known' c with
    | true => rw [splitSpec_known hk']; exact hsound c hc
    | false =>
      have hk := unknown_of_le hkn hk'
      obtain ⟨x0, hx0⟩ := exists_properSub hmin' hc hk'
      obtain ⟨hmem, _⟩ := splitSpec_unknown hk (splitCands_ne_nil (v := v) (extra := extra) hx0)
      obtain ⟨_, hub'⟩ := splitSpec_unknown hk' (splitCands_ne_nil (v := v) (extra := extra') hx0)
      rcases mem_splitCands.mp hmem with h | ⟨x, hx, h⟩
      · obtain ⟨e', he', hle⟩ := hext c hc hk' _ h
        exact le_trans hle (hub' e' (mem_splitCands.mpr (Or.inl he')))
      · rw [h]
        obtain ⟨h1, h2⟩ := properSubs_lt hx
        exact le_trans (add_le_add (ih x h1 (Nat.lt_trans h1 hc)) (ih (c - x) h2 (Nat.lt_trans h2 hc)))
          (hub' _ (mem_splitCands.mpr (Or.inr ⟨x, hx, rfl⟩)))

omit [AddCommGroup α] [IsOrderedAddMonoid α] in
theorem closeSpec_le {n : Nat} {known : Nat → Bool} {v A : Nat → α} (hmd : MonoDec n v)
    (hA : ∀ T, T < 2 ^ n → A T ≤ v T) : ∀ c, c < 2 ^ n → closeSpec n known v A c ≤ v c := by
  intro c hc
  cases hk : known c with
  | true => rw [closeSpec_known hk]
  | false =>
    obtain ⟨⟨T, hT, hsub, heq⟩, _⟩ := closeSpec_unknown (v := v) (A := A) hc hk
    rw [heq]
    exact le_trans (hA T hT) (hmd c T hT hsub)

omit [AddCommGroup α] [IsOrderedAddMonoid α] in
theorem closeSpec_mono {n : Nat} {known known' : Nat → Bool} {v A A' : Nat → α}
    (hkn : KnownLe known known')
    (hsound : ∀ c, c < 2 ^ n → closeSpec n known v A c ≤ v c)
    (hA : ∀ T, T < 2 ^ n → A T ≤ A' T) :
    ∀ c, c < 2 ^ n → closeSpec n known v A c ≤ closeSpec n known' v A' c := by
  intro c hc
  cases hk' : known' c with
  | true => rw [closeSpec_known hk']; exact hsound c hc
  | false =>
    have hk := unknown_of_le hkn hk'
    obtain ⟨⟨T, hT, hsub, heq⟩, _⟩ := closeSpec_unknown (v := v) (A := A) hc hk
    obtain ⟨_, hub'⟩ := closeSpec_unknown (v := v) (A := A') hc hk'
    rw [heq]
    exact le_trans (hA T hT) (hub' T hT hsub)

end generic

end ICG

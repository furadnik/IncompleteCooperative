/-
  ICG.Lemmas.ListMax — `listMax?` / `listMin?` over a linear order: characterisation by membership.
-/
import ICG.Model.Basic
import Mathlib.Order.Lattice
import Mathlib.Order.MinMax

namespace ICG
variable {α : Type} [LinearOrder α]

theorem foldl_max_ge (l : List α) (a : α) : a ≤ l.foldl max a := by
  induction l generalizing a with
  | nil => exact le_rfl
  | cons y l ih => exact le_trans (le_max_left a y) (ih (max a y))

theorem foldl_max_mem_ge (l : List α) (a x : α) (hx : x ∈ l) : x ≤ l.foldl max a := by
  induction l generalizing a with
  | nil => cases hx
  | cons y l ih =>
    simp only [List.foldl]
    rcases List.mem_cons.mp hx with rfl | h
    · exact le_trans (le_max_right a x) (foldl_max_ge l _)
    · exact ih _ h

theorem foldl_max_mem (l : List α) (a : α) : l.foldl max a = a ∨ l.foldl max a ∈ l := by
  induction l generalizing a with
  | nil => exact Or.inl rfl
  | cons y l ih =>
    simp only [List.foldl]
    rcases ih (max a y) with h | h
    · rcases max_choice a y with h' | h'
      · left; rw [h, h']
      · right; rw [h, h']; exact List.mem_cons_self
    · right; exact List.mem_cons_of_mem _ h

theorem listMax?_eq_none {l : List α} : listMax? l = none ↔ l = [] := by
  cases l <;> simp [listMax?]

theorem listMax?_isSome {l : List α} (h : l ≠ []) : ∃ m, listMax? l = some m := by
  cases l with
  | nil => exact absurd rfl h
  | cons a l => exact ⟨_, rfl⟩

theorem listMax?_mem {l : List α} {m : α} (h : listMax? l = some m) : m ∈ l := by
  cases l with
  | nil => simp [listMax?] at h
  | cons a l =>
    simp only [listMax?, Option.some.injEq] at h
    subst h
    rcases foldl_max_mem l a with h | h
    · rw [h]; exact List.mem_cons_self
    · exact List.mem_cons_of_mem _ h

theorem le_listMax? {l : List α} {m x : α} (h : listMax? l = some m) (hx : x ∈ l) : x ≤ m := by
  cases l with
  | nil => cases hx
  | cons a l =>
    simp only [listMax?, Option.some.injEq] at h
    subst h
    rcases List.mem_cons.mp hx with rfl | hx
    · exact foldl_max_ge l x
    · exact foldl_max_mem_ge l a x hx

theorem listMax?_le {l : List α} {m b : α} (h : listMax? l = some m) (hb : ∀ x ∈ l, x ≤ b) : m ≤ b :=
  hb m (listMax?_mem h)

theorem listMax?_eq_some_of {l : List α} {m : α} (hm : m ∈ l) (hub : ∀ x ∈ l, x ≤ m) :
    listMax? l = some m := by
  obtain ⟨m', h'⟩ := listMax?_isSome (l := l) (by rintro rfl; cases hm)
  rw [h']
  exact congrArg some (le_antisymm (hub m' (listMax?_mem h')) (le_listMax? h' hm))

theorem listMax?_eq_some_iff {l : List α} {m : α} :
    listMax? l = some m ↔ m ∈ l ∧ ∀ x ∈ l, x ≤ m :=
  ⟨fun h => ⟨listMax?_mem h, fun _ hx => le_listMax? h hx⟩, fun ⟨h1, h2⟩ => listMax?_eq_some_of h1 h2⟩

theorem listMax?_congr {l l' : List α} (h : ∀ x, x ∈ l ↔ x ∈ l') : listMax? l = listMax? l' := by
  cases hl : listMax? l with
  | none =>
    have : l = [] := listMax?_eq_none.mp hl
    subst this
    have : l' = [] := by
      cases l' with
      | nil => rfl
      | cons a t => exact absurd ((h a).mpr List.mem_cons_self) (by simp)
    subst this; rfl
  | some m =>
    obtain ⟨h1, h2⟩ := listMax?_eq_some_iff.mp hl
    exact (listMax?_eq_some_of ((h m).mp h1) (fun x hx => h2 x ((h x).mpr hx))).symm

theorem listMax?_map_congr {ι : Type} {l l' : List ι} {f g : ι → α} (hl : ∀ x, x ∈ l ↔ x ∈ l')
    (hf : ∀ x ∈ l, f x = g x) : listMax? (l.map f) = listMax? (l'.map g) := by
  apply listMax?_congr
  intro y
  simp only [List.mem_map]
  constructor
  · rintro ⟨x, hx, rfl⟩; exact ⟨x, (hl x).mp hx, (hf x hx).symm⟩
  · rintro ⟨x, hx, rfl⟩; exact ⟨x, (hl x).mpr hx, hf x ((hl x).mpr hx)⟩

/-! ### minimum

`listMin? l` is, by unfolding, `listMax? l` for the dual order `αᵒᵈ` (whose `max` is `min` and whose
`x ≤ y` is `y ≤ x`): a lemma above, read in `αᵒᵈ`, is the lemma for the minimum (`le_listMin?` is proved directly). -/

theorem listMin?_eq_none {l : List α} : listMin? l = none ↔ l = [] :=
  listMax?_eq_none (α := αᵒᵈ)

theorem listMin?_isSome {l : List α} (h : l ≠ []) : ∃ m, listMin? l = some m :=
  listMax?_isSome (α := αᵒᵈ) h

theorem listMin?_mem {l : List α} {m : α} (h : listMin? l = some m) : m ∈ l :=
  listMax?_mem (α := αᵒᵈ) h

theorem listMin?_le {l : List α} {m x : α} (h : listMin? l = some m) (hx : x ∈ l) : m ≤ x :=
  le_listMax? (α := αᵒᵈ) h hx

theorem le_listMin? {l : List α} {m b : α} (h : listMin? l = some m) (hb : ∀ x ∈ l, b ≤ x) : b ≤ m :=
  hb m (listMin?_mem h)

theorem listMin?_eq_some_of {l : List α} {m : α} (hm : m ∈ l) (hlb : ∀ x ∈ l, m ≤ x) :
    listMin? l = some m :=
  listMax?_eq_some_of (α := αᵒᵈ) hm hlb

theorem listMin?_eq_some_iff {l : List α} {m : α} :
    listMin? l = some m ↔ m ∈ l ∧ ∀ x ∈ l, m ≤ x :=
  listMax?_eq_some_iff (α := αᵒᵈ)

theorem listMin?_map_congr {ι : Type} {l l' : List ι} {f g : ι → α} (hl : ∀ x, x ∈ l ↔ x ∈ l')
    (hf : ∀ x ∈ l, f x = g x) : listMin? (l.map f) = listMin? (l'.map g) :=
  listMax?_map_congr (α := αᵒᵈ) hl hf

end ICG

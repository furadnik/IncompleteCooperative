/-
  ICG.Lemmas.MulCompose — `_compute_candidate_coalitions_and_query_values` (ICG.Model.Mul `candidates`) on a complete
  game: the k- and r-values; every candidate is witnessed (it lies in a coalition along whose id order each of its
  players has a marginal contribution ≥ r/(4αβ)), which is what the lower bound of Lemmas/MulApprox.lean needs; on
  `Domain` the computation returns, because a coalition that passes the loop test has a non-empty candidate cut out of
  it and so strictly shrinks.
-/
import ICG.Lemmas.MulApprox

namespace ICG.Mul
open ICG

/-! ### the k- and r-values -/

theorem takeWhile_range_eq (p : Nat → Bool) (m : Nat) :
    (List.range m).takeWhile p = List.range ((List.range m).takeWhile p).length := by
  have hpre : (List.range m).takeWhile p <+: List.range m := List.takeWhile_prefix p
  have := List.prefix_iff_eq_take.mp hpre
  have hlen : ((List.range m).takeWhile p).length ≤ m := by
    simpa using hpre.length_le
  rw [List.take_range, Nat.min_eq_left hlen] at this
  exact this

theorem mem_takeWhile_range' (p : Nat → Bool) (hp : ∀ i j, i ≤ j → p j = true → p i = true) :
    ∀ (m s k : Nat), k ∈ (List.range' s m).takeWhile p ↔ k ∈ List.range' s m ∧ p k = true
  | 0, s, k => by simp
  | m + 1, s, k => by
    rw [List.range'_succ, List.takeWhile_cons]
    cases hs : p s with
    | true =>
      rw [if_pos rfl, List.mem_cons, List.mem_cons, mem_takeWhile_range' p hp m (s + 1) k]
      constructor
      · rintro (rfl | ⟨h1, h2⟩)
        · exact ⟨Or.inl rfl, hs⟩
        · exact ⟨Or.inr h1, h2⟩
      · rintro ⟨rfl | h1, h2⟩
        · exact Or.inl rfl
        · exact Or.inr ⟨h1, h2⟩
    | false =>
      rw [if_neg Bool.false_ne_true, ← List.range'_succ]
      refine iff_of_false List.not_mem_nil fun ⟨hk, hpk⟩ => ?_
      rw [hp s k (List.mem_range'_1.mp hk).1 hpk] at hs
      cases hs

theorem mem_takeWhile_range (p : Nat → Bool) (hp : ∀ i j, i ≤ j → p j = true → p i = true) (m k : Nat) :
    k ∈ (List.range m).takeWhile p ↔ k < m ∧ p k = true := by
  rw [List.range_eq_range', mem_takeWhile_range' p hp, List.mem_range'_1, Nat.zero_add]
  exact and_congr_left fun _ => and_iff_right (Nat.zero_le k)

theorem pow_lt_downward {b : Nat} (hb : 0 < b) (N : Nat) (i j : Nat) (hij : i ≤ j)
    (h : decide (b ^ j < N) = true) : decide (b ^ i < N) = true :=
  decide_eq_true (lt_of_le_of_lt (Nat.pow_le_pow_right hb hij) (of_decide_eq_true h))

theorem mem_kExps {n k : Nat} : k ∈ kExps n ↔ 4 ^ k < n := by
  unfold kExps
  rw [mem_takeWhile_range _ (pow_lt_downward (by omega) n), decide_eq_true_iff]
  exact and_iff_right_of_imp fun h => lt_trans (Nat.lt_pow_self (by omega)) h

theorem mem_rVals {n rv : Nat} : rv ∈ rVals n ↔ (∃ r, rv = 2 ^ r ∧ 2 ^ r < n ^ 2) ∨ rv = n ^ 2 := by
  unfold rVals
  rw [List.mem_append, List.mem_singleton, List.mem_map]
  refine or_congr_left (exists_congr fun r => ?_)
  rw [mem_takeWhile_range _ (pow_lt_downward (by omega) (n ^ 2)), decide_eq_true_iff, eq_comm, and_comm]
  refine and_congr_right fun _ => and_iff_right_of_imp fun hr => ?_
  -- `2^r < n² < 2^(2n)`
  have hn2 : n ^ 2 < 2 ^ (2 * n) := by
    rw [Nat.two_mul, Nat.pow_add, Nat.pow_two]
    exact Nat.mul_lt_mul'' Nat.lt_two_pow_self Nat.lt_two_pow_self
  exact (Nat.pow_lt_pow_iff_right (by omega)).mp (lt_trans hr hn2)

/-- entry `j` among the powers of two is `2^j > j`; the last entry `n²` has index `L` with `2^(L-1) < n²`, so `L ≤ n²` -/
theorem index_le_rVals (n j rv : Nat) (h : (rVals n)[j]? = some rv) : j ≤ rv := by
  unfold rVals at h
  rw [takeWhile_range_eq] at h
  generalize hK : ((List.range (2 * n)).takeWhile (fun r => decide (2 ^ r < n ^ 2))).length = K at h
  rcases Nat.lt_trichotomy j K with hj | rfl | hj
  · rw [List.getElem?_append_left (by rwa [List.length_map, List.length_range]), List.getElem?_map,
      List.getElem?_range hj] at h
    cases h
    exact Nat.lt_two_pow_self.le
  · rw [List.getElem?_append_right (by rw [List.length_map, List.length_range]), List.length_map, List.length_range,
      Nat.sub_self] at h
    cases h
    cases j with
    | zero => exact Nat.zero_le _
    | succ k =>
      have hmem : k ∈ (List.range (2 * n)).takeWhile (fun r => decide (2 ^ r < n ^ 2)) := by
        rw [takeWhile_range_eq, hK]; exact List.mem_range.mpr (Nat.lt_succ_self k)
      have h2 : 2 ^ k < n ^ 2 :=
        of_decide_eq_true ((mem_takeWhile_range _ (pow_lt_downward (by omega) (n ^ 2)) _ _).mp hmem).2
      exact Nat.succ_le_of_lt (lt_trans Nat.lt_two_pow_self h2)
  · rw [List.getElem?_eq_none (by rw [List.length_append, List.length_map, List.length_range]; exact hj)] at h
    cases h
section compose
set_option linter.unusedSectionVars false
variable {α : Type} [Field α] [LinearOrder α] [IsStrictOrderedRing α]

theorem subOf_testBit (thr : α) (m : Nat → α) : ∀ (l : List Nat) (s i : Nat),
    (subOf thr (l.map (fun p => (p, m p))) s).testBit i = true ↔
      s.testBit i = true ∧ ∀ p ∈ l, p = i → thr ≤ m p := by
  intro l
  induction l with
  | nil => intro s i; exact ⟨fun h => ⟨h, fun _ hp => nomatch hp⟩, fun h => h.1⟩
  | cons p l ih =>
    intro s i
    rw [show subOf thr ((p :: l).map (fun p => (p, m p))) s
        = subOf thr (l.map (fun p => (p, m p))) (if thr ≤ m p then s else removePlayer s p) from rfl,
      ih, List.forall_mem_cons]
    by_cases hthr : thr ≤ m p
    · rw [if_pos hthr]
      exact and_congr_right fun _ => (and_iff_right fun _ => hthr).symm
    · -- the player `p` is removed: bit `p` goes, and `p = i → thr ≤ m p` says `p ≠ i`
      rw [if_neg hthr, removePlayer_testBit, Bool.and_eq_true, Bool.not_eq_true', decide_eq_false_iff_not, and_assoc]
      exact and_congr_right fun _ => and_congr_left fun _ => ⟨fun hne hpi => absurd hpi hne, fun h hpi => hthr (h hpi)⟩

/-- the candidate that one round of the `while` loop cuts out of `c`: the players of `c` whose marginal along `c`
    reaches `thr` -/
def cutOf (v : Nat → α) (thr : α) (c : Nat) : Nat := subOf thr ((players c).map (fun p => (p, marginal v c p))) c

theorem subOf_marginals_eq (v : Nat → α) (thr : α) (c : Nat) :
    subOf thr ((players c).map (fun p => (p, marginal v c p))) c = cutOf v thr c := rfl

theorem cutOf_testBit (v : Nat → α) (thr : α) (c i : Nat) :
    (cutOf v thr c).testBit i = true ↔ c.testBit i = true ∧ thr ≤ marginal v c i := by
  unfold cutOf
  rw [subOf_testBit]
  exact and_congr_right fun hi => ⟨fun h => h i (mem_players.mpr hi) rfl, fun h p _ hp => hp ▸ h⟩

theorem cutOf_sub (v : Nat → α) (thr : α) (c : Nat) : cutOf v thr c &&& c = cutOf v thr c :=
  sub_of_testBit fun i hi => ((cutOf_testBit v thr c i).mp hi).1

/-! ### the `while` loop of a cell -/

theorem diff_sub (a b : Nat) : diff a b &&& a = diff a b := by
  apply sub_of_testBit
  intro i hi
  rw [diff_testBit, Bool.and_eq_true] at hi
  exact hi.1

/-- one round of the `while` loop of a cell, read backwards: either the loop test failed and nothing is appended, or
    the candidate `cutOf v (rv/(4αβ)) c` is appended, `_max_subroutine` answers some `c'` on the rest of `c`, and the
    loop goes on from `c'` -/
theorem candLoop_succ_inv {v : Nat → α} {n : Nat} {alpha beta eps : α} {kv : KVal} {rv fuelMax fuel c : Nat}
    {cs q : List Nat} (h : candLoop (okGet v) n alpha beta eps kv rv fuelMax (fuel + 1) c = .ok (cs, q)) :
    cs = [] ∨ ∃ c' q2 cs' q3,
      maxSubroutine (okGet v) n (diff c (cutOf v ((rv : α) / (((4 : Nat) : α) * alpha * beta)) c)) (kv.reached n) eps
        fuelMax = .ok (c', q2) ∧
      candLoop (okGet v) n alpha beta eps kv rv fuelMax fuel c' = .ok (cs', q3) ∧
      cs = cutOf v ((rv : α) / (((4 : Nat) : α) * alpha * beta)) c :: cs' := by
  -- the body of `candLoop` at `fuel + 1`; `get c` is `.ok (v c)`, so its outer `match` reduces
  change (if alpha = 0 then _ else _) = _ at h
  rw [approxXos_okGet] at h
  by_cases ha : alpha = 0
  · rw [if_pos ha] at h; cases h
  rw [if_neg ha] at h
  by_cases hthr : geThreshold n kv rv alpha (v c) = true   -- the loop test `v c ≥ k·r/(2α)`
  · rw [if_pos hthr] at h
    dsimp only at h
    rw [subOf_marginals_eq] at h
    by_cases hab : c ≠ 0 ∧ alpha * beta = 0
    · rw [if_pos hab] at h; cases h
    rw [if_neg hab] at h
    split at h                    -- the answer of `_max_subroutine`
    · cases h
    rename_i c' q2 hms
    by_cases hcc : c' = c         -- the state repeats
    · rw [if_pos hcc] at h; cases h
    rw [if_neg hcc] at h
    split at h                    -- the rest of the loop
    · cases h
    rename_i cs' q3 hrec
    cases h
    exact Or.inr ⟨c', q2, cs', q3, hms, hrec, rfl⟩
  · rw [if_neg hthr] at h
    cases h
    exact Or.inl rfl

theorem candLoop_witness (v : Nat → α) (n : Nat) (alpha beta eps : α) (kv : KVal) (rv fuelMax : Nat) :
    ∀ (fuel c : Nat) (cs q : List Nat), c < 2 ^ n →
      candLoop (okGet v) n alpha beta eps kv rv fuelMax fuel c = .ok (cs, q) →
      ∀ sub ∈ cs, WitnessedBy n v ((rv : α) / (((4 : Nat) : α) * alpha * beta)) sub := by
  intro fuel
  induction fuel with
  | zero => intro _ _ _ _ h; cases h
  | succ fuel ih =>
    intro c cs q hc h
    rcases candLoop_succ_inv h with rfl | ⟨c', q2, cs', q3, hms, hrec, rfl⟩
    · intro sub hsub; cases hsub
    · have hc'c : c' &&& c = c' := sub_trans (maxSubroutine_result v n _ _ eps fuelMax c' q2 hms).1 (diff_sub _ _)
      intro sub hsubmem
      rcases List.mem_cons.mp hsubmem with rfl | hmem
      · exact ⟨c, hc, cutOf_sub v _ c, fun p hp => ((cutOf_testBit v _ c p).mp hp).2⟩
      · exact ih c' cs' q3 (lt_of_le_of_lt (sub_le hc'c) hc) hrec sub hmem

theorem fromPlayers_light_lt (n : Nat) (kv : KVal) (r : Nat) (singles : List α) :
    fromPlayers (lightPlayers n kv r singles) < 2 ^ n := by
  apply Nat.lt_pow_two_of_testBit
  intro i hi
  rw [testBit_fromPlayers]
  apply decide_eq_false
  intro hmem
  unfold lightPlayers at hmem
  have := (List.mem_filter.mp hmem).1
  have := List.mem_range.mp this
  omega

theorem candCell_witness (v : Nat → α) (n : Nat) (alpha beta eps : α) (fuelMax : Nat) (singles : List α)
    (kv : KVal) (rv : Nat) (cs q : List Nat)
    (h : candCell (okGet v) n alpha beta eps fuelMax singles kv rv = .ok (cs, q)) :
    ∀ sub ∈ cs, WitnessedBy n v ((rv : α) / (((4 : Nat) : α) * alpha * beta)) sub := by
  unfold candCell at h
  split at h                      -- `n = 0`
  · cases h
  dsimp only at h
  split at h                      -- `_max_subroutine` on the light players
  · cases h
  rename_i c q0 hms
  have hc : c < 2 ^ n := lt_of_le_of_lt (sub_le (maxSubroutine_result v n _ _ eps fuelMax c q0 hms).1)
    (fromPlayers_light_lt n kv rv singles)
  split at h                      -- the `while` loop
  · cases h
  rename_i cs' q1 hrec
  cases h
  exact candLoop_witness v n alpha beta eps kv rv fuelMax _ c _ q1 hc hrec

theorem candidates_witnessed (v : Nat → α) (n : Nat) (alpha beta eps : α) (fuelMax : Nat)
    (hu : 0 < ((4 : Nat) : α) * alpha * beta) (arr : List (List (List Nat))) (q : List Nat)
    (h : candidates (okGet v) n alpha beta eps fuelMax = .ok (arr, q)) :
    Witnessed n v (((4 : Nat) : α) * alpha * beta) arr := by
  unfold candidates at h
  rw [singles_okGet] at h
  dsimp only at h
  split at h                      -- the assertion on the singletons
  · split at h                    -- the cells
    · cases h
    · rename_i cells hcells
      cases h
      -- a candidate of column `j`: find its cell `(kv, rv)`; it is witnessed with the value `rv ≥ j`
      intro j cand ⟨row', hrow', cell, hcell, hcand⟩
      obtain ⟨row, hrow, rfl⟩ := List.mem_map.mp hrow'
      obtain ⟨i, hi, hget⟩ := List.getElem_of_mem hrow
      have hget' : cells[i]? = some row := by rw [List.getElem?_eq_getElem hi, hget]
      obtain ⟨kv, -, hkv⟩ := mapE_getElem? _ _ _ hcells i row hget'
      rw [List.getElem?_map] at hcell
      cases hrj : row[j]? with
      | none => rw [hrj] at hcell; cases hcell
      | some y =>
        rw [hrj] at hcell
        simp only [Option.map_some, Option.some.injEq] at hcell
        obtain ⟨rv, hrv, hcc⟩ := mapE_getElem? _ _ _ hkv j y hrj
        obtain ⟨cs, q'⟩ := y
        simp only at hcell
        subst hcell
        exact (candCell_witness v n alpha beta eps fuelMax _ kv rv cs q' hcc cand hcand).mono
          (div_le_div_of_nonneg_right (Nat.cast_le.mpr (index_le_rVals n j rv hrv)) hu.le)
  · cases h

/-! ### the candidate loop returns (α > 0, β ≥ 1/2, v(∅) = 0) -/

theorem rVals_pos {n rv : Nat} (hn : n ≠ 0) (h : rv ∈ rVals n) : 0 < rv :=
  (mem_rVals.mp h).elim (fun ⟨r, e, _⟩ => e ▸ Nat.two_pow_pos r) fun e => e ▸ Nat.pow_pos (Nat.pos_of_ne_zero hn)

theorem KVal.reached_zero {n : Nat} (hn : n ≠ 0) (kv : KVal) : kv.reached n 0 = false := by
  have := Nat.pos_of_ne_zero hn
  cases kv with
  | sqrtMul k =>
    have := Nat.mul_pos (Nat.pow_pos (n := k) (by omega : 0 < 4)) this
    exact decide_eq_false (by omega)
  | full => exact decide_eq_false (by omega)

/-- the loop condition fails at `x ≤ m·w`, `w = r/(2α) > 0`, for a size `m` that the k-value has not reached:
    `m < n` gives `m·w < n·w`;  `m² < 4^k·n` gives `x² ≤ (m·w)² < (2^k·w)²·n` -/
theorem not_geThreshold_of_le {n : Nat} {kv : KVal} {m : Nat} (hm : kv.reached n m = false) {rv : Nat} {alpha x : α}
    (hw : 0 < (rv : α) / (((2 : Nat) : α) * alpha)) (hx : x ≤ (m : α) * ((rv : α) / (((2 : Nat) : α) * alpha))) :
    geThreshold n kv rv alpha x = false := by
  cases kv with
  | full =>
    have hmn : (m : α) < n := Nat.cast_lt.mpr (Nat.lt_of_not_le (of_decide_eq_false hm))
    apply decide_eq_false
    rw [Nat.cast_mul, mul_div_assoc, not_le]
    exact lt_of_le_of_lt hx (mul_lt_mul_of_pos_right hmn hw)
  | sqrtMul k =>
    have hmm : ((m * m : Nat) : α) < ((2 ^ k * 2 ^ k * n : Nat) : α) :=
      Nat.cast_lt.mpr (by rw [← Nat.mul_pow]; exact Nat.lt_of_not_le (of_decide_eq_false hm))
    rw [Nat.cast_mul, Nat.cast_mul, Nat.cast_mul] at hmm
    show geSqrt x (((2 ^ k * rv : Nat) : α) / (((2 : Nat) : α) * alpha)) n = false
    rw [Nat.cast_mul, mul_div_assoc]
    unfold geSqrt
    rw [if_pos (mul_nonneg (Nat.cast_nonneg _) hw.le), Bool.and_eq_false_iff,
      decide_eq_false_iff_not, decide_eq_false_iff_not, not_le, not_le]
    rcases lt_or_ge x 0 with hx0 | hx0
    · exact Or.inl hx0
    · right
      set w := (rv : α) / (((2 : Nat) : α) * alpha)
      calc x * x ≤ (m : α) * w * ((m : α) * w) := mul_self_le_mul_self hx0 hx
        _ = (m : α) * m * (w * w) := mul_mul_mul_comm _ _ _ _
        _ < ((2 ^ k : Nat) : α) * ((2 ^ k : Nat) : α) * n * (w * w) := mul_lt_mul_of_pos_right hmm (mul_pos hw hw)
        _ = ((2 ^ k : Nat) : α) * w * (((2 ^ k : Nat) : α) * w) * n := by
          rw [mul_mul_mul_comm (_ : α) w _ w, mul_right_comm]

theorem le_of_cutOf_eq_zero (v : Nat → α) (thr : α) (c : Nat) (h : cutOf v thr c = 0) :
    v c - v 0 ≤ (size c : α) * thr := by
  rw [← marginals_sum_players v c, size_eq_length_players, ← sum_map_const]
  refine sum_map_le_sum_map _ _ _ fun p hp => le_of_not_gt fun hlt => ?_
  have := (cutOf_testBit v thr c p).mpr ⟨mem_players.mp hp, hlt.le⟩
  rw [h, Nat.zero_testBit] at this
  cases this

/-- a coalition that `_max_subroutine` returned and that passes the loop test has a player with a large marginal -/
theorem cutOf_ne_zero_of_threshold (v : Nat → α) {n : Nat} (hn : n ≠ 0) {alpha beta : α} (ha : 0 < alpha)
    (hb : 1 / 2 ≤ beta) (h0 : v 0 = 0) (kv : KVal) {rv : Nat} (hrv : 0 < rv) {c : Nat}
    (hsize : c = 0 ∨ kv.reached n (size c) = false) (hthr : geThreshold n kv rv alpha (v c) = true) :
    cutOf v ((rv : α) / (((4 : Nat) : α) * alpha * beta)) c ≠ 0 := by
  intro hsub
  have hsz : kv.reached n (size c) = false := by
    rcases hsize with rfl | h
    · rw [size_zero]; exact KVal.reached_zero hn kv
    · exact h
  have h2a : (0 : α) < ((2 : Nat) : α) * alpha := mul_pos (Nat.cast_pos.mpr (by omega)) ha
  -- `β ≥ 1/2`: the cut `r/(4αβ)` is at most `r/(2α)`
  have hcut : (rv : α) / (((4 : Nat) : α) * alpha * beta) ≤ (rv : α) / (((2 : Nat) : α) * alpha) := by
    apply div_le_div_of_nonneg_left (Nat.cast_nonneg _) h2a
    calc ((2 : Nat) : α) * alpha = ((2 : Nat) : α) * alpha * 1 := (mul_one _).symm
      _ ≤ ((2 : Nat) : α) * alpha * (2 * beta) :=
        mul_le_mul_of_nonneg_left ((div_le_iff₀' two_pos).mp hb) h2a.le
      _ = ((4 : Nat) : α) * alpha * beta := by
        rw [mul_mul_mul_comm, ← mul_assoc, show ((2 : Nat) : α) * 2 = ((4 : Nat) : α) by norm_num]
  have hle := le_of_cutOf_eq_zero v _ c hsub
  rw [h0, sub_zero] at hle
  have := not_geThreshold_of_le hsz (div_pos (Nat.cast_pos.mpr hrv) h2a)
    (le_trans hle (mul_le_mul_of_nonneg_left hcut (Nat.cast_nonneg _)))
  rw [this] at hthr
  cases hthr

structure Domain (n : Nat) (v : Nat → α) (alpha beta eps : α) (fuelMax : Nat) : Prop where
  n_pos : n ≠ 0
  empty : v 0 = 0
  singles : ∀ p, p < n → 1 ≤ v (singleton p)
  alpha_pos : 0 < alpha
  beta_ge : 1 / 2 ≤ beta
  eps_pos : 0 < eps
  fuel : (n : α) < fuelMax * eps * eps

theorem Domain.maxSubroutine_terminates {n : Nat} {v : Nat → α} {alpha beta eps : α} {fuelMax : Nat}
    (hd : Domain n v alpha beta eps fuelMax) (coalition : Nat) (hc : coalition < 2 ^ n) (reached : Nat → Bool) :
    ∃ res, maxSubroutine (okGet v) n coalition reached eps fuelMax = .ok res :=
  Mul.maxSubroutine_terminates v n coalition reached eps fuelMax hd.n_pos
    (fun p hp => hd.singles p (lt_of_testBit hc (mem_players.mp hp))) hd.eps_pos hd.fuel

theorem eq_zero_of_sub_diff_self {c sub : Nat} (hsub : sub &&& c = sub) (h : c &&& diff c sub = c) : sub = 0 := by
  apply Nat.eq_of_testBit_eq
  intro i
  rw [Nat.zero_testBit]
  cases hs : sub.testBit i with
  | false => rfl
  | true =>
    have hci := sub_testBit hsub i hs
    have := sub_testBit h i hci
    rw [diff_testBit] at this
    simp [hs] at this

theorem candLoop_returns {n : Nat} {v : Nat → α} {alpha beta eps : α} {fuelMax : Nat}
    (hd : Domain n v alpha beta eps fuelMax) (kv : KVal) {rv : Nat} (hrv : 0 < rv) :
    ∀ (fuel c : Nat), c < 2 ^ n → (c = 0 ∨ kv.reached n (size c) = false) → size c + 1 ≤ fuel →
      ∃ res, candLoop (okGet v) n alpha beta eps kv rv fuelMax fuel c = .ok res := by
  intro fuel
  induction fuel with
  | zero => intro c _ _ h; omega
  | succ fuel ih =>
    intro c hc hsize hfuel
    rw [candLoop]
    change ∃ res, (if alpha = 0 then _ else _) = _
    rw [approxXos_okGet, if_neg hd.alpha_pos.ne']
    by_cases hthr : geThreshold n kv rv alpha (v c) = true
    · rw [if_pos hthr]
      dsimp only
      have hab : ¬ (c ≠ 0 ∧ alpha * beta = 0) := by
        rintro ⟨-, h⟩
        have : 0 < alpha * beta := mul_pos hd.alpha_pos (lt_of_lt_of_le (by norm_num) hd.beta_ge)
        exact this.ne' h
      rw [if_neg hab]
      have hne := cutOf_ne_zero_of_threshold v hd.n_pos hd.alpha_pos hd.beta_ge hd.empty kv hrv hsize hthr
      have hsubc := cutOf_sub v ((rv : α) / (((4 : Nat) : α) * alpha * beta)) c
      rw [subOf_marginals_eq]
      obtain ⟨⟨c', q2⟩, hms⟩ := hd.maxSubroutine_terminates
        (diff c (cutOf v ((rv : α) / (((4 : Nat) : α) * alpha * beta)) c))
        (lt_of_le_of_lt (sub_le (diff_sub c _)) hc) (kv.reached n)
      rw [hms]
      dsimp only
      obtain ⟨hc'sub, hc'size, -⟩ := maxSubroutine_result v n _ _ eps fuelMax c' q2 hms
      have hc'c : c' &&& c = c' := sub_trans hc'sub (diff_sub _ _)
      have hne' : c' ≠ c := by
        intro heq
        rw [heq] at hc'sub
        exact hne (eq_zero_of_sub_diff_self hsubc hc'sub)
      rw [if_neg hne']
      have hlt : size c' < size c := size_lt hc'c hne'
      obtain ⟨⟨cs, q3⟩, hrec⟩ := ih c' (lt_of_le_of_lt (sub_le hc'c) hc) hc'size (by omega)
      rw [hrec]
      exact ⟨_, rfl⟩
    · rw [if_neg hthr]
      exact ⟨_, rfl⟩

theorem candCell_returns {n : Nat} {v : Nat → α} {alpha beta eps : α} {fuelMax : Nat}
    (hd : Domain n v alpha beta eps fuelMax) (singles : List α) (kv : KVal) {rv : Nat} (hrv : 0 < rv) :
    ∃ res, candCell (okGet v) n alpha beta eps fuelMax singles kv rv = .ok res := by
  unfold candCell
  rw [if_neg hd.n_pos]
  dsimp only
  obtain ⟨⟨c, q0⟩, hms⟩ := hd.maxSubroutine_terminates _ (fromPlayers_light_lt n kv rv singles) (kv.reached n)
  rw [hms]
  dsimp only
  obtain ⟨hcsub, hcsize, -⟩ := maxSubroutine_result v n _ _ eps fuelMax c q0 hms
  have hc : c < 2 ^ n := lt_of_le_of_lt (sub_le hcsub) (fromPlayers_light_lt n kv rv singles)
  obtain ⟨⟨cs, q1⟩, hrec⟩ := candLoop_returns hd kv hrv (size c + 1) c hc hcsize le_rfl
  rw [hrec]
  exact ⟨_, rfl⟩

theorem candidates_returns {n : Nat} {v : Nat → α} {alpha beta eps : α} {fuelMax : Nat}
    (hd : Domain n v alpha beta eps fuelMax) :
    ∃ arr q, candidates (okGet v) n alpha beta eps fuelMax = .ok (arr, q) := by
  unfold candidates
  rw [singles_okGet]
  dsimp only
  rw [if_pos ((all_singles_ge_one v _).mpr fun p hp => hd.singles p (List.mem_range.mp hp))]
  obtain ⟨cells, hcells⟩ := mapE_isOk_of (fun kv => mapE (fun r => candCell (okGet v) n alpha beta eps fuelMax
      ((List.range n).map (fun p => v (singleton p))) kv r) (rVals n)) (kVals n)
    (fun kv _ => mapE_isOk_of _ _ (fun rv hrv => candCell_returns hd _ kv (rVals_pos hd.n_pos hrv)))
  rw [hcells]
  exact ⟨_, _, rfl⟩

end compose
end ICG.Mul

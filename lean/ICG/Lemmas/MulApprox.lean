/-
  ICG.Lemmas.MulApprox — `_compute_approximation` (ICG.Model.Mul) on a complete game: the value written for a
  coalition is the maximum of a list (`approxValue_isMax`), hence monotone; the vector it returns and its assertion;
  `maxXos` succeeds iff both of its parts do; lower bound for monotone submodular games (`MonoSubmod`) when every
  candidate is witnessed (`InCell`, `WitnessedBy`, `Witnessed`: what Lemmas/MulCompose.lean proves of `candidates`).
-/
import ICG.Lemmas.MulXos
import ICG.Lemmas.ListSum

namespace ICG.Mul
open ICG

section approx
set_option linter.unusedSectionVars false
variable {α : Type} [Field α] [LinearOrder α] [IsStrictOrderedRing α]

/-- `len(cand & coalition) * r / (4αβ)` with `u = 4αβ` -/
def newValue (u : α) (c r cand : Nat) : α := ((size (inter cand c) * r : Nat) : α) / u

/-- the new values of one row of the candidate array, the r-index counting from `r0` -/
def rowValues (u : α) (c r0 : Nat) (row : List (List Nat)) : List α :=
  (row.zipIdx r0).flatMap fun cr => cr.1.map (newValue u c cr.2)

def allValues (u : α) (cands : List (List (List Nat))) (c : Nat) : List α := cands.flatMap (rowValues u c 0)

theorem foldCell_eq (u : α) (c r : Nat) (cell : List Nat) (m : α) :
    foldCell u c r cell m = (cell.map (newValue u c r)).foldl max m := by
  unfold foldCell
  induction cell generalizing m with
  | nil => rfl
  | cons a l ih =>
    rw [List.foldl_cons, List.map_cons, List.foldl_cons, ih, max_def_lt]
    rfl

theorem foldRow_eq (u : α) (c : Nat) : ∀ (row : List (List Nat)) (r : Nat) (m : α),
    foldRow u c r row m = (rowValues u c r row).foldl max m := by
  intro row
  induction row with
  | nil => intro _ _; rfl
  | cons cell row ih =>
    intro r m
    rw [foldRow, rowValues, List.zipIdx_cons, List.flatMap_cons, List.foldl_append, ih (r + 1), foldCell_eq]
    rfl

theorem approxValue_eq (u : α) (cands : List (List (List Nat))) (c : Nat) (ms : α) :
    approxValue u cands c ms = (allValues u cands c).foldl max ms := by
  unfold approxValue allValues
  induction cands generalizing ms with
  | nil => rfl
  | cons row cands ih =>
    rw [List.foldl_cons, List.flatMap_cons, List.foldl_append, ih, foldRow_eq]

theorem approxValue_isMax (u : α) (cands : List (List (List Nat))) (c : Nat) (ms : α) :
    listMax? (ms :: allValues u cands c) = some (approxValue u cands c ms) := by
  rw [approxValue_eq]; rfl

/-- `cand` sits in the cell with column index `r` of some row of the candidate array (`r` is the loop INDEX of the
    r-axis, which `_compute_approximation` uses, not the r-value) -/
def InCell (cands : List (List (List Nat))) (r cand : Nat) : Prop :=
  ∃ row ∈ cands, ∃ cell, row[r]? = some cell ∧ cand ∈ cell

theorem mem_allValues (u : α) (cands : List (List (List Nat))) (c : Nat) (x : α) :
    x ∈ allValues u cands c ↔ ∃ r cand, InCell cands r cand ∧ x = newValue u c r cand := by
  simp only [allValues, rowValues, List.mem_flatMap, List.mem_map, List.mem_zipIdx_iff_getElem?, InCell, Prod.exists]
  constructor
  · rintro ⟨row, hrow, cell, r, hcell, cand, hcand, rfl⟩
    exact ⟨r, cand, ⟨row, hrow, cell, hcell, hcand⟩, rfl⟩
  · rintro ⟨r, cand, ⟨row, hrow, cell, hcell, hcand⟩, rfl⟩
    exact ⟨row, hrow, cell, r, hcell, cand, hcand, rfl⟩

theorem le_approxValue_self (u : α) (cands : List (List (List Nat))) (c : Nat) (ms : α) :
    ms ≤ approxValue u cands c ms :=
  le_listMax? (approxValue_isMax u cands c ms) List.mem_cons_self

theorem newValue_le_approxValue (u : α) (cands : List (List (List Nat))) (c : Nat) (ms : α) {r cand : Nat}
    (h : InCell cands r cand) : newValue u c r cand ≤ approxValue u cands c ms :=
  le_listMax? (approxValue_isMax u cands c ms)
    (List.mem_cons_of_mem _ ((mem_allValues u cands c _).mpr ⟨r, cand, h, rfl⟩))

theorem approxValue_le (u : α) (cands : List (List (List Nat))) (c : Nat) (ms b : α) (hms : ms ≤ b)
    (hnew : ∀ r cand, InCell cands r cand → newValue u c r cand ≤ b) : approxValue u cands c ms ≤ b := by
  rcases List.mem_cons.mp (listMax?_mem (approxValue_isMax u cands c ms)) with h | h
  · rw [h]; exact hms
  · obtain ⟨r, cand, h1, h2⟩ := (mem_allValues u cands c _).mp h
    rw [h2]; exact hnew r cand h1

theorem newValue_mono {u : α} (hu : 0 < u) {c c' : Nat} (h : c &&& c' = c) (r cand : Nat) :
    newValue u c r cand ≤ newValue u c' r cand := by
  have hsub : inter cand c &&& inter cand c' = inter cand c := sub_of_testBit fun i hi => by
    rw [inter_testBit, Bool.and_eq_true] at hi ⊢
    exact ⟨hi.1, sub_testBit h i hi.2⟩
  exact div_le_div_of_nonneg_right (Nat.cast_le.mpr (Nat.mul_le_mul_right _ (size_le_of_sub hsub))) hu.le

theorem approxValue_mono {u : α} (hu : 0 < u) (cands : List (List (List Nat))) {c c' : Nat} (h : c &&& c' = c)
    {ms ms' : α} (hms : ms ≤ ms') : approxValue u cands c ms ≤ approxValue u cands c' ms' := by
  apply approxValue_le
  · exact le_trans hms (le_approxValue_self u cands c' ms')
  · intro r cand hin
    exact le_trans (newValue_mono hu h r cand) (newValue_le_approxValue u cands c' ms' hin)

/-- the largest singleton value inside a non-empty coalition (`0` for the empty one, never used) -/
def msOf (v : Nat → α) (c : Nat) : α :=
  match players c with
  | [] => 0
  | p :: ps => (ps.map (fun p => v (singleton p))).foldl max (v (singleton p))

theorem msOf_isMax (v : Nat → α) {c : Nat} (hc : c ≠ 0) :
    listMax? ((players c).map (fun p => v (singleton p))) = some (msOf v c) := by
  unfold msOf
  cases h : players c with
  | nil => exact absurd h (players_ne_nil hc)
  | cons p ps => rfl

theorem le_msOf (v : Nat → α) {c p : Nat} (hp : c.testBit p = true) : v (singleton p) ≤ msOf v c := by
  have hc : c ≠ 0 := by rintro rfl; simp at hp
  exact le_listMax? (msOf_isMax v hc) (List.mem_map.mpr ⟨p, mem_players.mpr hp, rfl⟩)

theorem msOf_mem (v : Nat → α) {c : Nat} (hc : c ≠ 0) : ∃ p, c.testBit p = true ∧ msOf v c = v (singleton p) := by
  obtain ⟨p, hp, he⟩ := List.mem_map.mp (listMax?_mem (msOf_isMax v hc))
  exact ⟨p, mem_players.mp hp, he.symm⟩

theorem msOf_mono (v : Nat → α) {c c' : Nat} (h : c &&& c' = c) (hc : c ≠ 0) : msOf v c ≤ msOf v c' := by
  obtain ⟨p, hp, he⟩ := msOf_mem v hc
  rw [he]
  exact le_msOf v (sub_testBit h p hp)

/-- the vector `_compute_approximation` returns on a complete game with singletons ≥ 1 (`4αβ ≠ 0`): `0` for the empty
    coalition, otherwise the maximum (`approxValue_isMax`) of the largest singleton inside the coalition and of
    `len(cand & coalition)·r/(4αβ)` over all candidates, `r` the INDEX of the candidate's cell -/
theorem approximation_vector (v : Nat → α) (n : Nat) (cands : List (List (List Nat))) (alpha beta : α)
    (h1 : ∀ p, p < n → 1 ≤ v (singleton p)) (hu : ((4 : Nat) : α) * alpha * beta ≠ 0) :
    computeApproximation (okGet v) n cands alpha beta =
      .ok ((allCoalitions n).map (fun c =>
        if c = 0 then 0 else approxValue (((4 : Nat) : α) * alpha * beta) cands c (msOf v c))) := by
  unfold computeApproximation
  rw [singles_okGet]
  dsimp only
  rw [if_pos ((all_singles_ge_one v _).mpr fun p hp => h1 p (List.mem_range.mp hp)), if_neg (fun h => hu h.2.2)]
  apply mapE_ok_of
  intro c hc
  have hc : c < 2 ^ n := List.mem_range.mp hc
  by_cases h0 : c = 0
  · simp [h0]
  · simp only [if_neg h0]
    have hin : mapE (lookupE ((List.range n).map (fun p => v (singleton p)))) (players c)
        = .ok ((players c).map (fun p => v (singleton p))) := by
      apply mapE_ok_of
      intro p hp
      have hpn : p < n := lt_of_testBit hc (mem_players.mp hp)
      simp [lookupE, hpn]
    rw [hin]
    dsimp only
    rw [msOf_isMax v h0]


theorem approximation_entry {v : Nat → α} {n : Nat} {cands : List (List (List Nat))} {alpha beta : α}
    (h1 : ∀ p, p < n → 1 ≤ v (singleton p)) (hu : ((4 : Nat) : α) * alpha * beta ≠ 0) {vals : List α}
    (h : computeApproximation (okGet v) n cands alpha beta = .ok vals) {c : Nat} (hc : c < 2 ^ n) :
    vals[c]? = some (if c = 0 then 0 else approxValue (((4 : Nat) : α) * alpha * beta) cands c (msOf v c)) := by
  rw [approximation_vector v n cands alpha beta h1 hu] at h
  simp only [Except.ok.injEq] at h
  subst h
  simp [allCoalitions, List.getElem?_range hc]

/-- singleton below 1: AssertionError -/
theorem computeApproximation_assert (v : Nat → α) (n : Nat) (cands : List (List (List Nat))) (alpha beta : α)
    (h1 : ∃ p, p < n ∧ v (singleton p) < 1) :
    computeApproximation (okGet v) n cands alpha beta = .error .assert := by
  unfold computeApproximation
  rw [singles_okGet]
  dsimp only
  obtain ⟨p, hp, hlt⟩ := h1
  rw [if_neg (fun h => not_le.mpr hlt ((all_singles_ge_one v _).mp h p (List.mem_range.mpr hp)))]

theorem maxXos_eq_ok_iff {get : Nat → Except Err α} {n : Nat} {alpha beta eps : α} {fuelMax : Nat} {q : List Nat}
    {vals : List α} :
    maxXos get n alpha beta eps fuelMax = .ok (q, vals) ↔
      ∃ cands, candidates get n alpha beta eps fuelMax = .ok (cands, q) ∧
        computeApproximation get n cands alpha beta = .ok vals := by
  unfold maxXos
  cases candidates get n alpha beta eps fuelMax with
  | error e => simp
  | ok res =>
    obtain ⟨cands, q'⟩ := res
    cases hv : computeApproximation get n cands alpha beta with
    | error e => simp [hv]
    | ok vals' =>
      simp only [hv, Except.ok.injEq, Prod.mk.injEq]
      exact ⟨fun ⟨h1, h2⟩ => ⟨cands, ⟨rfl, h1⟩, h2 ▸ hv⟩,
        fun ⟨c, ⟨hc, h1⟩, h2⟩ => ⟨h1, by subst hc; rw [hv] at h2; exact Except.ok.inj h2⟩⟩

/-! ### lower bound for monotone submodular games -/

/-- monotone, submodular (decreasing marginal contributions), `v(∅) ≥ 0` — on the coalitions of `n` players -/
structure MonoSubmod (n : Nat) (v : Nat → α) : Prop where
  mono : ∀ a b, a &&& b = a → b < 2 ^ n → v a ≤ v b
  submod : ∀ a b p, a &&& b = a → b < 2 ^ n → p < n → b.testBit p = false →
    v (addPlayer b p) - v b ≤ v (addPlayer a p) - v a
  empty : 0 ≤ v 0

/-- `cand` lies in a coalition `C` along whose id order each of its players has a marginal contribution ≥ `t` -/
def WitnessedBy (n : Nat) (v : Nat → α) (t : α) (cand : Nat) : Prop :=
  ∃ C, C < 2 ^ n ∧ cand &&& C = cand ∧ ∀ p, cand.testBit p = true → t ≤ marginal v C p

theorem WitnessedBy.mono {n : Nat} {v : Nat → α} {t t' : α} {cand : Nat} (h : WitnessedBy n v t cand) (ht : t' ≤ t) :
    WitnessedBy n v t' cand :=
  let ⟨C, hC, hsub, hmarg⟩ := h
  ⟨C, hC, hsub, fun p hp => le_trans ht (hmarg p hp)⟩

/-- every candidate of the cell with column INDEX `r` is witnessed with `r / u` -/
def Witnessed (n : Nat) (v : Nat → α) (u : α) (cands : List (List (List Nat))) : Prop :=
  ∀ r cand, InCell cands r cand → WitnessedBy n v ((r : α) / u) cand

theorem mod_sub_mod {X C p : Nat} (h : X &&& C = X) : (X % 2 ^ p) &&& (C % 2 ^ p) = X % 2 ^ p := by
  rw [← Nat.and_mod_two_pow, h]

theorem marginal_anti {n : Nat} {v : Nat → α} (hv : MonoSubmod n v) {X C p : Nat} (hXC : X &&& C = X)
    (hC : C < 2 ^ n) (hp : X.testBit p = true) : marginal v C p ≤ marginal v X p := by
  have hCp : C.testBit p = true := sub_testBit hXC p hp
  have hpn : p < n := lt_of_testBit hC hCp
  have hb : (C % 2 ^ p) < 2 ^ n := lt_of_le_of_lt (Nat.mod_le _ _) hC
  have hbp : (C % 2 ^ p).testBit p = false := by rw [Nat.testBit_mod_two_pow]; simp
  have := hv.submod (X % 2 ^ p) (C % 2 ^ p) p (mod_sub_mod hXC) hb hpn hbp
  rw [addPlayer_mod_two_pow hCp, addPlayer_mod_two_pow hp] at this
  exact this

theorem sum_marginals_le {n : Nat} {v : Nat → α} (hv : MonoSubmod n v) {X C : Nat} (hXC : X &&& C = X)
    (hC : C < 2 ^ n) : ((players X).map (marginal v C)).sum ≤ v X - v 0 := by
  rw [← marginals_sum_players v X]
  exact sum_map_le_sum_map _ _ _ (fun p hp => marginal_anti hv hXC hC (mem_players.mp hp))

theorem newValue_le_of_witnessed {n : Nat} {v : Nat → α} (hv : MonoSubmod n v) {u : α}
    {cands : List (List (List Nat))} (hw : Witnessed n v u cands) {c : Nat} (hc : c < 2 ^ n) {r cand : Nat}
    (hin : InCell cands r cand) : newValue u c r cand ≤ v c := by
  obtain ⟨C, hC, hsub, hmarg⟩ := hw r cand hin
  -- X = cand ∩ c
  have hXcand : inter cand c &&& cand = inter cand c :=
    sub_of_testBit fun i hi => by rw [inter_testBit, Bool.and_eq_true] at hi; exact hi.1
  have hXc : inter cand c &&& c = inter cand c :=
    sub_of_testBit fun i hi => by rw [inter_testBit, Bool.and_eq_true] at hi; exact hi.2
  unfold newValue
  rw [size_eq_length_players, Nat.cast_mul, mul_div_assoc, ← sum_map_const]
  calc ((players (inter cand c)).map fun _ => (r : α) / u).sum
      ≤ ((players (inter cand c)).map (marginal v C)).sum :=
        sum_map_le_sum_map _ _ _ (fun p hp => hmarg p (sub_testBit hXcand p (mem_players.mp hp)))
    _ ≤ v (inter cand c) - v 0 := sum_marginals_le hv (sub_trans hXcand hsub) hC
    _ ≤ v (inter cand c) := sub_le_self _ hv.empty
    _ ≤ v c := hv.mono _ _ hXc hc

theorem approxValue_le_game {n : Nat} {v : Nat → α} (hv : MonoSubmod n v) {u : α}
    {cands : List (List (List Nat))} (hw : Witnessed n v u cands) {c : Nat} (hc : c < 2 ^ n) (h0 : c ≠ 0) :
    approxValue u cands c (msOf v c) ≤ v c := by
  apply approxValue_le
  · obtain ⟨p, hp, he⟩ := msOf_mem v h0
    rw [he]
    exact hv.mono _ _ (two_pow_sub_of_testBit hp) hc
  · intro r cand hin
    exact newValue_le_of_witnessed hv hw hc hin

end approx
end ICG.Mul

#print axioms ICG.Mul.approximation_vector

/-
  ICG.Lemmas.MulPin10Game — the game of the FINDING about `compute_max_xos_approximation` at the DEFAULT parameters
  (alpha = 3.7844223824, beta = 1, eps = 0.05 — the exact rationals of these float64 numbers).

  `pin10` is a 10-player game that is monotone and subadditive (what the docstring of the function expects) with
  `v(∅) = 0` and every singleton ≥ 1 (what its `assert` demands); the statement about it is
  `ICG.Mul.lower_bound_fails_default` (Props/Mul.lean); harness/corr_mul.py runs the real code on the same numbers
  (`PIN10_ACTIVE`).  The 512 values of the 9 active players (ids 0..8), in units of 1/1024, are packed 16 bits apiece
  into `pin10Packed`; player 9 adds nothing to a non-empty coalition, so monotonicity and subadditivity are checked on
  the 9 active players (`pin9`) and carried over by `monotone_of_null_players`, `subadditive_of_null_players`.
  Most of the file is the checkers for any `w : Nat → Nat` with their correctness: `monotoneN`, and `subaddBelow` /
  `subaddN`, which walk the disjoint pairs of coalitions by recursion on the player index (`disjoint_pair_cases`).
-/
import ICG.Lemmas.MulXos
import Mathlib.Algebra.Order.Field.Rat
namespace ICG.Mul
open ICG

def pin10Packed : Nat := 0x5ce858a446e846bf58a4587b466e427b46e842a430e830bf46bf427b30bf309658a4587b42a4427b587b5852427b425242a4427b3096306e427b42522c7b2c5246e842a430e830bf42a442a4306e306e30e830bf1ae81abf30bf30961abf1a9642a4427b30962c7b427b42522c7b2c7b2ccd2ccd1abf1a6e2ca42c521a6e1a6e58a4587b466e466e587b585246454252469642a43096306e427b425230963045587b5852427b42525852582942524229427b425230452c52425242292c522c2942a4427b306e306e427b4252306e2c5230bf30961abf1a962c7b2c521a961a45427b42522c7b2c52425242292c522c292c7b2c521a4516522c522c291652162946e8469630e830bf4696469630bf309630e830bf1ae81abf30bf30961abf1a9642a442a43096306e427b4252306e306e3096306e1abf1a6e2c7b2c7b1a6e1a6e30e830bf1ae81abf30bf30961abf1a961ae81abf04e804bf1abf1a9604bf04962ca42ca41a961a962c7b2c521a6e1a6e1a961a9604bf04961a96167b0496046e4696469630963096427b42523096301c309630961a961a96306e306e1a961a6e427b427b3096306e425242292c522c292c7b2c7b1a961a6e2c7b2c7b1a6e1a45309630961a961a962c7b2c521a961a451abf1a9604bf04961a6e1a6e0496046e2ca42c7b1a961a6e2c522c291a6e1a451a96167b0496046e167b167b046e044558a4587b466e466e587b5852466e425242a4427b30bf3096427b4252306e3045587b5852427b427b585258294252422942a442523096306e425242522c522c5242a4427b306e306e427b4252306e306e30bf30961abf1a962c7b2c521a6e1a6e427b42522c7b2c7b425242522c522c522ccd2c521a961a6e2c522c5216521652587b5852466e42525852582942524252427b427b3096306e425242523045304558525829425242295829580042294200425242292c522c29422942002c292c00427b427b306e306e427b42292c7b2c522c7b2c7b1a961a6e2c7b2c521a451a45425242292c522c29422942002c292c002c522c29165216522c292c001652160046bf469630bf3096469642a43096306e30bf30961abf1a963096306e1a961a6e42a442523096306e425242292c522c2930962c7b1a961a6e2c7b2c7b1a6e1a4530bf30961abf1a9630962ca41a961a6e1abf1a9604bf04961a961a6e0496046e2ca42c521a961a6e2c7b2c521a4516521a9616a40496046e167b167b046e0445427b427b30963045427b4229301c301c306e306e1a961a6e306e2c521a6e1a45425242292c522c29422942002c292c002c7b2c7b1a451a452c292c001a4516003096306e1a961a6e2c7b2c521a6e1a451a961a6e0496046e1a6e1a45046e04452c522c291a6e16292c292c001a4516001a6e167b046e04451629160004450000

/-- value of the coalition `c` in units of 1/1024 -/
def pin10N (c : Nat) : Nat :=
  if c % 512 = 0 then (if c = 0 then 0 else 1024) else (pin10Packed >>> (16 * (c % 512))) % 65536

def pin10 (c : Nat) : Rat := (pin10N c : Rat) / 1024

/-- alpha = 3.7844223824 as float64 -/
def alpha0 : Rat := 4260880807797301 / 1125899906842624
/-- eps = 0.05 as float64 -/
def eps0 : Rat := 3602879701896397 / 72057594037927936

def monotoneN (n : Nat) (w : Nat → Nat) : Bool :=
  (List.range (2 ^ n)).all fun c => (List.range n).all fun i => Nat.ble (w c) (w (c ||| 2 ^ i))

theorem monotoneN_spec {n : Nat} {w : Nat → Nat} (h : monotoneN n w = true) {c i : Nat} (hc : c < 2 ^ n) (hi : i < n) :
    w c ≤ w (c ||| 2 ^ i) :=
  Nat.le_of_ble_eq_true
    (List.all_eq_true.mp (List.all_eq_true.mp h c (List.mem_range.mpr hc)) i (List.mem_range.mpr hi))

/-- `w(A ∪ B) ≤ w(A) + w(B)` for every pair `A ⊇ a`, `B ⊇ b` that is obtained by giving each player below `i` to
    `A`, to `B` or to neither: the 3^i disjoint pairs are walked without forming a list -/
def subaddBelow (w : Nat → Nat) : Nat → Nat → Nat → Bool
  | 0, a, b => Nat.ble (w (a ||| b)) (w a + w b)
  | i + 1, a, b => subaddBelow w i a b && subaddBelow w i (a ||| 2 ^ i) b && subaddBelow w i a (b ||| 2 ^ i)

/-- a disjoint pair below `2^(i+1)` is a disjoint pair below `2^i` with player `i` given to neither, to the first or
    to the second -/
theorem disjoint_pair_cases {x y i : Nat} (hx : x < 2 ^ (i + 1)) (hy : y < 2 ^ (i + 1)) (hxy : x &&& y = 0) :
    ∃ x' y', x' < 2 ^ i ∧ y' < 2 ^ i ∧ x' &&& y' = 0 ∧
      ((x = x' ∧ y = y') ∨ (x = 2 ^ i ||| x' ∧ y = y') ∨ (x = x' ∧ y = 2 ^ i ||| y')) := by
  have low : ∀ {z : Nat}, z < 2 ^ (i + 1) → z.testBit i = false → z = z % 2 ^ i := fun {z} hz h => by
    rw [mod_two_pow_eq_of_gap (Nat.le_succ i) (fun j hj hj' => (show j = i by omega) ▸ h), Nat.mod_eq_of_lt hz]
  have high : ∀ {z : Nat}, z < 2 ^ (i + 1) → z.testBit i = true → z = 2 ^ i ||| z % 2 ^ i := fun {z} hz h => by
    rw [Nat.or_comm]
    exact ((addPlayer_mod_two_pow h).trans (Nat.mod_eq_of_lt hz)).symm
  refine ⟨x % 2 ^ i, y % 2 ^ i, Nat.mod_lt x (Nat.two_pow_pos i), Nat.mod_lt y (Nat.two_pow_pos i),
    by rw [← Nat.and_mod_two_pow, hxy, Nat.zero_mod], ?_⟩
  cases hbx : x.testBit i with
  | true =>
    exact Or.inr (Or.inl ⟨high hx hbx, low hy (Bool.eq_false_iff.mpr fun h => testBit_disjoint hxy ⟨hbx, h⟩)⟩)
  | false =>
    cases hby : y.testBit i with
    | true => exact Or.inr (Or.inr ⟨low hx hbx, high hy hby⟩)
    | false => exact Or.inl ⟨low hx hbx, low hy hby⟩

theorem subaddBelow_spec (w : Nat → Nat) : ∀ (i a b : Nat), subaddBelow w i a b = true →
    ∀ x y, x < 2 ^ i → y < 2 ^ i → x &&& y = 0 → w ((a ||| x) ||| (b ||| y)) ≤ w (a ||| x) + w (b ||| y) := by
  intro i
  induction i with
  | zero =>
    intro a b h x y hx hy _
    rw [Nat.lt_one_iff.mp hx, Nat.lt_one_iff.mp hy, Nat.or_zero, Nat.or_zero]
    exact Nat.le_of_ble_eq_true h
  | succ i ih =>
    intro a b h x y hx hy hxy
    simp only [subaddBelow, Bool.and_eq_true] at h
    obtain ⟨⟨h00, h10⟩, h01⟩ := h
    obtain ⟨x', y', hx', hy', hxy', ⟨rfl, rfl⟩ | ⟨rfl, rfl⟩ | ⟨rfl, rfl⟩⟩ := disjoint_pair_cases hx hy hxy
    · exact ih a b h00 _ _ hx' hy' hxy'
    · rw [← Nat.or_assoc a]
      exact ih (a ||| 2 ^ i) b h10 _ _ hx' hy' hxy'
    · rw [← Nat.or_assoc b]
      exact ih a (b ||| 2 ^ i) h01 _ _ hx' hy' hxy'

/-- subadditivity on the players below `i`, each unordered pair once: the highest player of the pair is in the first
    coalition -/
def subaddN (w : Nat → Nat) : Nat → Bool
  | 0 => true
  | i + 1 => subaddN w i && subaddBelow w i (2 ^ i) 0

theorem subadditive_of_subaddN (w : Nat → Nat) : ∀ (n : Nat), subaddN w n = true →
    ∀ x y, x < 2 ^ n → y < 2 ^ n → x &&& y = 0 → w (x ||| y) ≤ w x + w y := by
  intro n
  induction n with
  | zero =>
    intro _ x y hx hy _
    rw [Nat.lt_one_iff.mp hx, Nat.lt_one_iff.mp hy]
    exact Nat.le_add_right _ _
  | succ i ih =>
    intro h x y hx hy hxy
    simp only [subaddN, Bool.and_eq_true] at h
    obtain ⟨x', y', hx', hy', hxy', ⟨rfl, rfl⟩ | ⟨rfl, rfl⟩ | ⟨rfl, rfl⟩⟩ := disjoint_pair_cases hx hy hxy
    · exact ih h.1 _ _ hx' hy' hxy
    · have := subaddBelow_spec w i (2 ^ i) 0 h.2 _ _ hx' hy' hxy'
      rwa [Nat.zero_or] at this
    · -- the pair the other way round
      have := subaddBelow_spec w i (2 ^ i) 0 h.2 _ _ hy' hx' (Nat.and_comm _ _ ▸ hxy')
      rwa [Nat.zero_or, Nat.or_comm, Nat.add_comm] at this

/-! ### players from `k` on that add nothing to a non-empty coalition

`f` is `g` on the players below `k`, except that `f(∅) = 0` (`g 0` is the value of a non-empty coalition without a
player below `k`): monotonicity and subadditivity of `f` on any number of players follow from those of `g` on `k`. -/
section null
variable {f g : Nat → Nat} {k : Nat} (hf : ∀ c, f c = if c = 0 then 0 else g (c % 2 ^ k))
include hf

theorem monotone_of_null_players (hg : ∀ x i, x < 2 ^ k → i < k → g x ≤ g (x ||| 2 ^ i)) (c i : Nat) :
    f c ≤ f (c ||| 2 ^ i) := by
  rw [hf c, hf (c ||| 2 ^ i)]
  by_cases hc : c = 0
  · rw [if_pos hc]; exact Nat.zero_le _
  · have hne : c ||| 2 ^ i ≠ 0 := fun h => hc (Nat.or_eq_zero_iff.mp h).1
    rw [if_neg hc, if_neg hne, Nat.or_mod_two_pow]
    by_cases hi : i < k
    · rw [Nat.mod_eq_of_lt (Nat.pow_lt_pow_right (by omega) hi)]
      exact hg _ i (Nat.mod_lt c (Nat.two_pow_pos k)) hi
    · rw [Nat.mod_eq_zero_of_dvd (Nat.pow_dvd_pow 2 (Nat.le_of_not_lt hi)), Nat.or_zero]

theorem subadditive_of_null_players (hg : ∀ x y, x < 2 ^ k → y < 2 ^ k → x &&& y = 0 → g (x ||| y) ≤ g x + g y) {a b : Nat}
    (hab : a &&& b = 0) : f (a ||| b) ≤ f a + f b := by
  by_cases ha : a = 0
  · rw [ha, Nat.zero_or]; exact Nat.le_add_left _ _
  by_cases hb : b = 0
  · rw [hb, Nat.or_zero]; exact Nat.le_add_right _ _
  rw [hf a, hf b, hf (a ||| b), if_neg ha, if_neg hb, if_neg (fun h => ha (Nat.or_eq_zero_iff.mp h).1),
    Nat.or_mod_two_pow]
  exact hg _ _ (Nat.mod_lt a (Nat.two_pow_pos k)) (Nat.mod_lt b (Nat.two_pow_pos k))
    (by rw [← Nat.and_mod_two_pow, hab, Nat.zero_mod])

end null

/-- `pin10N` on the 9 active players; the entry for the empty set is the value of `{9}` -/
def pin9 (x : Nat) : Nat := if x = 0 then 1024 else (pin10Packed >>> (16 * x)) % 65536

theorem pin10N_eq (c : Nat) : pin10N c = if c = 0 then 0 else pin9 (c % 2 ^ 9) := by
  unfold pin10N pin9
  by_cases hc : c = 0
  · subst hc; rfl
  · rw [if_neg hc, if_neg hc]; rfl

set_option maxRecDepth 1000000 in
theorem pin9_monotone : monotoneN 9 pin9 = true := by decide +kernel

set_option maxRecDepth 1000000 in
theorem pin9_subadditive : subaddN pin9 9 = true := by decide +kernel

theorem pin10_le {a b : Nat} (h : pin10N a ≤ pin10N b) : pin10 a ≤ pin10 b := by
  unfold pin10
  exact div_le_div_of_nonneg_right (Nat.cast_le.mpr h) (by norm_num)

theorem pin10_monotone (c i : Nat) : pin10 c ≤ pin10 (c ||| 2 ^ i) :=
  pin10_le (monotone_of_null_players pin10N_eq (fun _ _ hx hi => monotoneN_spec pin9_monotone hx hi) c i)

theorem pin10_subadditive {a b : Nat} (hab : a &&& b = 0) : pin10 (a ||| b) ≤ pin10 a + pin10 b := by
  have := subadditive_of_null_players pin10N_eq (subadditive_of_subaddN pin9 9 pin9_subadditive) hab
  unfold pin10
  rw [← add_div]
  apply div_le_div_of_nonneg_right _ (by norm_num)
  exact_mod_cast this

theorem pin10_singletons : (∀ p, p < 10 → 1 ≤ pin10 (singleton p)) ∧ pin10 0 = 0 :=
  ⟨by decide +kernel, by decide +kernel⟩

end ICG.Mul

/-
  ICG.Lemmas.RegretHelpers — the `Except` monad and the numpy-style helpers of ICG.Model.Regret (`getIdx`, `setIdx`,
  `assignMany`, `broadcastTo`) as proofs use them: when a computation succeeds (namespace `ICG.Regret`), and how it
  commutes with a map of its inputs (`Except.map`, namespace `ICG.Equivariance`).
-/
import ICG.Model.Regret

namespace ICG.Regret
open ICG

theorem bind_ok {ε β γ} {x : Except ε β} {f : β → Except ε γ} {c : γ} :
    (x >>= f) = .ok c ↔ ∃ a, x = .ok a ∧ f a = .ok c := by
  cases x <;> simp [bind, Except.bind]

theorem pure_ok {ε β} {a b : β} : (pure a : Except ε β) = .ok b ↔ a = b := by
  simp [pure, Except.pure]

theorem ok_bind {ε β γ} (a : β) (f : β → Except ε γ) : (Except.ok a >>= f) = f a := rfl

theorem getIdx_of_getElem? {β} {l : List β} {i : Nat} {x : β} (h : l[i]? = some x) : getIdx l i = .ok x := by
  unfold getIdx; simp only [h]

theorem getIdx_ok {β} {l : List β} {i : Nat} (h : i < l.length) : getIdx l i = .ok l[i] :=
  getIdx_of_getElem? (List.getElem?_eq_getElem h)

theorem getIdx_eq_ok {β} {l : List β} {i : Nat} {x : β} (h : getIdx l i = .ok x) :
    ∃ hi : i < l.length, l[i] = x := by
  unfold getIdx at h
  cases hl : l[i]? with
  | none => simp [hl] at h
  | some y =>
    simp only [hl, Except.ok.injEq] at h
    obtain ⟨hi, hy⟩ := List.getElem?_eq_some_iff.mp hl
    exact ⟨hi, hy.trans h⟩

theorem setIdx_ok {β} {l : List β} {i : Nat} (v : β) (h : i < l.length) : setIdx l i v = .ok (l.set i v) := by
  unfold setIdx; simp only [h, if_true]

theorem mapM_ok {β γ} {f : β → Except Err γ} {g : β → γ} :
    ∀ (l : List β), (∀ x ∈ l, f x = .ok (g x)) → l.mapM f = .ok (l.map g)
  | [], _ => by simp [pure, Except.pure]
  | x :: xs, h => by
    rw [List.mapM_cons, h x List.mem_cons_self, mapM_ok xs (fun y hy => h y (List.mem_cons_of_mem _ hy))]
    rfl

theorem mapM_exists {β γ} {f : β → Except Err γ} {P : γ → Prop} :
    ∀ (l : List β), (∀ x ∈ l, ∃ y, f x = .ok y ∧ P y) →
      ∃ ys, l.mapM f = .ok ys ∧ ys.length = l.length ∧ ∀ y ∈ ys, P y
  | [], _ => ⟨[], by simp [pure, Except.pure], rfl, by simp⟩
  | x :: xs, h => by
    obtain ⟨y, hy, hP⟩ := h x List.mem_cons_self
    obtain ⟨ys, hys, hl, hPs⟩ := mapM_exists xs (fun z hz => h z (List.mem_cons_of_mem _ hz))
    refine ⟨y :: ys, ?_, by simp [hl], ?_⟩
    · rw [List.mapM_cons, hy, hys]; rfl
    · intro z hz
      rcases List.mem_cons.mp hz with rfl | hz
      · exact hP
      · exact hPs z hz

theorem mapM_getIdx {β} {l : List β} {P : β → Prop} (hP : ∀ x ∈ l, P x) {idx : List Nat}
    (h : ∀ i ∈ idx, i < l.length) :
    ∃ ys, idx.mapM (getIdx l) = .ok ys ∧ ∀ y ∈ ys, P y :=
  let ⟨ys, h1, _, h2⟩ :=
    mapM_exists idx (fun i hi => ⟨l[i]'(h i hi), getIdx_ok (h i hi), hP _ (List.getElem_mem _)⟩)
  ⟨ys, h1, h2⟩

/-- `done`: the indices processed so far, most recent first -/
theorem foldlM_inv_done {σ ι} {f : σ → ι → Except Err σ} {I : List ι → σ → Prop} :
    ∀ (l done : List ι) (s : σ), I done s →
      (∀ done s, ∀ x ∈ l, I done s → ∃ s', f s x = .ok s' ∧ I (x :: done) s') →
      ∃ s', l.foldlM f s = .ok s' ∧ I (l.reverse ++ done) s'
  | [], done, s, hs, _ => ⟨s, rfl, by simpa using hs⟩
  | x :: xs, done, s, hs, h => by
    obtain ⟨s1, h1, hI1⟩ := h done s x List.mem_cons_self hs
    obtain ⟨s', h', hI'⟩ := foldlM_inv_done xs (x :: done) s1 hI1
      (fun d s y hy => h d s y (List.mem_cons_of_mem _ hy))
    refine ⟨s', by rw [List.foldlM_cons, h1]; exact h', ?_⟩
    simpa [List.reverse_cons, List.append_assoc] using hI'

theorem foldl_set_length {β} : ∀ (ps : List (Nat × β)) (a : List β),
    (ps.foldl (fun a p => a.set p.1 p.2) a).length = a.length
  | [], _ => rfl
  | p :: ps, a => by rw [List.foldl_cons, foldl_set_length ps, List.length_set]

theorem foldl_set_forall {β} {P : β → Prop} : ∀ (ps : List (Nat × β)) (a : List β),
    (∀ x ∈ a, P x) → (∀ p ∈ ps, P p.2) → ∀ x ∈ ps.foldl (fun a p => a.set p.1 p.2) a, P x
  | [], _, ha, _ => ha
  | p :: ps, a, ha, hp => by
    rw [List.foldl_cons]
    refine foldl_set_forall ps _ ?_ ?_
    · intro x hx
      rcases List.mem_or_eq_of_mem_set hx with h | rfl
      · exact ha x h
      · exact hp p List.mem_cons_self
    · exact fun q hq => hp q (List.mem_cons_of_mem _ hq)

theorem foldl_set_getElem?_of_not_mem {β} : ∀ (ps : List (Nat × β)) (a : List β) (k : Nat),
    (∀ p ∈ ps, p.1 ≠ k) → (ps.foldl (fun a p => a.set p.1 p.2) a)[k]? = a[k]?
  | [], _, _, _ => rfl
  | p :: ps, a, k, h => by
    rw [List.foldl_cons, foldl_set_getElem?_of_not_mem ps _ k (fun q hq => h q (List.mem_cons_of_mem _ hq)),
      List.getElem?_set_ne (h p List.mem_cons_self)]

theorem assignMany_spec {β} {a : List β} {idx : List Nat} {vals : List β} (h : ∀ i ∈ idx, i < a.length) :
    ∃ a', assignMany a idx vals = .ok a' ∧ a'.length = a.length ∧
      (∀ P : β → Prop, (∀ x ∈ a, P x) → (∀ x ∈ vals, P x) → ∀ x ∈ a', P x) ∧
      ∀ k, k ∉ idx → a'[k]? = a[k]? := by
  refine ⟨(idx.zip vals).foldl (fun a p => a.set p.1 p.2) a, ?_, foldl_set_length _ _, ?_, ?_⟩
  · unfold assignMany
    have : idx.all (· < a.length) = true := by simpa using h
    simp only [this, if_true]
  · intro P ha hv
    exact foldl_set_forall _ _ ha (fun p hp => hv _ (List.of_mem_zip (a := p.1) (b := p.2) hp).2)
  · intro k hk
    apply foldl_set_getElem?_of_not_mem
    intro p hp hpk
    exact hk (hpk ▸ (List.of_mem_zip (a := p.1) (b := p.2) hp).1)

end ICG.Regret

namespace ICG.Equivariance
open ICG ICG.Regret

/-! ### `Except.map` calculus -/

section except
variable {ε β β' γ γ' σ σ' ι : Type}

theorem map_ok (f : β → γ) (a : β) : Except.map (ε := ε) f (.ok a) = .ok (f a) := rfl
theorem map_error (f : β → γ) (e : ε) : Except.map (ε := ε) f (.error e) = .error e := rfl

theorem exists_map_ok {f : β → γ} {x : Except ε β} : (∃ b, Except.map f x = .ok b) ↔ ∃ a, x = .ok a := by
  cases x with
  | error e => exact ⟨fun ⟨_, h⟩ => (nomatch h), fun ⟨_, h⟩ => (nomatch h)⟩
  | ok a => exact ⟨fun _ => ⟨a, rfl⟩, fun _ => ⟨f a, rfl⟩⟩

theorem map_eq_error {f : β → γ} {x : Except ε β} {e : ε} : Except.map f x = .error e ↔ x = .error e := by
  cases x with
  | error e' => exact ⟨fun h => by cases h; rfl, fun h => by cases h; rfl⟩
  | ok a => exact ⟨fun h => (nomatch h), fun h => (nomatch h)⟩

theorem map_pure (f : β → γ) (a : β) : Except.map (ε := ε) f (pure a) = pure (f a) := rfl

theorem bind_map_congr {x : Except ε β} {x' : Except ε β'} {f : β → β'}
    {g : β → Except ε γ} {g' : β' → Except ε γ'} {h : γ → γ'}
    (hx : x' = Except.map f x) (hg : ∀ a, g' (f a) = Except.map h (g a)) :
    (x' >>= g') = Except.map h (x >>= g) := by
  subst hx
  cases x with
  | error e => rfl
  | ok a => exact hg a

theorem bind_congr_map {x : Except ε β} {g : β → Except ε γ} {g' : β → Except ε γ'} {h : γ → γ'}
    (hg : ∀ a, g' a = Except.map h (g a)) : (x >>= g') = Except.map h (x >>= g) := by
  cases x with
  | error e => rfl
  | ok a => exact hg a

theorem bind_congr_eq {x : Except ε β} {g g' : β → Except ε γ} (hg : ∀ a, g' a = g a) :
    (x >>= g') = (x >>= g) := by
  cases x with
  | error e => rfl
  | ok a => exact hg a

theorem bind_map_eq {x : Except ε β} {x' : Except ε β'} {f : β → β'}
    {g : β → Except ε γ} {g' : β' → Except ε γ} (hx : x' = Except.map f x) (hg : ∀ a, g' (f a) = g a) :
    (x' >>= g') = (x >>= g) := by
  subst hx
  cases x with
  | error e => rfl
  | ok a => exact hg a

theorem foldlM_map {step : σ → ι → Except ε σ} {step' : σ' → ι → Except ε σ'} {f : σ → σ'}
    (h : ∀ s i, step' (f s) i = Except.map f (step s i)) :
    ∀ (l : List ι) (s : σ), l.foldlM step' (f s) = Except.map f (l.foldlM step s)
  | [], s => rfl
  | i :: l, s => by
    rw [List.foldlM_cons, List.foldlM_cons]
    exact bind_map_congr (h s i) (fun a => foldlM_map h l a)

theorem mapM_map {g : β → Except ε γ} {g' : β → Except ε γ'} {h : γ → γ'}
    (hg : ∀ a, g' a = Except.map h (g a)) :
    ∀ (l : List β), l.mapM g' = Except.map (List.map h) (l.mapM g)
  | [] => rfl
  | a :: l => by
    rw [List.mapM_cons, List.mapM_cons]
    refine bind_map_congr (hg a) (fun b => ?_)
    refine bind_map_congr (mapM_map hg l) (fun bs => ?_)
    rfl

end except

section helpers
variable {β γ : Type}

theorem getIdx_map (f : β → γ) (l : List β) (i : Nat) :
    getIdx (l.map f) i = Except.map f (getIdx l i) := by
  unfold getIdx
  rw [List.getElem?_map]
  cases l[i]? <;> rfl

theorem setIdx_map (f : β → γ) (l : List β) (i : Nat) (v : β) :
    setIdx (l.map f) i (f v) = Except.map (List.map f) (setIdx l i v) := by
  unfold setIdx
  rw [List.length_map]
  split
  · rw [map_ok, List.map_set]
  · rfl

theorem foldl_set_map (f : β → γ) : ∀ (ps : List (Nat × β)) (a : List β),
    (ps.map (Prod.map id f)).foldl (fun a p => a.set p.1 p.2) (a.map f) =
      (ps.foldl (fun a p => a.set p.1 p.2) a).map f
  | [], a => rfl
  | p :: ps, a => by
    rw [List.map_cons, List.foldl_cons, List.foldl_cons]
    show List.foldl _ ((a.map f).set p.1 (f p.2)) _ = _
    rw [← List.map_set]
    exact foldl_set_map f ps _

theorem assignMany_map (f : β → γ) (a : List β) (idx : List Nat) (vals : List β) :
    assignMany (a.map f) idx (vals.map f) = Except.map (List.map f) (assignMany a idx vals) := by
  unfold assignMany
  rw [List.length_map]
  split
  · rw [map_ok, List.zip_map_right, foldl_set_map]
  · rfl

theorem broadcastTo_map (f : β → γ) (rhs : List β) (k : Nat) :
    broadcastTo (rhs.map f) k = Except.map (List.map f) (broadcastTo rhs k) := by
  unfold broadcastTo
  rw [List.length_map]
  split
  · rfl
  · match rhs with
    | [] => rfl
    | [x] => simp [map_ok]
    | _ :: _ :: _ => rfl

end helpers

end ICG.Equivariance

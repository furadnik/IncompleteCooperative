/-
  ICG.Lemmas.SpecSA2 — pure mathematics on the bound specification, part 2 (C02, tightness):

  * if the partial game has a superadditive completion at all, the lower game `loSpec` is one
  * for every unknown coalition `c` some completion attains `upSpec` at `c` (extreme upper completion)
  * best-partition characterisation of `loSpec`
-/
import ICG.Lemmas.SpecSA1

namespace ICG.SpecSA

variable {α : Type} [AddCommGroup α] [LinearOrder α] [IsOrderedAddMonoid α]

/-! ### the lower game is a completion -/

theorem loSpec_zero_le {n : Nat} {known : Nat → Bool} (hmin : MinInfo n known) {val : Nat → α}
    (hex : ∃ w, Completion n known val w) : loSpec known val 0 ≤ 0 := by
  obtain ⟨w, hw⟩ := hex
  rw [loSpec_known known val hmin.1, ← hw.2 0 (Nat.two_pow_pos n) hmin.1]
  exact hw.1.zero_nonpos

/-- superadditivity of the lower game (needs one completion to exist: for a *known* union the inequality
    `lo a + lo b ≤ val (a ∪ b)` is a consistency condition on the data) -/
theorem loSpec_SA {n : Nat} {known : Nat → Bool} (hmin : MinInfo n known) {val : Nat → α}
    (hex : ∃ w, Completion n known val w) : SA n (loSpec known val) := by
  intro a b ha hb hab
  have h0 := loSpec_zero_le hmin hex
  by_cases ha0 : a = 0
  · rw [ha0, Nat.zero_or]; exact add_le_of_nonpos_left h0
  by_cases hb0 : b = 0
  · rw [hb0, Nat.or_zero]; exact add_le_of_nonpos_right h0
  have hadd := add_eq_or_of_and_eq_zero a b hab
  have hc : a ||| b < 2 ^ n := Nat.or_lt_two_pow ha hb
  cases hk : known (a ||| b) with
  | true =>
    obtain ⟨w, hw⟩ := hex
    rw [loSpec_known known val hk, ← hw.2 _ hc hk]
    exact le_trans (add_le_add (loSpec_le_completion hmin hw a ha) (loSpec_le_completion hmin hw b hb))
      (hw.1 a b ha hb hab)
  | false =>
    have hmem : a ∈ properSubs (a ||| b) :=
      mem_properSubs.mpr ⟨and_or_self a b, ha0,
        fun h => hb0 (Nat.add_left_cancel (m := b) (k := 0) (hadd.trans h.symm))⟩
    have := loSpec_split_le known val hk hmem
    rwa [or_sub_left_of_disj hab] at this

/-- **C02 (lower tightness).**  If the partial game has any superadditive completion, the lower game is one;
    so the minimum over completions is attained simultaneously at every coalition. -/
theorem loSpec_completion {n : Nat} {known : Nat → Bool} (hmin : MinInfo n known) {val : Nat → α}
    (hex : ∃ w, Completion n known val w) : Completion n known val (loSpec known val) :=
  ⟨loSpec_SA hmin hex, fun _ _ hk => loSpec_known known val hk⟩

theorem loSpec_isLeast {n : Nat} {known : Nat → Bool} (hmin : MinInfo n known) {val : Nat → α}
    (hex : ∃ w, Completion n known val w) {c : Nat} (hc : c < 2 ^ n) :
    (∃ w, Completion n known val w ∧ w c = loSpec known val c) ∧
      ∀ w, Completion n known val w → loSpec known val c ≤ w c :=
  ⟨⟨_, loSpec_completion hmin hex, rfl⟩, fun _ hw => loSpec_le_completion hmin hw c hc⟩

/-! ### the extreme upper completion -/

def zeroAt (lo : Nat → α) (T : Nat) : α := if T = 0 then 0 else lo T

/-- the completion that is as large as possible at `c`: every superset `T` of `c` is raised to at least
    `u + lo (T ∖ c)` (the value forced by superadditivity once `c` is worth `u`), everything else keeps
    `lo`.  It is superadditive because of two disjoint coalitions at most one contains `c ≠ ∅`
    (`extremeUpper_add_le`).  The complement term uses `zeroAt lo`, so that `T = c` gives exactly `u`
    without assuming `val ∅ = 0`. -/
def extremeUpper (lo : Nat → α) (c : Nat) (u : α) (T : Nat) : α :=
  if c &&& T = c then max (lo T) (u + zeroAt lo (T - c)) else lo T

theorem zeroAt_mixed {n : Nat} {lo : Nat → α} (hlo : SA n lo) {a b : Nat} (ha : a < 2 ^ n) (hb : b < 2 ^ n)
    (hab : a &&& b = 0) : zeroAt lo a + lo b ≤ zeroAt lo (a ||| b) := by
  unfold zeroAt
  by_cases hb0 : b = 0
  · rw [hb0, Nat.or_zero]; exact add_le_of_nonpos_right hlo.zero_nonpos
  by_cases ha0 : a = 0
  · rw [ha0, Nat.zero_or, if_pos rfl, if_neg hb0, zero_add]
  · have : a ||| b ≠ 0 := fun h =>
      ha0 (Nat.eq_zero_of_add_eq_zero_right ((add_eq_or_of_and_eq_zero a b hab).trans h))
    rw [if_neg ha0, if_neg this]
    exact hlo a b ha hb hab

theorem extremeUpper_add_le {n : Nat} {lo : Nat → α} (hlo : SA n lo) {c : Nat} (hc : c ≠ 0) (u : α)
    {a b : Nat} (ha : a < 2 ^ n) (hb : b < 2 ^ n) (hab : a &&& b = 0) (hca : c &&& a = c) :
    extremeUpper lo c u a + extremeUpper lo c u b ≤ extremeUpper lo c u (a ||| b) := by
  unfold extremeUpper
  rw [if_pos hca, if_neg (not_sup_of_disj hc hca hab), if_pos (sup_or_left hca)]
  obtain ⟨hd, he⟩ := sub_or_disj hca hab
  have h2 := zeroAt_mixed hlo (a := a - c) (b := b) (Nat.sub_lt_of_lt ha) hb hd
  rw [he] at h2
  rcases le_total (lo a) (u + zeroAt lo (a - c)) with h | h
  · rw [max_eq_right h, add_assoc]
    exact le_trans (add_le_add le_rfl h2) (le_max_right _ _)
  · rw [max_eq_left h]; exact le_trans (hlo a b ha hb hab) (le_max_left _ _)

theorem extremeUpper_SA {n : Nat} {lo : Nat → α} (hlo : SA n lo) {c : Nat} (hc : c ≠ 0) (u : α) :
    SA n (extremeUpper lo c u) := by
  intro a b ha hb hab
  by_cases hca : c &&& a = c
  · exact extremeUpper_add_le hlo hc u ha hb hab hca
  by_cases hcb : c &&& b = c
  · rw [add_comm, Nat.or_comm]
    exact extremeUpper_add_le hlo hc u hb ha (by rw [Nat.and_comm]; exact hab) hcb
  · unfold extremeUpper
    rw [if_neg hca, if_neg hcb]
    split
    · exact le_trans (hlo a b ha hb hab) (le_max_left _ _)
    · exact hlo a b ha hb hab

/-- **C02 (upper tightness).**  For an unknown coalition `c` of a completable partial game there is a
    superadditive completion whose value at `c` is exactly `upSpec c`.  (No `val ∅ = 0` needed.) -/
theorem upSpec_attained {n : Nat} {known : Nat → Bool} (hmin : MinInfo n known) {val : Nat → α}
    (hex : ∃ w, Completion n known val w) {c : Nat} (hc : c < 2 ^ n) (hk : known c = false) :
    ∃ w, Completion n known val w ∧ w c = upSpec n known val c := by
  have hc0 : c ≠ 0 := minInfo_ne_zero hmin hk
  refine ⟨extremeUpper (loSpec known val) c (upSpec n known val c), ⟨?_, ?_⟩, ?_⟩
  · exact extremeUpper_SA (loSpec_SA hmin hex) hc0 _
  · intro T hT hkT
    unfold extremeUpper
    split
    · rename_i hcT
      have hne : T ≠ c := by rintro rfl; rw [hk] at hkT; cases hkT
      have hmem : T ∈ knownSupers n known c := mem_knownSupers.mpr ⟨hT, hcT, hne, hkT⟩
      have hle := upSpec_le_cand n known val hk hmem
      have hTc : T - c ≠ 0 := Nat.sub_ne_zero_of_lt (Nat.lt_of_le_of_ne (sub_le hcT) (Ne.symm hne))
      rw [loSpec_known known val hkT, zeroAt, if_neg hTc]
      apply max_eq_left
      have := add_le_add hle (le_refl (loSpec known val (T - c)))
      rwa [sub_add_cancel] at this
    · exact loSpec_known known val hkT
  · unfold extremeUpper
    rw [if_pos (Nat.and_self c), Nat.sub_self, zeroAt, if_pos rfl, add_zero]
    exact max_eq_right (loSpec_le_upSpec hmin hex c hc)

theorem upSpec_attained_any {n : Nat} {known : Nat → Bool} (hmin : MinInfo n known) {val : Nat → α}
    (hex : ∃ w, Completion n known val w) {c : Nat} (hc : c < 2 ^ n) :
    ∃ w, Completion n known val w ∧ w c = upSpec n known val c := by
  cases hk : known c with
  | false => exact upSpec_attained hmin hex hc hk
  | true =>
    obtain ⟨w, hw⟩ := hex
    exact ⟨w, hw, by rw [upSpec_known n known val hk, hw.2 c hc hk]⟩

theorem upSpec_isGreatest {n : Nat} {known : Nat → Bool} (hmin : MinInfo n known) {val : Nat → α}
    (hex : ∃ w, Completion n known val w) {c : Nat} (hc : c < 2 ^ n) :
    (∃ w, Completion n known val w ∧ w c = upSpec n known val c) ∧
      ∀ w, Completion n known val w → w c ≤ upSpec n known val c :=
  ⟨upSpec_attained_any hmin hex hc, fun _ hw => completion_le_upSpec hmin hw c hc⟩

/-! ### best-partition characterisation of the lower bound -/

def unionL (ps : List Nat) : Nat := ps.foldl (· ||| ·) 0

/-- `ps` is a partition of `c` into known non-empty coalitions -/
def IsPartition (known : Nat → Bool) (c : Nat) (ps : List Nat) : Prop :=
  (∀ p ∈ ps, known p = true ∧ p ≠ 0) ∧ ps.Pairwise (fun a b => a &&& b = 0) ∧
    ps.foldl (· ||| ·) 0 = c

theorem foldl_or_eq (ps : List Nat) (a : Nat) : ps.foldl (· ||| ·) a = a ||| unionL ps := by
  unfold unionL
  induction ps generalizing a with
  | nil => simp
  | cons p ps ih =>
    simp only [List.foldl_cons, Nat.zero_or]
    rw [ih (a ||| p), ih p, Nat.or_assoc]

theorem unionL_nil : unionL [] = 0 := rfl

theorem unionL_cons (p : Nat) (ps : List Nat) : unionL (p :: ps) = p ||| unionL ps := by
  show (p :: ps).foldl (· ||| ·) 0 = _
  rw [List.foldl_cons, Nat.zero_or, foldl_or_eq]

theorem unionL_append (ps qs : List Nat) : unionL (ps ++ qs) = unionL ps ||| unionL qs := by
  induction ps with
  | nil => simp [unionL_nil]
  | cons p ps ih => rw [List.cons_append, unionL_cons, unionL_cons, ih, Nat.or_assoc]

theorem mem_sub_unionL {ps : List Nat} {p : Nat} (hp : p ∈ ps) : p &&& unionL ps = p := by
  induction ps with
  | nil => cases hp
  | cons q ps ih =>
    rw [unionL_cons]
    rcases List.mem_cons.mp hp with rfl | h
    · exact and_or_self _ _
    · exact sub_trans (ih h) (by rw [Nat.or_comm]; exact and_or_self _ _)

theorem disj_unionL {ps : List Nat} {a : Nat} (h : ∀ p ∈ ps, a &&& p = 0) : a &&& unionL ps = 0 := by
  induction ps with
  | nil => simp [unionL_nil]
  | cons q ps ih =>
    rw [unionL_cons, Nat.and_or_distrib_left, h q List.mem_cons_self,
      ih (fun p hp => h p (List.mem_cons_of_mem _ hp))]
    rfl

/-- The values of a *non-empty* family of known, pairwise disjoint coalitions sum to at
    most `loSpec` of their union.  Uses superadditivity of `loSpec`, hence a completion must exist. -/
theorem sum_le_loSpec_unionL {n : Nat} {known : Nat → Bool} (hmin : MinInfo n known) {val : Nat → α}
    (hex : ∃ w, Completion n known val w) :
    ∀ ps : List Nat, ps ≠ [] → (∀ p ∈ ps, known p = true) → ps.Pairwise (fun a b => a &&& b = 0) →
      unionL ps < 2 ^ n → (ps.map val).sum ≤ loSpec known val (unionL ps) := by
  intro ps
  induction ps with
  | nil => intro h; exact absurd rfl h
  | cons p ps ih =>
    intro _ hkn hpw hlt
    rw [unionL_cons] at hlt ⊢
    have hp : p < 2 ^ n := Nat.lt_of_le_of_lt Nat.left_le_or hlt
    have hU : unionL ps < 2 ^ n := Nat.lt_of_le_of_lt Nat.right_le_or hlt
    rw [List.map_cons, List.sum_cons]
    by_cases hnil : ps = []
    · subst hnil
      simp [unionL_nil, loSpec_known known val (hkn p List.mem_cons_self)]
    · have hpw' := List.pairwise_cons.mp hpw
      have h1 := ih hnil (fun q hq => hkn q (List.mem_cons_of_mem _ hq)) hpw'.2 hU
      have hd : p &&& unionL ps = 0 := disj_unionL hpw'.1
      have h2 := loSpec_SA hmin hex p (unionL ps) hp hU hd
      rw [← loSpec_known known val (hkn p List.mem_cons_self)]
      exact le_trans (add_le_add le_rfl h1) h2

/-- Every partition of `c ≠ ∅` into known coalitions has total value at most `loSpec c`
    (a completion must exist).  For `c = ∅` the only partition is `[]`, with sum `0`, and the statement
    `0 ≤ loSpec ∅ = val ∅` holds exactly when `val ∅ = 0` (see `partition_sum_le_loSpec_of_zero`). -/
theorem partition_sum_le_loSpec {n : Nat} {known : Nat → Bool} (hmin : MinInfo n known) {val : Nat → α}
    (hex : ∃ w, Completion n known val w) {c : Nat} (hc : c < 2 ^ n) (hc0 : c ≠ 0) {ps : List Nat}
    (hps : IsPartition known c ps) : (ps.map val).sum ≤ loSpec known val c := by
  obtain ⟨h1, h2, h3⟩ := hps
  have hU : unionL ps = c := h3
  have hne : ps ≠ [] := by rintro rfl; exact hc0 h3.symm
  have := sum_le_loSpec_unionL hmin hex ps hne (fun p hp => (h1 p hp).1) h2 (by rw [hU]; exact hc)
  rwa [hU] at this

theorem partition_sum_le_loSpec_of_zero {n : Nat} {known : Nat → Bool} (hmin : MinInfo n known) {val : Nat → α}
    (hex : ∃ w, Completion n known val w) (hzero : val 0 = 0) {c : Nat} (hc : c < 2 ^ n) {ps : List Nat}
    (hps : IsPartition known c ps) : (ps.map val).sum ≤ loSpec known val c := by
  by_cases hc0 : c = 0
  · subst hc0
    have : ps = [] := by
      cases ps with
      | nil => rfl
      | cons p ps =>
        exfalso
        have hU : unionL (p :: ps) = 0 := hps.2.2
        have h1 := mem_sub_unionL (ps := p :: ps) (p := p) List.mem_cons_self
        rw [hU, Nat.and_zero] at h1
        exact (hps.1 p List.mem_cons_self).2 h1.symm
    subst this
    simp [loSpec_known known val hmin.1, hzero]
  · exact partition_sum_le_loSpec hmin hex hc hc0 hps

omit [AddCommGroup α] [LinearOrder α] [IsOrderedAddMonoid α] in
theorem IsPartition.singleton {known : Nat → Bool} {c : Nat} (hk : known c = true) (hc0 : c ≠ 0) :
    IsPartition known c [c] :=
  ⟨fun p hp => by rw [List.mem_singleton.mp hp]; exact ⟨hk, hc0⟩, List.pairwise_singleton _ _,
    Nat.zero_or c⟩

omit [AddCommGroup α] [LinearOrder α] [IsOrderedAddMonoid α] in
theorem IsPartition.append {known : Nat → Bool} {x y : Nat} {ps qs : List Nat}
    (hp : IsPartition known x ps) (hq : IsPartition known y qs) (hxy : x &&& y = 0) :
    IsPartition known (x ||| y) (ps ++ qs) := by
  obtain ⟨hp1, hp2, hp3⟩ := hp
  obtain ⟨hq1, hq2, hq3⟩ := hq
  have hUp : unionL ps = x := hp3
  have hUq : unionL qs = y := hq3
  refine ⟨fun p h => (List.mem_append.mp h).elim (hp1 p) (hq1 p), ?_, ?_⟩
  · rw [List.pairwise_append]
    refine ⟨hp2, hq2, fun p hp q hq => ?_⟩
    have h1 := mem_sub_unionL hp; rw [hUp] at h1
    have h2 := mem_sub_unionL hq; rw [hUq] at h2
    exact disj_of_sub_of_disj h1 h2 hxy
  · show unionL (ps ++ qs) = x ||| y
    rw [unionL_append, hUp, hUq]

omit [IsOrderedAddMonoid α] in
/-- For every `c ≠ ∅` the lower bound is the value of some partition of `c` into known
    coalitions (no completion needed; `MinInfo` excludes the junk branch). -/
theorem exists_partition_eq_loSpec {n : Nat} {known : Nat → Bool} (hmin : MinInfo n known) (val : Nat → α) :
    ∀ c, c < 2 ^ n → c ≠ 0 → ∃ ps, IsPartition known c ps ∧ (ps.map val).sum = loSpec known val c := by
  intro c
  induction c using Nat.strong_induction_on with
  | _ c ih =>
    intro hc hc0
    cases hk : known c with
    | true => exact ⟨[c], IsPartition.singleton hk hc0, by rw [loSpec_known known val hk, List.map_singleton, List.sum_singleton]⟩
    | false =>
      obtain ⟨x, hx, he⟩ := loSpec_unknown_attained hmin val hc hk
      obtain ⟨hsub, hx0, hxc⟩ := mem_properSubs.mp hx
      have hlt := properSubs_lt hx
      obtain ⟨ps, hps, hsp⟩ := ih x hlt.1 (Nat.lt_trans hlt.1 hc) hx0
      obtain ⟨qs, hqs, hsq⟩ := ih (c - x) hlt.2 (Nat.lt_trans hlt.2 hc)
        (Nat.sub_ne_zero_of_lt (Nat.lt_of_le_of_ne (sub_le hsub) hxc))
      have hd := sub_or_self hsub
      exact ⟨ps ++ qs, hd.1 ▸ hps.append hqs hd.2, by rw [List.map_append, List.sum_append, hsp, hsq, he]⟩

omit [IsOrderedAddMonoid α] in
theorem exists_partition_eq_loSpec_of_zero {n : Nat} {known : Nat → Bool} (hmin : MinInfo n known) (val : Nat → α)
    (hzero : val 0 = 0) {c : Nat} (hc : c < 2 ^ n) :
    ∃ ps, IsPartition known c ps ∧ (ps.map val).sum = loSpec known val c := by
  by_cases hc0 : c = 0
  · subst hc0
    refine ⟨[], ⟨by simp, List.Pairwise.nil, rfl⟩, ?_⟩
    simp [loSpec_known known val hmin.1, hzero]
  · exact exists_partition_eq_loSpec hmin val c hc hc0

/-- **C02 (lower formula).**  For a completable partial game and `∅ ≠ c < 2^n`, `loSpec c` is the greatest
    total value of a partition of `c` into known coalitions. -/
theorem loSpec_isGreatest_partition {n : Nat} {known : Nat → Bool} (hmin : MinInfo n known) {val : Nat → α}
    (hex : ∃ w, Completion n known val w) {c : Nat} (hc : c < 2 ^ n) (hc0 : c ≠ 0) :
    (∃ ps, IsPartition known c ps ∧ (ps.map val).sum = loSpec known val c) ∧
      ∀ ps, IsPartition known c ps → (ps.map val).sum ≤ loSpec known val c :=
  ⟨exists_partition_eq_loSpec hmin val c hc hc0, fun _ hps => partition_sum_le_loSpec hmin hex hc hc0 hps⟩

end ICG.SpecSA

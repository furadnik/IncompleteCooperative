/-
  ICG.Lemmas.ShapleySymmetry — relabelling the players by a permutation `σ` of `Fin n`.

  `permMask σ c` is the coalition `{σ j | j ∈ c}` as a bit mask (players `≥ n` are dropped).
  `phi_perm` : if `v' (permMask σ c) = v c` for every coalition `c` of the `n`-player game (i.e. `v'` is
  the relabelled game), then `phi n v' (σ i) = phi n v i`.
-/
import ICG.Lemmas.ShapleyBridge
import Mathlib.Logic.Equiv.Defs
import Mathlib.Logic.Equiv.Fin.Basic
import Mathlib.Algebra.BigOperators.Group.Finset.Basic
import Mathlib.Algebra.BigOperators.Fin
import Mathlib.Data.Fintype.BigOperators

namespace ICG
open Finset

/-- the image of coalition `c` under the relabelling `j ↦ σ j` of the players `0 .. n−1` -/
def permMask {n : Nat} (σ : Equiv.Perm (Fin n)) (c : Nat) : Nat :=
  Nat.ofBits (fun k : Fin n => c.testBit (σ.symm k))

theorem permMask_lt {n : Nat} (σ : Equiv.Perm (Fin n)) (c : Nat) : permMask σ c < 2 ^ n :=
  Nat.ofBits_lt_two_pow _

theorem testBit_permMask {n : Nat} (σ : Equiv.Perm (Fin n)) (c : Nat) (j : Fin n) :
    (permMask σ c).testBit (σ j) = c.testBit j := by
  unfold permMask
  rw [Nat.testBit_ofBits_lt _ _ (σ j).isLt]
  simp

theorem testBit_permMask_lt {n : Nat} (σ : Equiv.Perm (Fin n)) (c k : Nat) (hk : k < n) :
    (permMask σ c).testBit k = c.testBit (σ.symm ⟨k, hk⟩) := by
  unfold permMask
  rw [Nat.testBit_ofBits_lt _ _ hk]

theorem testBit_permMask_ge {n : Nat} (σ : Equiv.Perm (Fin n)) (c k : Nat) (hk : n ≤ k) :
    (permMask σ c).testBit k = false :=
  Nat.testBit_ofBits_ge _ _ hk

theorem permMask_symm_permMask {n : Nat} (σ : Equiv.Perm (Fin n)) {c : Nat} (hc : c < 2 ^ n) :
    permMask σ.symm (permMask σ c) = c := by
  apply Nat.eq_of_testBit_eq
  intro k
  by_cases hk : k < n
  · rw [testBit_permMask_lt _ _ _ hk, Equiv.symm_symm, testBit_permMask]
  · rw [testBit_permMask_ge _ _ _ (by omega), (lt_two_pow_iff_testBit.mp hc) k (by omega)]

theorem permMask_permMask_symm {n : Nat} (σ : Equiv.Perm (Fin n)) {c : Nat} (hc : c < 2 ^ n) :
    permMask σ (permMask σ.symm c) = c := by
  have := permMask_symm_permMask σ.symm hc
  rwa [Equiv.symm_symm] at this

theorem permMask_setBit {n : Nat} (σ : Equiv.Perm (Fin n)) (S : Nat) (i : Fin n) :
    permMask σ (S ||| 2 ^ (i : Nat)) = permMask σ S ||| 2 ^ ((σ i : Fin n) : Nat) := by
  apply Nat.eq_of_testBit_eq
  intro k
  by_cases hk : k < n
  · rw [Nat.testBit_or, testBit_permMask_lt _ _ _ hk, testBit_permMask_lt _ _ _ hk, Nat.testBit_or,
      Nat.testBit_two_pow, Nat.testBit_two_pow]
    congr 1
    have : ((i : Nat) = ((σ.symm ⟨k, hk⟩ : Fin n) : Nat)) ↔ (((σ i : Fin n) : Nat) = k) := by
      constructor
      · intro h
        have h' : i = σ.symm ⟨k, hk⟩ := Fin.ext h
        rw [h', Equiv.apply_symm_apply]
      · intro h
        have h' : σ i = ⟨k, hk⟩ := Fin.ext h
        rw [← h', Equiv.symm_apply_apply]
    exact decide_eq_decide.mpr this
  · have hk' : n ≤ k := Nat.le_of_not_lt hk
    have : ((σ i : Fin n) : Nat) ≠ k := fun h => hk (h ▸ (σ i).isLt)
    rw [Nat.testBit_or, testBit_permMask_ge _ _ _ hk', testBit_permMask_ge _ _ _ hk', Nat.testBit_two_pow,
      decide_eq_false this]
    rfl

theorem size_permMask {n : Nat} (σ : Equiv.Perm (Fin n)) {c : Nat} (hc : c < 2 ^ n) :
    size (permMask σ c) = size c := by
  rw [size_eq_card (permMask_lt σ c), size_eq_card hc, Finset.card_filter, Finset.card_filter,
    Finset.sum_range, Finset.sum_range]
  rw [← Equiv.sum_comp σ]
  apply Finset.sum_congr rfl
  intro j _
  rw [testBit_permMask]

section
variable {α : Type} [Field α]

/-- relabelling the players permutes the Shapley values (closed form) -/
theorem phi_perm {n : Nat} (σ : Equiv.Perm (Fin n)) (v v' : Nat → α)
    (hv : ∀ c, c < 2 ^ n → v' (permMask σ c) = v c) (i : Fin n) :
    phi n v' (σ i) = phi n v i := by
  unfold phi psi
  congr 1
  symm
  refine Finset.sum_nbij' (fun S => permMask σ S) (fun T => permMask σ.symm T) ?_ ?_ ?_ ?_ ?_
  · intro S hS
    simp only [mem_filter, mem_range] at hS ⊢
    exact ⟨permMask_lt σ S, by rw [testBit_permMask]; exact hS.2⟩
  · intro T hT
    simp only [mem_filter, mem_range] at hT ⊢
    refine ⟨permMask_lt _ T, ?_⟩
    have := testBit_permMask σ.symm T (σ i)
    rw [Equiv.symm_apply_apply] at this
    rw [this]; exact hT.2
  · intro S hS
    simp only [mem_filter, mem_range] at hS
    exact permMask_symm_permMask σ hS.1
  · intro T hT
    simp only [mem_filter, mem_range] at hT
    exact permMask_permMask_symm σ hT.1
  · intro S hS
    simp only [mem_filter, mem_range] at hS
    rw [size_permMask σ hS.1, ← permMask_setBit, hv _ (setBit_lt i.isLt hS.1), hv _ hS.1]

end
end ICG

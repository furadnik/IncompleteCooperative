/-
  ICG.Lemmas.RegretIter — facts about a whole `regret_min_iteration` (ICG.Model.Regret.RM.iterate) and
  about save / load.
-/
import ICG.Model.Regret
import ICG.Lemmas.Regret
import ICG.Lemmas.RegretNode

namespace ICG.Regret
open ICG

section iterate
variable {α : Type} [Field α] [LinearOrder α]

theorem iterate_shape {rm rm' : RM α} {t : List α} {u : List (List Nat)} (h : rm.iterate t u = .ok rm') :
    ∃ regret' s : List (List α), rm' = { rm with
      regret := if rm.plus then regret'.map (·.map posPart) else regret', strategy := s,
      iteration := rm.iteration + 1 } := by
  unfold RM.iterate at h
  simp only [bind_ok, pure_ok] at h
  -- one name per `←` line of `RM.iterate`, in its order
  obtain ⟨usedRanks, -, rhs, -, exp0, -, reach0, -, reach, -, up, -, regret', -, h⟩ := h
  exact ⟨regret', up.strategy, h.symm⟩

theorem iterate_frame {rm rm' : RM α} {t : List α} {u : List (List Nat)} (h : rm.iterate t u = .ok rm') :
    rm' = { rm with regret := rm'.regret, strategy := rm'.strategy, iteration := rm.iteration + 1 } := by
  obtain ⟨_, _, rfl⟩ := iterate_shape h
  rfl

theorem iterate_plus_nonneg {rm rm' : RM α} {t : List α} {u : List (List Nat)} (hp : rm.plus = true)
    (h : rm.iterate t u = .ok rm') : ∀ row ∈ rm'.regret, ∀ x ∈ row, 0 ≤ x := by
  obtain ⟨regret', _, rfl⟩ := iterate_shape h
  simp only [hp, if_true]
  intro row hrow
  obtain ⟨r0, _, rfl⟩ := List.mem_map.mp hrow
  exact map_posPart_nonneg r0

end iterate

/-! ### save / load -/
section saveload
variable {α : Type} [Zero α]

/-- `rm` is a constructor result under policy `p` whose three mutable fields were replaced -/
def Built (p : Policy) (rm : RM α) : Prop :=
  ∃ rm0, RM.new (α := α) p rm.n rm.limit rm.plus = .ok rm0 ∧
    rm = { rm0 with regret := rm.regret, strategy := rm.strategy, iteration := rm.iteration }

theorem load_save_of_built {p : Policy} {rm : RM α} (h : Built p rm) : RM.load p rm.save = .ok rm := by
  obtain ⟨rm0, h0, heq⟩ := h
  unfold RM.load RM.save
  simp only [h0, bind, Except.bind, pure, Except.pure]
  exact congrArg _ heq.symm

/-- `load` re-runs the constructor on the *stored* limit: it rebuilds the same object if that limit gives the same
    ranking and is stored as itself -/
def Policy.Stable (p : Policy) (m limit : Nat) : Prop :=
  metaIds m (p.storedLimit m limit) = metaIds m limit ∧
  p.storedLimit m (p.storedLimit m limit) = p.storedLimit m limit

theorem Policy.current_stable (m limit : Nat) : Policy.current.Stable m limit := ⟨rfl, rfl⟩

theorem Policy.repaired_stable (m limit : Nat) : Policy.repaired.Stable m limit := by
  have h : min m (min m limit) = min m limit := Nat.min_eq_right (Nat.min_le_left ..)
  refine ⟨?_, h⟩
  show metaIds m (min m limit) = metaIds m limit
  unfold metaIds
  rw [h]

theorem new_built {p : Policy} {n limit : Nat} {plus : Bool} {rm : RM α}
    (hs : p.Stable (numCoalitions n) limit) (h : RM.new (α := α) p n limit plus = .ok rm) : Built p rm := by
  obtain ⟨hn, t, ht, rfl⟩ := new_ok h
  refine ⟨RM.fresh p n limit plus t, ?_, rfl⟩
  show RM.new p n (p.storedLimit (numCoalitions n) limit) plus = _
  rw [new_eq p hn, hs.1, ht]
  show Except.ok (RM.fresh p n (p.storedLimit (numCoalitions n) limit) plus t) = _
  simp only [RM.fresh, hs.1, hs.2]

theorem iterate_built {α : Type} [Field α] [LinearOrder α] {p : Policy} {rm rm' : RM α} {t : List α}
    {u : List (List Nat)} (hb : Built p rm) (h : rm.iterate t u = .ok rm') : Built p rm' := by
  obtain ⟨rm0, h0, heq⟩ := hb
  have hf := iterate_frame h
  refine ⟨rm0, ?_, ?_⟩
  · rw [hf]; exact h0
  · rw [hf, heq]

end saveload

end ICG.Regret

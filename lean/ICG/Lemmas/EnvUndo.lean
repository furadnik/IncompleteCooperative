/-
  ICG.Lemmas.EnvUndo — what the environment theorems (C08, C09, C13, C16, Compose) assume about the parameters
  `compute` and `gap` (`ComputeOK`, `KnowledgeOnly`, `RowsOnly`, with the relations `SameKnowledge`, `SameRows`, `Fresh`,
  `EnvEq` they are stated in; for the registered computers see Lemmas/EnvReal), and the environment-level undo clause of
  C08, `env_undo`: from a state whose bounds are fresh, `unstep a (step a e)` restores every table row `< 2^n`, the known
  flags, the step counter, mask, observation, `done` and the reward.  Core Lean only.
-/
import ICG.Lemmas.EnvBasic
namespace ICG.Env
open ICG Table

variable {α : Type}

/-- known rows are exact (the table condition `Inv t` of DESIGN.md: known ⇒ lower = upper; not the environment
    invariant `C09.Inv`) -/
def Exact (t : Table α) : Prop := ∀ c, t.known c = true → t.lo c = t.hi c

/-- what the environment relies on about a bound computer — nothing more: on a table whose known rows are
    exact it keeps `n`, the known flags and the rows of known coalitions -/
structure ComputeOK (compute : Table α → Except Err (Table α)) : Prop where
  n : ∀ {t t' : Table α}, Exact t → compute t = .ok t' → t'.n = t.n
  known : ∀ {t t' : Table α}, Exact t → compute t = .ok t' → ∀ c, t'.known c = t.known c
  vals : ∀ {t t' : Table α}, Exact t → compute t = .ok t' →
    ∀ c, t.known c = true → t'.lo c = t.lo c ∧ t'.hi c = t.hi c

/-- the two tables hold the same knowledge: same size, same known flags, same values on known rows -/
def SameKnowledge (t1 t2 : Table α) : Prop :=
  t1.n = t2.n ∧ (∀ c, t1.known c = t2.known c) ∧
    ∀ c, t1.known c = true → t1.lo c = t2.lo c ∧ t1.hi c = t2.hi c

/-- same size, same known flags, equal bounds on all rows `< 2^n` -/
def SameRows (t1 t2 : Table α) : Prop :=
  t1.n = t2.n ∧ (∀ c, t1.known c = t2.known c) ∧
    ∀ c, c < 2 ^ t1.n → t1.lo c = t2.lo c ∧ t1.hi c = t2.hi c

/-- the computer's result depends on the knowledge only -/
structure KnowledgeOnly (compute : Table α → Except Err (Table α)) : Prop where
  rows : ∀ {t1 t2 r1 r2 : Table α}, SameKnowledge t1 t2 → Exact t1 → Exact t2 →
    compute t1 = .ok r1 → compute t2 = .ok r2 → ∀ c, c < 2 ^ t1.n → r1.lo c = r2.lo c ∧ r1.hi c = r2.hi c

/-- the gap function reads the rows of the table only -/
structure RowsOnly (gap : Table α → Except Err α) : Prop where
  congr : ∀ {t1 t2 : Table α}, SameRows t1 t2 → gap t1 = gap t2

/-- the table is the result of a computation from a table holding the same knowledge ("bounds are fresh") -/
def Fresh (compute : Table α → Except Err (Table α)) (t : Table α) : Prop :=
  ∃ t0, SameKnowledge t0 t ∧ Exact t0 ∧ compute t0 = .ok t

/-- the environments agree in everything observable: all fields, and the table on its rows -/
def EnvEq (e1 e2 : Env α) : Prop :=
  e1.full = e2.full ∧ e1.norm = e2.norm ∧ SameRows e1.table e2.table ∧ e1.steps = e2.steps ∧
    e1.budget = e2.budget ∧ e1.initiallyKnown = e2.initiallyKnown ∧ e1.explorable = e2.explorable

namespace SameKnowledge
variable {t1 t2 : Table α} (h : SameKnowledge t1 t2)
include h
theorem n : t1.n = t2.n := h.1
theorem known (c : Nat) : t1.known c = t2.known c := h.2.1 c
theorem vals {c : Nat} (hc : t1.known c = true) : t1.lo c = t2.lo c ∧ t1.hi c = t2.hi c := h.2.2 c hc
end SameKnowledge

namespace SameRows
variable {t1 t2 : Table α} (h : SameRows t1 t2)
include h
theorem n : t1.n = t2.n := h.1
theorem known (c : Nat) : t1.known c = t2.known c := h.2.1 c
theorem rows {c : Nat} (hc : c < 2 ^ t1.n) : t1.lo c = t2.lo c ∧ t1.hi c = t2.hi c := h.2.2 c hc
end SameRows

theorem EnvEq.table {e1 e2 : Env α} (h : EnvEq e1 e2) : SameRows e1.table e2.table := h.2.2.1

theorem SameKnowledge.refl (t : Table α) : SameKnowledge t t := ⟨rfl, fun _ => rfl, fun _ _ => ⟨rfl, rfl⟩⟩

theorem SameKnowledge.symm {t1 t2 : Table α} (h : SameKnowledge t1 t2) : SameKnowledge t2 t1 :=
  ⟨h.n.symm, fun c => (h.known c).symm, fun c hc =>
    have := h.vals ((h.known c).trans hc)
    ⟨this.1.symm, this.2.symm⟩⟩

theorem SameKnowledge.trans {t1 t2 t3 : Table α} (h : SameKnowledge t1 t2) (h' : SameKnowledge t2 t3) :
    SameKnowledge t1 t3 :=
  ⟨h.n.trans h'.n, fun c => (h.known c).trans (h'.known c), fun c hc =>
    have a := h.vals hc
    have b := h'.vals ((h.known c).symm.trans hc)
    ⟨a.1.trans b.1, a.2.trans b.2⟩⟩

theorem SameRows.refl (t : Table α) : SameRows t t := ⟨rfl, fun _ => rfl, fun _ _ => ⟨rfl, rfl⟩⟩

theorem SameRows.symm {t1 t2 : Table α} (h : SameRows t1 t2) : SameRows t2 t1 :=
  ⟨h.n.symm, fun c => (h.known c).symm, fun _ hc =>
    have := h.rows (h.n ▸ hc)
    ⟨this.1.symm, this.2.symm⟩⟩

theorem SameRows.trans {t1 t2 t3 : Table α} (h : SameRows t1 t2) (h' : SameRows t2 t3) : SameRows t1 t3 :=
  ⟨h.n.trans h'.n, fun c => (h.known c).trans (h'.known c), fun _ hc =>
    have a := h.rows hc
    have b := h'.rows (h.n ▸ hc)
    ⟨a.1.trans b.1, a.2.trans b.2⟩⟩

theorem EnvEq.refl (e : Env α) : EnvEq e e := ⟨rfl, rfl, SameRows.refl _, rfl, rfl, rfl, rfl⟩

theorem EnvEq.symm {e1 e2 : Env α} (h : EnvEq e1 e2) : EnvEq e2 e1 :=
  let ⟨a, b, c, d, e, f, g⟩ := h
  ⟨a.symm, b.symm, c.symm, d.symm, e.symm, f.symm, g.symm⟩

theorem EnvEq.trans {e1 e2 e3 : Env α} (h : EnvEq e1 e2) (h' : EnvEq e2 e3) : EnvEq e1 e3 :=
  let ⟨a, b, c, d, e, f, g⟩ := h
  let ⟨a', b', c', d', e', f', g'⟩ := h'
  ⟨a.trans a', b.trans b', c.trans c', d.trans d', e.trans e', f.trans f', g.trans g'⟩

theorem exact_of_compute {compute : Table α → Except Err (Table α)} (hok : ComputeOK compute)
    {t t' : Table α} (hex : Exact t) (h : compute t = .ok t') : Exact t' := by
  intro c hc
  have hk : t.known c = true := by rw [← hok.known hex h c]; exact hc
  have := hok.vals hex h c hk
  rw [this.1, this.2]
  exact hex c hk

theorem sameKnowledge_of_compute {compute : Table α → Except Err (Table α)} (hok : ComputeOK compute)
    {t t' : Table α} (hex : Exact t) (h : compute t = .ok t') : SameKnowledge t t' :=
  ⟨(hok.n hex h).symm, fun c => (hok.known hex h c).symm, fun c hc =>
    have := hok.vals hex h c hc
    ⟨this.1.symm, this.2.symm⟩⟩

theorem Exact.of_sameKnowledge {t1 t2 : Table α} (hsk : SameKnowledge t1 t2) (h : Exact t2) : Exact t1 := fun c hc => by
  rw [(hsk.vals hc).1, (hsk.vals hc).2]
  exact h c ((hsk.known c).symm.trans hc)

theorem KnowledgeOnly.sameRows {compute : Table α → Except Err (Table α)} (hko : KnowledgeOnly compute)
    (hok : ComputeOK compute) {t1 t2 r1 r2 : Table α} (hsk : SameKnowledge t1 t2) (h1 : Exact t1) (h2 : Exact t2)
    (c1 : compute t1 = .ok r1) (c2 : compute t2 = .ok r2) : SameRows r1 r2 :=
  ⟨(hok.n h1 c1).trans (hsk.n.trans (hok.n h2 c2).symm),
    fun c => (hok.known h1 c1 c).trans ((hsk.known c).trans (hok.known h2 c2 c).symm),
    fun c hc => hko.rows hsk h1 h2 c1 c2 c (hok.n h1 c1 ▸ hc)⟩

theorem Fresh.exact {compute : Table α → Except Err (Table α)} (hok : ComputeOK compute) {t : Table α}
    (h : Fresh compute t) : Exact t := by
  obtain ⟨t0, _, hex, hc⟩ := h
  exact exact_of_compute hok hex hc

/-! ### observables only depend on the rows -/

theorem actionMasks_congr {e1 e2 : Env α} (h : EnvEq e1 e2) : e1.actionMasks = e2.actionMasks := by
  obtain ⟨_, _, ⟨_, hk, _⟩, _, _, _, hex⟩ := h
  simp only [actionMasks, hex]
  exact List.map_congr_left (fun c _ => by rw [hk c])

theorem state_congr [Zero α] {e1 e2 : Env α} (h : EnvEq e1 e2) : e1.state = e2.state := by
  obtain ⟨_, hn, ⟨_, hk, _⟩, _, _, _, hex⟩ := h
  simp only [state, hex, hn]
  exact List.map_congr_left (fun c _ => by rw [hk c])

theorem allDegenerate_congr [Sub α] [Zero α] [DecidableEq α] {t1 t2 : Table α} (h : SameRows t1 t2) :
    allDegenerate t1 = allDegenerate t2 := by
  obtain ⟨hn, _, hr⟩ := h
  rw [Bool.eq_iff_iff]
  simp only [allDegenerate, List.all_eq_true, List.mem_range, decide_eq_true_eq, Table.rows]
  constructor
  · intro h c hc
    have hc' : c < 2 ^ t1.n := by rw [hn]; exact hc
    have := hr c hc'
    rw [← this.1, ← this.2]; exact h c hc'
  · intro h c hc
    have := hr c hc
    rw [this.1, this.2]; exact h c (by rw [← hn]; exact hc)

theorem done_congr [Sub α] [Zero α] [DecidableEq α] {e1 e2 : Env α} (h : EnvEq e1 e2) : e1.done = e2.done := by
  have hm := actionMasks_congr h
  obtain ⟨_, _, hr, hs, hb, _, _⟩ := h
  simp only [done, hm, hb, hs, allDegenerate_congr hr]

theorem reward_congr [Neg α] {gap : Table α → Except Err α} (hg : RowsOnly gap) {e1 e2 : Env α}
    (h : EnvEq e1 e2) : e1.reward gap = e2.reward gap := by
  simp only [reward, hg.congr h.table]

theorem validActions_congr {e1 e2 : Env α} (h : EnvEq e1 e2) : e1.validActions = e2.validActions := by
  obtain ⟨_, _, ⟨_, hk, _⟩, _, _, _, hex⟩ := h
  simp only [validActions, hex]
  apply List.filter_congr
  intro i _
  cases e2.explorable[i]? with
  | none => rfl
  | some c => simp only [hk c]

/-! ### undo -/

section undo
variable [Zero α] {compute : Table α → Except Err (Table α)}

theorem roundtrip_knowledge (hok : ComputeOK compute) {t t2 : Table α} {c : Nat} {v : α}
    (hex : Exact t) (hk : t.known c = false) (h1 : compute (t.putValue c v) = .ok t2) :
    SameKnowledge (t2.clearRow c) t := by
  have hexp : Exact (t.putValue c v) := by
    intro d hd
    by_cases hdc : d = c
    · subst hdc; simp [putValue]
    · have hd' : t.known d = true := by simpa [putValue, hdc] using hd
      simp only [putValue, hdc, if_false]
      exact hex d hd'
  refine ⟨?_, ?_, ?_⟩
  · show t2.n = t.n
    rw [hok.n hexp h1]; rfl
  · intro d
    show (if d = c then false else t2.known d) = t.known d
    by_cases hd : d = c
    · subst hd; simp [hk]
    · simp only [hd, if_false]
      rw [hok.known hexp h1 d]
      simp [putValue, hd]
  · intro d hd
    have hdc : d ≠ c := by
      intro h
      subst h
      simp [clearRow] at hd
    have hk2 : t2.known d = true := by simpa [clearRow, hdc] using hd
    have hk1 : (t.putValue c v).known d = true := by rw [← hok.known hexp h1 d]; exact hk2
    have := hok.vals hexp h1 d hk1
    simp only [clearRow, hdc, if_false]
    rw [this.1, this.2]
    simp [putValue, hdc]

variable [Neg α] [Sub α] [DecidableEq α] {gap : Table α → Except Err α}

/-- **C08, environment clause.** From a state whose bounds are fresh, revealing a coalition and then
    un-revealing it (recomputing each time) restores the table rows, the counter and everything observable. -/
theorem env_undo (hok : ComputeOK compute) (hko : KnowledgeOnly compute)
    {e e1 e2 : Env α} {a : Nat} {o1 o2 : StepOut α} (hfresh : Fresh compute e.table)
    (h1 : step compute gap e a = .ok (e1, o1)) (h2 : unstep compute gap e1 a = .ok (e2, o2)) :
    EnvEq e2 e ∧ e2.actionMasks = e.actionMasks ∧ e2.state = e.state ∧ e2.done = e.done ∧
      o2.obs = e.state ∧ o2.done = e.done ∧ o2.chosen = o1.chosen ∧
      (RowsOnly gap → e.reward gap = .ok o2.reward) := by
  obtain ⟨c, t2, g1, hc, hlt, hk, hcomp1, hg1, rfl, rfl⟩ := step_inv compute gap h1
  obtain ⟨c', t4, g2, hc', hlt', hk', hcomp2, hg2, rfl, rfl⟩ := unstep_inv compute gap h2
  change e.explorable[a]? = some c' at hc'
  change compute (t2.clearRow c') = .ok t4 at hcomp2
  obtain rfl : c = c' := Option.some.inj (hc.symm.trans hc')
  -- the un-revealed table holds the original knowledge, so its recomputation agrees with the original one on the rows
  obtain ⟨t0, hsk0, hex0, hcomp0⟩ := hfresh
  have hexe : Exact e.table := exact_of_compute hok hex0 hcomp0
  have hsk : SameKnowledge (t2.clearRow c) e.table := roundtrip_knowledge hok hexe hk hcomp1
  have hsr : SameRows t4 e.table :=
    hko.sameRows hok (hsk.trans hsk0.symm) (.of_sameKnowledge hsk hexe) hex0 hcomp2 hcomp0
  have heq : EnvEq (unstepped (stepped e t2) t4) e :=
    ⟨rfl, rfl, hsr, Int.add_sub_cancel e.steps 1, rfl, rfl, rfl⟩
  refine ⟨heq, actionMasks_congr heq, state_congr heq, done_congr heq, state_congr heq, done_congr heq, rfl,
    fun hg => ?_⟩
  rw [← reward_congr hg heq]
  exact reward_ok gap hg2

end undo
end ICG.Env

/-
  ICG.Lemmas.SpecBasic — the functions of `ICG.Spec.Bounds` without unfolding them.

  For each of `splitSpec` (`loSpec`), `closeSpec` (`samB`), `upAgainst` (`upSpec`) and `samUp`:
  the value at a known coalition; the value at an unknown coalition as the maximum / minimum of its
  candidate list; that list is not empty (under `MinInfo`; for `closeSpec`, whenever `c < 2 ^ n`); and
  the congruence "only the values of known coalitions are read".  Both the refinement (`Refine*`) and the
  mathematics of the bounds (`SpecSA*`, `SpecSAM`) start from here.

  Definitions: `supers` (the list `closeSpec` maximises over), `splitCands` (the candidates of
  `splitSpec`), `Refine.samUpG` (`samUp` with the three columns it reads as parameters), and, in
  `namespace SpecSA`, `KnownLe` with `minInfo_mono`, `unknown_of_le`.  `MinInfo.ne_zero`,
  `MinInfo.of_all_known`.

  Only `[Add α] [Sub α] [LinearOrder α]` is used: no algebraic law of the value type plays a role.
-/
import ICG.Spec.Bounds
import ICG.Lemmas.ListMax
import ICG.Lemmas.BitFacts

namespace ICG

variable {α : Type}

theorem mem_knownSupers_iff {n : Nat} {known : Nat → Bool} {c T : Nat} :
    T ∈ knownSupers n known c ↔ T < 2 ^ n ∧ c &&& T = c ∧ T ≠ c ∧ known T = true := by
  simp only [knownSupers, List.mem_filter, List.mem_range, Bool.and_eq_true, isSub_iff, bne_iff_ne,
    ne_eq, and_assoc]

theorem mem_knownSubs_iff {known : Nat → Bool} {c x : Nat} :
    x ∈ knownSubs known c ↔ x &&& c = x ∧ x ≠ 0 ∧ x ≠ c ∧ known x = true := by
  simp only [knownSubs, List.mem_filter, mem_properSubs, and_assoc]

/-- the supersets of `c` within `n` players (`c` included), id order: what `closeSpec` ranges over -/
def supers (n c : Nat) : List Nat := (List.range (2 ^ n)).filter (fun T => isSub c T)

theorem mem_supers {n c T : Nat} : T ∈ supers n c ↔ T < 2 ^ n ∧ c &&& T = c := by
  simp only [supers, List.mem_filter, List.mem_range, isSub_iff]

theorem MinInfo.ne_zero {n : Nat} {known : Nat → Bool} (hmin : MinInfo n known) {c : Nat}
    (hk : known c = false) : c ≠ 0 := by
  rintro rfl; rw [hmin.1] at hk; cases hk

theorem MinInfo.of_all_known {n : Nat} {known : Nat → Bool} (hall : ∀ c, c < 2 ^ n → known c = true) :
    MinInfo n known :=
  ⟨hall 0 (Nat.two_pow_pos n), hall _ (Nat.sub_lt (Nat.two_pow_pos n) Nat.one_pos),
    fun _ hi => hall _ (Nat.pow_lt_pow_right Nat.one_lt_two hi)⟩

namespace SpecSA

/-- `known'` knows at least what `known` knows -/
def KnownLe (known known' : Nat → Bool) : Prop := ∀ c, known c = true → known' c = true

theorem KnownLe.refl (known : Nat → Bool) : KnownLe known known := fun _ h => h

theorem KnownLe.trans {k1 k2 k3 : Nat → Bool} (h12 : KnownLe k1 k2) (h23 : KnownLe k2 k3) : KnownLe k1 k3 :=
  fun c h => h23 c (h12 c h)

theorem minInfo_mono {n : Nat} {known known' : Nat → Bool} (hmin : MinInfo n known)
    (hle : KnownLe known known') : MinInfo n known' :=
  ⟨hle _ hmin.1, hle _ hmin.2.1, fun i hi => hle _ (hmin.2.2 i hi)⟩

end SpecSA

open SpecSA (KnownLe)

theorem unknown_of_le {known known' : Nat → Bool} (hle : KnownLe known known')
    {c : Nat} (hk' : known' c = false) : known c = false := by
  cases h : known c with
  | false => rfl
  | true => rw [hle c h] at hk'; cases hk'

theorem exists_knownSub {n : Nat} {known : Nat → Bool} (hmin : MinInfo n known) {c : Nat}
    (hc : c < 2 ^ n) (hk : known c = false) : ∃ x, x ∈ knownSubs known c := by
  obtain ⟨i, hi, hsub⟩ := exists_singleton_sub hc (hmin.ne_zero hk)
  refine ⟨2 ^ i, mem_knownSubs_iff.mpr ⟨hsub, Nat.ne_of_gt (Nat.two_pow_pos i), ?_, hmin.2.2 i hi⟩⟩
  intro h; rw [← h, hmin.2.2 i hi] at hk; cases hk

theorem exists_properSub {n : Nat} {known : Nat → Bool} (hmin : MinInfo n known) {c : Nat}
    (hc : c < 2 ^ n) (hk : known c = false) : ∃ x, x ∈ properSubs c :=
  let ⟨x, hx⟩ := exists_knownSub hmin hc hk; ⟨x, (List.mem_filter.mp hx).1⟩

theorem grand_mem_knownSupers {n : Nat} {known : Nat → Bool} (hmin : MinInfo n known) {c : Nat}
    (hc : c < 2 ^ n) (hk : known c = false) : 2 ^ n - 1 ∈ knownSupers n known c := by
  refine mem_knownSupers_iff.mpr ⟨grand_lt n, sub_grand hc, ?_, hmin.2.1⟩
  intro h; rw [← h, hmin.2.1] at hk; cases hk

/-! ### `splitSpec`, `loSpec` -/

section split
variable [Add α] [Max α]

/-- the candidate list of `splitSpec` at `c` -/
def splitCands (known : Nat → Bool) (v : Nat → α) (extra : Nat → List α) (c : Nat) : List α :=
  extra c ++ (properSubs c).map fun x => splitSpec known v extra x + splitSpec known v extra (c - x)

/-- the defining equation without `attach` -/
theorem splitSpec_eq (known : Nat → Bool) (v : Nat → α) (extra : Nat → List α) (c : Nat) :
    splitSpec known v extra c =
      if known c then v c else
        match listMax? (splitCands known v extra c) with
        | some m => m
        | none => v c := by
  rw [splitSpec, splitCands]
  rw [← List.attach_map_val (l := properSubs c)
    (f := fun x => splitSpec known v extra x + splitSpec known v extra (c - x))]
  rfl

theorem Refine.splitSpec_unfold (known : Nat → Bool) (v : Nat → α) (extra : Nat → List α) (c : Nat) :
    splitSpec known v extra c =
      if known c then v c else
        match listMax? (extra c ++ (properSubs c).map fun x =>
            splitSpec known v extra x + splitSpec known v extra (c - x)) with
        | some m => m
        | none => v c :=
  splitSpec_eq known v extra c

theorem splitSpec_known {known : Nat → Bool} {v : Nat → α} {extra : Nat → List α} {c : Nat}
    (hk : known c = true) : splitSpec known v extra c = v c := by
  rw [splitSpec_eq, if_pos hk]

theorem splitSpec_of_max {known : Nat → Bool} {v : Nat → α} {extra : Nat → List α} {c : Nat} {m : α}
    (hk : known c = false) (hm : listMax? (splitCands known v extra c) = some m) :
    splitSpec known v extra c = m := by
  rw [splitSpec_eq, if_neg (by simp [hk]), hm]

theorem splitSpec_nil {known : Nat → Bool} {v : Nat → α} {extra : Nat → List α} {c : Nat}
    (hk : known c = false) (hnil : splitCands known v extra c = []) :
    splitSpec known v extra c = v c := by
  rw [splitSpec_eq, hk, hnil]; rfl

theorem mem_splitCands {known : Nat → Bool} {v : Nat → α} {extra : Nat → List α} {c : Nat} {y : α} :
    y ∈ splitCands known v extra c ↔
      y ∈ extra c ∨ ∃ x, x ∈ properSubs c ∧
        y = splitSpec known v extra x + splitSpec known v extra (c - x) := by
  simp only [splitCands, List.mem_append, List.mem_map]
  exact or_congr Iff.rfl (exists_congr fun _ => and_congr Iff.rfl eq_comm)

theorem splitCands_ne_nil {known : Nat → Bool} {v : Nat → α} {extra : Nat → List α} {c x : Nat}
    (hx : x ∈ properSubs c) : splitCands known v extra c ≠ [] :=
  fun h => List.ne_nil_of_mem hx (List.map_eq_nil_iff.mp (List.append_eq_nil_iff.mp h).2)

end split

section splitOrd
variable [Add α] [LinearOrder α]

theorem splitSpec_unknown {known : Nat → Bool} {v : Nat → α} {extra : Nat → List α} {c : Nat}
    (hk : known c = false) (hne : splitCands known v extra c ≠ []) :
    splitSpec known v extra c ∈ splitCands known v extra c ∧
      ∀ y ∈ splitCands known v extra c, y ≤ splitSpec known v extra c := by
  obtain ⟨m, hm⟩ := listMax?_isSome hne
  rw [splitSpec_of_max hk hm]
  exact listMax?_eq_some_iff.mp hm

theorem splitSpec_congr {n : Nat} {known : Nat → Bool} (hmin : MinInfo n known) {v v' : Nat → α}
    {extra extra' : Nat → List α}
    (hv : ∀ c, c < 2 ^ n → known c = true → v c = v' c)
    (he : ∀ c, c < 2 ^ n → known c = false → extra c = extra' c) :
    ∀ c, c < 2 ^ n → splitSpec known v extra c = splitSpec known v' extra' c := by
  intro c
  induction c using Nat.strongRecOn with
  | _ c ih =>
    intro hc
    cases hk : known c with
    | true => rw [splitSpec_known hk, splitSpec_known hk, hv c hc hk]
    | false =>
      have hl : splitCands known v extra c = splitCands known v' extra' c := by
        unfold splitCands
        rw [he c hc hk]
        refine congrArg (extra' c ++ ·) (List.map_congr_left fun x hx => ?_)
        obtain ⟨h1, h2⟩ := properSubs_lt hx
        rw [ih x h1 (Nat.lt_trans h1 hc), ih (c - x) h2 (Nat.lt_trans h2 hc)]
      obtain ⟨x, hx⟩ := exists_properSub hmin hc hk
      obtain ⟨m, hm⟩ := listMax?_isSome (splitCands_ne_nil (known := known) (v := v')
        (extra := extra') hx)
      rw [splitSpec_of_max hk ((congrArg listMax? hl).trans hm), splitSpec_of_max hk hm]

theorem loSpec_congr {n : Nat} {known : Nat → Bool} (hmin : MinInfo n known) {v v' : Nat → α}
    (hv : ∀ c, c < 2 ^ n → known c = true → v c = v' c) :
    ∀ c, c < 2 ^ n → loSpec known v c = loSpec known v' c :=
  splitSpec_congr hmin hv (fun _ _ _ => rfl)

end splitOrd

/-! ### `closeSpec`, `samB` -/

theorem supers_map_ne_nil {n c : Nat} (hc : c < 2 ^ n) (A : Nat → α) :
    (supers n c).map A ≠ [] :=
  fun h => List.ne_nil_of_mem (mem_supers.mpr ⟨hc, Nat.and_self c⟩) (List.map_eq_nil_iff.mp h)

section close
variable [Max α]

theorem closeSpec_known {n : Nat} {known : Nat → Bool} {v A : Nat → α} {c : Nat}
    (hk : known c = true) : closeSpec n known v A c = v c := by
  rw [closeSpec, if_pos hk]

theorem closeSpec_of_max {n : Nat} {known : Nat → Bool} {v A : Nat → α} {c : Nat} {m : α}
    (hk : known c = false)
    (hm : listMax? ((supers n c).map A) = some m) :
    closeSpec n known v A c = m := by
  rw [closeSpec, if_neg (by simp [hk])]
  show (match listMax? ((supers n c).map A) with | some m => m | none => v c) = m
  rw [hm]

theorem samB_known [Add α] {n : Nat} {known : Nat → Bool} {v : Nat → α} {i c : Nat}
    (hk : known c = true) : samB n known v i c = v c := by
  cases i <;> exact closeSpec_known hk

end close

section closeOrd
variable [LinearOrder α]

theorem closeSpec_unknown {n : Nat} {known : Nat → Bool} {v A : Nat → α} {c : Nat}
    (hc : c < 2 ^ n) (hk : known c = false) :
    (∃ T, T < 2 ^ n ∧ c &&& T = c ∧ closeSpec n known v A c = A T) ∧
      ∀ T, T < 2 ^ n → c &&& T = c → A T ≤ closeSpec n known v A c := by
  obtain ⟨m, hm⟩ := listMax?_isSome (supers_map_ne_nil hc A)
  rw [closeSpec_of_max hk hm]
  obtain ⟨h1, h2⟩ := listMax?_eq_some_iff.mp hm
  obtain ⟨T, hT, rfl⟩ := List.mem_map.mp h1
  obtain ⟨hT1, hT2⟩ := mem_supers.mp hT
  exact ⟨⟨T, hT1, hT2, rfl⟩,
    fun T' h1' h2' => h2 _ (List.mem_map.mpr ⟨T', mem_supers.mpr ⟨h1', h2'⟩, rfl⟩)⟩

theorem closeSpec_congr {n : Nat} {known : Nat → Bool} {v v' A A' : Nat → α}
    (hv : ∀ c, c < 2 ^ n → known c = true → v c = v' c)
    (hA : ∀ c, c < 2 ^ n → A c = A' c) :
    ∀ c, c < 2 ^ n → closeSpec n known v A c = closeSpec n known v' A' c := by
  intro c hc
  cases hk : known c with
  | true => rw [closeSpec_known hk, closeSpec_known hk, hv c hc hk]
  | false =>
    obtain ⟨m, hm⟩ := listMax?_isSome (supers_map_ne_nil hc A')
    have hl := List.map_congr_left (l := (List.range (2 ^ n)).filter (fun T => isSub c T))
      fun T hT => hA T (mem_supers.mp hT).1
    rw [closeSpec_of_max hk ((congrArg listMax? hl).trans hm), closeSpec_of_max hk hm]

theorem samB_congr [Add α] {n : Nat} {known : Nat → Bool} (hmin : MinInfo n known) {v v' : Nat → α}
    (hv : ∀ c, c < 2 ^ n → known c = true → v c = v' c) (i : Nat) :
    ∀ c, c < 2 ^ n → samB n known v i c = samB n known v' i c := by
  induction i with
  | zero => exact closeSpec_congr hv (loSpec_congr hmin hv)
  | succ i ih =>
    refine closeSpec_congr hv (splitSpec_congr hmin hv fun d hd _ => ?_)
    rw [ih d hd, hv 0 (Nat.two_pow_pos n) hmin.1]

end closeOrd

/-! ### `upAgainst`, `upSpec` -/

section up
variable [Sub α] [Min α]

theorem upAgainst_known {n : Nat} {known : Nat → Bool} {v lo : Nat → α} {c : Nat}
    (hk : known c = true) : upAgainst n known v lo c = v c := by
  rw [upAgainst, if_pos hk]

theorem upAgainst_of_min {n : Nat} {known : Nat → Bool} {v lo : Nat → α} {c : Nat} {m : α}
    (hk : known c = false)
    (hm : listMin? ((knownSupers n known c).map fun T => v T - lo (T - c)) = some m) :
    upAgainst n known v lo c = m := by
  rw [upAgainst, if_neg (by simp [hk]), hm]

end up

section upOrd
variable [LinearOrder α]

theorem exists_min_knownSupers {n : Nat} {known : Nat → Bool} (hmin : MinInfo n known) {c : Nat}
    (hc : c < 2 ^ n) (hk : known c = false) (g : Nat → α) :
    ∃ m, listMin? ((knownSupers n known c).map g) = some m :=
  listMin?_isSome fun h =>
    List.ne_nil_of_mem (grand_mem_knownSupers hmin hc hk) (List.map_eq_nil_iff.mp h)

theorem exists_min_knownSubs {n : Nat} {known : Nat → Bool} (hmin : MinInfo n known) {c : Nat}
    (hc : c < 2 ^ n) (hk : known c = false) (g : Nat → α) :
    ∃ m, listMin? ((knownSubs known c).map g) = some m :=
  let ⟨_, hx⟩ := exists_knownSub hmin hc hk
  listMin?_isSome fun h => List.ne_nil_of_mem hx (List.map_eq_nil_iff.mp h)

variable [Sub α]

theorem upAgainst_congr {n : Nat} {known : Nat → Bool} (hmin : MinInfo n known)
    {v v' lo lo' : Nat → α}
    (hv : ∀ c, c < 2 ^ n → known c = true → v c = v' c)
    (hlo : ∀ c, c < 2 ^ n → lo c = lo' c) :
    ∀ c, c < 2 ^ n → upAgainst n known v lo c = upAgainst n known v' lo' c := by
  intro c hc
  cases hk : known c with
  | true => rw [upAgainst_known hk, upAgainst_known hk, hv c hc hk]
  | false =>
    obtain ⟨m, hm⟩ := exists_min_knownSupers hmin hc hk fun T => v' T - lo' (T - c)
    have hl := List.map_congr_left (l := knownSupers n known c)
      (f := fun T => v T - lo (T - c)) (g := fun T => v' T - lo' (T - c)) fun T hT => by
        obtain ⟨h1, _, _, h4⟩ := mem_knownSupers_iff.mp hT
        rw [hv T h1 h4, hlo (T - c) (Nat.sub_lt_of_lt h1)]
    rw [upAgainst_of_min hk ((congrArg listMin? hl).trans hm), upAgainst_of_min hk hm]

theorem upSpec_congr [Add α] {n : Nat} {known : Nat → Bool} (hmin : MinInfo n known)
    {v v' : Nat → α} (hv : ∀ c, c < 2 ^ n → known c = true → v c = v' c) :
    ∀ c, c < 2 ^ n → upSpec n known v c = upSpec n known v' c :=
  upAgainst_congr hmin hv (loSpec_congr hmin hv)

end upOrd

/-! ### `samUp`, with the three columns it reads kept apart -/

namespace Refine

section samUpG
variable [Add α] [Sub α] [Max α] [Min α]

/-- `samUp` reading the known values of supersets from `V`, the lower bounds from `L` and the known
    values of sub-coalitions from `H` -/
def samUpG (n : Nat) (known : Nat → Bool) (V L H : Nat → α) (c : Nat) : α :=
  if known c then V c else
    match listMin? ((knownSupers n known c).map fun T => V T - L (T - c)),
          listMin? ((knownSubs known c).map H) with
    | some a, some b => min a b
    | _, _ => V c

theorem samUp_eq_samUpG (n : Nat) (known : Nat → Bool) (v : Nat → α) (r : Nat) :
    samUp n known v r = samUpG n known v (samB n known v r) v := rfl

omit [Add α] [Max α] in
theorem samUpG_known {n : Nat} {known : Nat → Bool} {V L H : Nat → α} {c : Nat}
    (h : known c = true) : samUpG n known V L H c = V c := by
  rw [samUpG, if_pos h]

omit [Add α] [Max α] in
theorem samUpG_unknown {n : Nat} {known : Nat → Bool} {V L H : Nat → α} {c : Nat} {a b : α}
    (h : known c = false)
    (ha : listMin? ((knownSupers n known c).map fun T => V T - L (T - c)) = some a)
    (hb : listMin? ((knownSubs known c).map H) = some b) :
    samUpG n known V L H c = min a b := by
  rw [samUpG, if_neg (by simp [h]), ha, hb]

theorem samUp_unknown {n : Nat} {known : Nat → Bool} {v : Nat → α} {r c : Nat} {a b : α}
    (h : known c = false)
    (ha : listMin? ((knownSupers n known c).map fun T => v T - samB n known v r (T - c)) = some a)
    (hb : listMin? ((knownSubs known c).map v) = some b) :
    samUp n known v r c = min a b := by
  rw [samUp, if_neg (by simp [h]), ha, hb]

end samUpG

section samUpGcongr
variable [Add α] [Sub α] [LinearOrder α]

omit [Add α] in
theorem samUpG_congr {n : Nat} {known : Nat → Bool} (hmin : MinInfo n known)
    {V V' L L' H H' : Nat → α}
    (hV : ∀ c, c < 2 ^ n → known c = true → V c = V' c)
    (hL : ∀ c, c < 2 ^ n → L c = L' c)
    (hH : ∀ c, c < 2 ^ n → known c = true → H c = H' c) :
    ∀ c, c < 2 ^ n → samUpG n known V L H c = samUpG n known V' L' H' c := by
  intro c hc
  cases hk : known c with
  | true => rw [samUpG_known hk, samUpG_known hk, hV c hc hk]
  | false =>
    obtain ⟨a, ha⟩ := exists_min_knownSupers hmin hc hk fun T => V' T - L' (T - c)
    obtain ⟨b, hb⟩ := exists_min_knownSubs hmin hc hk H'
    have h1 := List.map_congr_left (l := knownSupers n known c)
      (f := fun T => V T - L (T - c)) (g := fun T => V' T - L' (T - c)) fun T hT => by
        obtain ⟨h1, _, _, h4⟩ := mem_knownSupers_iff.mp hT
        rw [hV T h1 h4, hL (T - c) (Nat.sub_lt_of_lt h1)]
    have h2 := List.map_congr_left (l := knownSubs known c) (f := H) (g := H') fun x hx => by
      obtain ⟨hs, _, _, hkx⟩ := mem_knownSubs_iff.mp hx
      exact hH x (sub_lt_two_pow hs hc) hkx
    rw [samUpG_unknown hk ((congrArg listMin? h1).trans ha) ((congrArg listMin? h2).trans hb),
      samUpG_unknown hk ha hb]

theorem samUp_congr {n : Nat} {known : Nat → Bool} (hmin : MinInfo n known) {v v' : Nat → α}
    (hv : ∀ c, c < 2 ^ n → known c = true → v c = v' c) (r : Nat) :
    ∀ c, c < 2 ^ n → samUp n known v r c = samUp n known v' r c :=
  samUpG_congr hmin hv (samB_congr hmin hv r) hv

end samUpGcongr

end Refine

section samUp
variable [Add α] [Sub α] [LinearOrder α]

theorem samUp_known {n : Nat} {known : Nat → Bool} {v : Nat → α} {r c : Nat}
    (hk : known c = true) : samUp n known v r c = v c := by
  rw [samUp, if_pos hk]

theorem samUp_least {n : Nat} {known : Nat → Bool} (hmin : MinInfo n known) {v : Nat → α} {r c : Nat}
    (hc : c < 2 ^ n) (hk : known c = false) :
    ((∃ T, T ∈ knownSupers n known c ∧ samUp n known v r c = v T - samB n known v r (T - c)) ∨
      (∃ x, x ∈ knownSubs known c ∧ samUp n known v r c = v x)) ∧
    (∀ T, T ∈ knownSupers n known c → samUp n known v r c ≤ v T - samB n known v r (T - c)) ∧
    (∀ x, x ∈ knownSubs known c → samUp n known v r c ≤ v x) := by
  obtain ⟨a, ha⟩ := exists_min_knownSupers hmin hc hk fun T => v T - samB n known v r (T - c)
  obtain ⟨b, hb⟩ := exists_min_knownSubs hmin hc hk v
  obtain ⟨ha1, ha2⟩ := listMin?_eq_some_iff.mp ha
  obtain ⟨hb1, hb2⟩ := listMin?_eq_some_iff.mp hb
  rw [Refine.samUp_unknown hk ha hb]
  refine ⟨?_, fun T hT => le_trans (min_le_left a b) (ha2 _ (List.mem_map.mpr ⟨T, hT, rfl⟩)),
    fun x hx => le_trans (min_le_right a b) (hb2 _ (List.mem_map.mpr ⟨x, hx, rfl⟩))⟩
  rcases min_choice a b with h | h
  · obtain ⟨T, hT, hTe⟩ := List.mem_map.mp ha1
    exact Or.inl ⟨T, hT, by rw [h, hTe]⟩
  · obtain ⟨x, hx, hxe⟩ := List.mem_map.mp hb1
    exact Or.inr ⟨x, hx, by rw [h, hxe]⟩

end samUp

end ICG

/-
  ICG.Lemmas.CodecArr — numpy side of the entry codec (ICG.Model.Codec): `tolist` followed by `np.array`; then dtype
  inference and casting (`inferDType_same`, `DType.rank`, `inferDType_ge`, `castTo_of_hasType`,
  `castTo_inferred_modelled`).
  Core Lean only.
-/
import ICG.Model.Codec
import ICG.Lemmas.CodecMeta

namespace ICG.Codec
variable {φ : Type}

/-- the shape numpy discovers in the `tolist` of an array of shape `s`: everything after the first zero dimension
    is lost -/
def cut : List Nat → List Nat
  | [] => []
  | 0 :: _ => [0]
  | (d + 1) :: r => (d + 1) :: cut r

theorem cut_length_le (s : List Nat) : (cut s).length ≤ s.length := by
  induction s with
  | nil => simp [cut]
  | cons d r ih =>
    cases d with
    | zero => simp [cut]
    | succ d => simp only [cut, List.length_cons]; omega

theorem cut_eq_self_iff (s : List Nat) : cut s = s ↔ ∀ d ∈ s.dropLast, d ≠ 0 := by
  induction s with
  | nil => simp [cut]
  | cons d r ih =>
    cases d with
    | zero =>
      cases r with
      | nil => simp [cut]
      | cons e r' => simp [cut, List.dropLast]
    | succ d =>
      cases r with
      | nil => simp [cut]
      | cons e r' =>
        simp only [cut, List.cons.injEq, true_and, List.dropLast_cons_cons, List.mem_cons, forall_eq_or_imp, ne_eq,
          Nat.add_eq_zero_iff, Nat.succ_ne_self, and_false, not_false_eq_true]
        simpa [cut] using ih

theorem loadedList_iff (l : List (Json φ)) : loadedList l = true ↔ ∀ t ∈ l, t.loaded = true := by
  induction l with
  | nil => simp [loadedList]
  | cons x xs ih => simp [loadedList, ih]

theorem allShape_of_forall (s : List Nat) (ys : List (Json φ)) (h : ∀ y ∈ ys, shapeOf y = .ok s) :
    allShape s ys = .ok () := by
  induction ys with
  | nil => simp [allShape]
  | cons y ys ih =>
    rw [allShape, h y (by simp)]
    simp only [if_true]
    exact ih (fun z hz => h z (by simp [hz]))

theorem toTree_chunks (rest : List Nat)
    (ih : ∀ cells : List (Scalar φ), cells.length = prod rest →
      ∃ t, toTree? rest cells = some t ∧ shapeOf t = .ok (cut rest) ∧ leaves t = cells.map Scalar.toJson ∧
        t.loaded = true)
    (d : Nat) (cells : List (Scalar φ)) (hl : cells.length = d * prod rest) :
    ∃ ts, mapO (toTree? rest) (splitChunks (prod rest) d cells) = some ts ∧ ts.length = d ∧
      (∀ t ∈ ts, shapeOf t = .ok (cut rest)) ∧ leavesList ts = cells.map Scalar.toJson ∧
      (∀ t ∈ ts, t.loaded = true) := by
  induction d generalizing cells with
  | zero =>
    have : cells = [] := by
      apply List.eq_nil_of_length_eq_zero; simpa using hl
    subst this
    exact ⟨[], by simp [splitChunks, mapO], rfl, by simp, by simp [leavesList], by simp⟩
  | succ d ihd =>
    have h1 : (cells.take (prod rest)).length = prod rest := by
      rw [List.length_take, hl, Nat.succ_mul]; exact Nat.min_eq_left (Nat.le_add_left _ _)
    have h2 : (cells.drop (prod rest)).length = d * prod rest := by
      rw [List.length_drop, hl, Nat.succ_mul, Nat.add_sub_cancel]
    obtain ⟨t, ht, hs, hlv, hld⟩ := ih _ h1
    obtain ⟨ts, hts, hlen, hall, hlvs, hlds⟩ := ihd _ h2
    refine ⟨t :: ts, ?_, congrArg (· + 1) hlen, List.forall_mem_cons.2 ⟨hs, hall⟩, ?_,
      List.forall_mem_cons.2 ⟨hld, hlds⟩⟩
    · rw [splitChunks, mapO, ht, hts]
    · rw [leavesList, hlv, hlvs, ← List.map_append, List.take_append_drop]

/-- `tolist`, then what `np.array` sees: numpy discovers the shape `cut shape`, the leaves are the cells in row-major order -/
theorem toTree_spec (shape : List Nat) : ∀ cells : List (Scalar φ), cells.length = prod shape →
    ∃ t, toTree? shape cells = some t ∧ shapeOf t = .ok (cut shape) ∧ leaves t = cells.map Scalar.toJson ∧
      t.loaded = true := by
  induction shape with
  | nil =>
    intro cells hl
    obtain ⟨x, rfl⟩ := List.length_eq_one_iff.mp hl
    -- a 0-d array is its one cell: a leaf of shape `()`
    cases x <;> exact ⟨_, rfl, rfl, rfl, rfl⟩
  | cons d rest ih =>
    intro cells hl
    obtain ⟨ts, hts, hlen, hall, hlvs, hlds⟩ := toTree_chunks rest ih d cells hl
    refine ⟨.arr ts, by simp [toTree?, hts], ?_, by simp [leaves, hlvs],
      by simpa [Json.loaded, loadedList_iff] using hlds⟩
    cases ts with
    | nil =>
      simp only [List.length_nil] at hlen
      subst hlen
      simp [shapeOf, cut]
    | cons x xs =>
      simp only [List.length_cons] at hlen
      subst hlen
      have hx := hall x (by simp)
      have hxs := allShape_of_forall (cut rest) xs (fun y hy => hall y (by simp [hy]))
      simp [shapeOf, hx, hxs, cut]

theorem mapE_map_ok {α β ε : Type} (f : β → Except ε α) (k : α → β) (l : List α) (h : ∀ a ∈ l, f (k a) = .ok a) :
    mapE f (l.map k) = .ok l := by
  induction l with
  | nil => rfl
  | cons a l ih =>
    rw [List.map_cons, mapE, h a List.mem_cons_self, ih fun b hb => h b (List.mem_cons_of_mem _ hb)]

theorem mapE_scalar (cells : List (Scalar φ)) : mapE Json.scalar? (cells.map Scalar.toJson) = .ok cells :=
  mapE_map_ok _ _ cells fun c _ => by cases c <;> rfl

theorem discover_tolist (shape : List Nat) (cells : List (Scalar φ)) (hl : cells.length = prod shape)
    (hd : shape.length ≤ maxDims) :
    ∃ t, toTree? shape cells = some t ∧ discover t = .ok (cut shape, cells) ∧ t.reload = t := by
  obtain ⟨t, ht, hs, hlv, hld⟩ := toTree_spec shape cells hl
  refine ⟨t, ht, ?_, reload_of_loaded t hld⟩
  have : ¬ (cut shape).length > maxDims := by
    have := cut_length_le shape; omega
  simp [discover, hlv, mapE_scalar, hs, this]

/-- the cast is the identity by computation, or `hasType` is `false` -/
theorem castTo_of_hasType (ofInt : Int → Except CErr (FCell φ)) (dt : DType) (c : Scalar φ)
    (h : c.hasType dt = true) : castTo ofInt dt c = .ok c := by
  cases dt <;> cases c <;> first | rfl | cases h

theorem castTo_self (ofInt : Int → Except CErr (FCell φ)) (dt : DType)
    (cells : List (Scalar φ)) (h : cells.all (Scalar.hasType dt) = true) :
    mapE (castTo ofInt dt) cells = .ok cells := by
  have := mapE_map_ok (castTo ofInt dt) id cells fun c hc => castTo_of_hasType ofInt dt c (List.all_eq_true.mp h c hc)
  rwa [List.map_id] at this

theorem kindOf_of_hasType (dt : DType) (hdt : dt ≠ .obj) (c : Scalar φ) (h : c.hasType dt = true) :
    kindOf c = .ok dt := by
  cases dt with
  | obj => exact absurd rfl hdt
  | f64 => cases c <;> first | rfl | cases h
  | bool => cases c <;> first | rfl | cases h
  | i64 =>
    cases c with
    | int i => exact if_pos h
    | _ => cases h

theorem inferFrom_same (dt : DType) (hdt : dt ≠ .obj) (cells : List (Scalar φ))
    (h : cells.all (Scalar.hasType dt) = true) : inferFrom dt cells = .ok dt := by
  induction cells with
  | nil => rfl
  | cons c cs ih =>
    simp only [List.all_cons, Bool.and_eq_true] at h
    have hj : dt.join dt = dt := by cases dt <;> rfl
    simp [inferFrom, kindOf_of_hasType dt hdt c h.1, hj, ih h.2]

theorem inferDType_same (dt : DType) (hdt : dt ≠ .obj) (cells : List (Scalar φ))
    (h : cells.all (Scalar.hasType dt) = true) (hne : cells ≠ [] ∨ dt = .f64) : inferDType cells = .ok dt := by
  cases cells with
  | nil =>
    rcases hne with h | h
    · exact absurd rfl h
    · subst h; rfl
  | cons c cs =>
    simp only [List.all_cons, Bool.and_eq_true] at h
    simp [inferDType, kindOf_of_hasType dt hdt c h.1, inferFrom_same dt hdt cs h.2]

/-! ### the inferred dtype can hold every cell: the `unmodelled` branches of `castTo` are dead -/

def DType.rank : DType → Nat
  | .bool => 0 | .i64 => 1 | .f64 => 2 | .obj => 3

theorem rank_join (a b : DType) : (a.join b).rank = max a.rank b.rank := by
  cases a <;> cases b <;> rfl

theorem inferFrom_ge (k : DType) (cells : List (Scalar φ)) (dt : DType) (h : inferFrom k cells = .ok dt) :
    k.rank ≤ dt.rank ∧ ∀ c ∈ cells, ∃ kc, kindOf c = .ok kc ∧ kc.rank ≤ dt.rank := by
  induction cells generalizing k with
  | nil =>
    simp only [inferFrom, Except.ok.injEq] at h
    subst h
    exact ⟨Nat.le_refl _, by simp⟩
  | cons c cs ih =>
    simp only [inferFrom] at h
    cases hk : kindOf c with
    | error e => simp [hk] at h
    | ok kc =>
      simp only [hk] at h
      obtain ⟨h1, h2⟩ := ih _ h
      rw [rank_join] at h1
      refine ⟨by omega, ?_⟩
      intro x hx
      rcases List.mem_cons.1 hx with rfl | hx
      · exact ⟨kc, hk, by omega⟩
      · exact h2 x hx

theorem inferDType_ge (cells : List (Scalar φ)) (dt : DType) (h : inferDType cells = .ok dt) :
    ∀ c ∈ cells, ∃ kc, kindOf c = .ok kc ∧ kc.rank ≤ dt.rank := by
  cases cells with
  | nil => simp
  | cons c cs =>
    simp only [inferDType] at h
    cases hk : kindOf c with
    | error e => simp [hk] at h
    | ok kc =>
      simp only [hk] at h
      obtain ⟨h1, h2⟩ := inferFrom_ge kc cs dt h
      intro x hx
      rcases List.mem_cons.1 hx with rfl | hx
      · exact ⟨kc, hk, h1⟩
      · exact h2 x hx

theorem castF_modelled (ofInt : Int → Except CErr (FCell φ)) (hof : ∀ i, ofInt i ≠ .error .unmodelled) (i : Int) :
    (match ofInt i with
      | .ok c => (.ok (.float c) : Except CErr (Scalar φ))
      | .error e => .error e) ≠ .error .unmodelled := by
  cases h : ofInt i with
  | ok c => simp
  | error e =>
    simp only [ne_eq, Except.error.injEq]
    intro he
    exact hof i (he ▸ h)

theorem castTo_inferred_modelled (ofInt : Int → Except CErr (FCell φ)) (hof : ∀ i, ofInt i ≠ .error .unmodelled)
    (cells : List (Scalar φ)) (dt : DType) (h : inferDType cells = .ok dt) :
    ∀ c ∈ cells, castTo ofInt dt c ≠ .error .unmodelled := by
  intro c hc
  obtain ⟨kc, hk, hr⟩ := inferDType_ge cells dt h c hc
  -- per target dtype: the cast is total, or the cell's own kind ranks above the target
  cases dt with
  | obj => exact fun h => by cases h
  | f64 =>
    cases c with
    | null | float _ => exact fun h => by cases h
    | bool b | int i => exact castF_modelled ofInt hof _
  | i64 =>
    cases c with
    | bool _ | int _ => exact fun h => by cases h
    | null | float _ => cases hk; exact absurd hr (by decide)
  | bool =>
    cases c with
    | bool _ => exact fun h => by cases h
    | null | float _ => cases hk; exact absurd hr (by decide)
    | int i =>
      simp only [kindOf] at hk
      split at hk
      · cases hk; exact absurd hr (by decide)
      · cases hk

end ICG.Codec

/-
  ICG.Lemmas.ExpectedGreedy — the expected-greedy search of run/greedy.py (`get_greedy_rewards`,
  model: ICG.Model.Search.expectedGreedyWith), the search part of property C13 (the solvers are in Props/C13):

  "The expected-greedy search extends its sequence by a coalition minimising the mean gap over the sampled
  games, never repeats a coalition, and its gap curve is non-increasing, never below the exhaustive optimum
  and equal to it for zero and one reveals."

  `evalSeq seq` is the vector of gaps of the sequence on the sampled games (a pool call per sequence in the
  code; by C11 it depends on the *set* of the sequence only).  `order acts s` is the iteration order of the
  Python set `possible_actions` — an arbitrary permutation of its contents.
-/
import ICG.Props.C11

namespace ICG.ExpectedGreedy
open ICG ICG.Search

/-! ### `np.argmin` -/

section
variable {α : Type} [LinearOrder α]

/-- scanning the rest `xs` of `l = pre ++ xs` with the best so far (`bi`, value `bv`) minimal on `pre` -/
theorem argminGo_spec (l : List α) : ∀ (xs pre : List α) (bi : Nat) (bv : α), l = pre ++ xs → l[bi]? = some bv →
    (∀ x ∈ pre, bv ≤ x) → ∃ v, l[argminGo xs pre.length bi bv]? = some v ∧ ∀ x ∈ l, v ≤ x := by
  intro xs
  induction xs with
  | nil => intro pre bi bv hl hb hpre; exact ⟨bv, hb, by rw [hl, List.append_nil]; exact hpre⟩
  | cons x xs ih =>
    intro pre bi bv hl hb hpre
    have hl' : l = (pre ++ [x]) ++ xs := by rw [hl, List.append_assoc]; rfl
    have hlen : (pre ++ [x]).length = pre.length + 1 := List.length_append
    rw [argminGo, ← hlen]
    by_cases hx : x < bv
    · rw [if_pos hx]
      refine ih (pre ++ [x]) pre.length x hl' ?_ (fun y hy => ?_)
      · rw [hl, List.getElem?_append_right (Nat.le_refl _), Nat.sub_self]; rfl
      · rcases List.mem_append.mp hy with hy | hy
        · exact hx.le.trans (hpre y hy)
        · exact (List.mem_singleton.mp hy).ge
    · rw [if_neg hx]
      refine ih (pre ++ [x]) bi bv hl' hb (fun y hy => ?_)
      rcases List.mem_append.mp hy with hy | hy
      · exact hpre y hy
      · exact List.mem_singleton.mp hy ▸ not_lt.mp hx

theorem argmin_spec {l : List α} {r : Nat} (h : argmin l = some r) : ∃ v, l[r]? = some v ∧ ∀ x ∈ l, v ≤ x := by
  cases l with
  | nil => cases h
  | cons a l =>
    cases h
    exact argminGo_spec (a :: l) l [a] 0 a rfl rfl (fun x hx => by rw [List.mem_singleton.mp hx])

end

section
variable {α : Type} [Add α] [Zero α] [Div α] [NatCast α] [LinearOrder α]

/-! ### the loop -/

variable (evalSeq : List Nat → Except Err (List α)) (order : List Nat → List Nat → List Nat)

/-- the loop state after a pass that took the candidate with gap vector `row` ending in `last` (`none`: the first pass) -/
def advance (st : GState α) (last : Option Nat) (row : List α) : GState α :=
  let acts := match last with
    | some a => st.acts ++ [a]
    | none => st.acts
  let possible := match last with
    | some a => st.possible.erase a
    | none => st.possible
  { rows := st.rows.set acts.length row, acts := acts, possible := possible,
    pnas := (order acts possible).map (fun a => acts ++ [a]) }

theorem greedyIter_ok {reps : Nat} {st st' : GState α} (h : greedyIter evalSeq order reps st = .ok st') :
    ∃ seq row, seq ∈ st.pnas ∧ evalSeq seq = .ok row ∧
      (∀ seq' ∈ st.pnas, ∃ row', evalSeq seq' = .ok row' ∧ mean row ≤ mean row') ∧
      (advance order st seq.getLast? row).acts.length < st.rows.length ∧ st' = advance order st seq.getLast? row := by
  rw [greedyIter] at h
  cases hm : mapE evalSeq st.pnas with
  | error e => rw [hm] at h; cases h
  | ok expected =>
    rw [hm] at h
    dsimp only at h
    by_cases he : expected.isEmpty = true
    · rw [if_pos he] at h; cases h
    by_cases hr0 : reps = 0
    · rw [if_neg he, if_pos hr0] at h; cases h
    rw [if_neg he, if_neg hr0] at h
    cases hidx : argmin (expected.map mean) with
    | none => rw [hidx] at h; cases h
    | some idx =>
      rw [hidx] at h
      dsimp only at h
      split at h
      case h_2 => cases h
      case h_1 seq row hs hr =>
        change (if (advance order st seq.getLast? row).acts.length < st.rows.length
          then Except.ok (advance order st seq.getLast? row) else Except.error Err.index) = Except.ok st' at h
        by_cases hlen : (advance order st seq.getLast? row).acts.length < st.rows.length
        case neg => rw [if_neg hlen] at h; cases h
        case pos =>
          rw [if_pos hlen] at h
          cases h
          obtain ⟨v, hv, hmin⟩ := argmin_spec hidx
          rw [List.getElem?_map, hr] at hv
          cases hv
          obtain ⟨r, hr', hrow⟩ := mapE_getElem? evalSeq _ _ hm idx seq hs
          rw [hr] at hr'
          cases hr'
          refine ⟨seq, row, List.mem_of_getElem? hs, hrow, fun seq' hseq' => ?_, hlen, rfl⟩
          obtain ⟨j, hj⟩ := List.mem_iff_getElem?.mp hseq'
          obtain ⟨row', hj', hrow'⟩ := mapE_getElem? evalSeq _ _ hm j seq' hj
          exact ⟨row', hrow', hmin _ (List.mem_map.mpr ⟨row', List.mem_of_getElem? hj', rfl⟩)⟩

/-- what holds of the loop state of `get_greedy_rewards` before every pass; `E` = the explorable coalitions
    (without duplicates) -/
structure GInv (E : List Nat) (maxSteps : Nat) (st : GState α) : Prop where
  rowsLen : st.rows.length = maxSteps + 1
  actsLen : st.acts.length ≤ maxSteps
  split : (st.acts ++ st.possible).Perm E
  pnas : (st.pnas = [[]] ∧ st.acts = []) ∨ st.pnas = (order st.acts st.possible).map (fun a => st.acts ++ [a])
  rowsOk : ∀ i, i ≤ st.acts.length → ∃ r, evalSeq (st.acts.take i) = .ok r ∧ st.rows[i]? = some r
  minOk : ∀ i, i < st.acts.length → ∀ c ∈ E, c ∉ st.acts.take i →
    ∃ r rc, evalSeq (st.acts.take (i + 1)) = .ok r ∧ evalSeq (st.acts.take i ++ [c]) = .ok rc ∧ mean r ≤ mean rc

/-- passes still to come: one per coalition still to take, plus the first pass (candidates `[[]]`), which takes none -/
def need (maxSteps : Nat) (st : GState α) : Nat :=
  maxSteps - st.acts.length + (if st.pnas = [[]] then 1 else 0)

theorem map_append_singleton_ne (acts l : List Nat) : l.map (fun a => acts ++ [a]) ≠ [[]] := by
  intro h
  cases l with
  | nil => simp at h
  | cons a l => simp at h

variable {evalSeq order}

/-- the only candidate is the empty sequence: nothing is taken, row 0 is written again -/
theorem GInv.first_pass {E : List Nat} {maxSteps : Nat} {st : GState α} {row : List α}
    (hinv : GInv evalSeq order E maxSteps st) (hp1 : st.pnas = [[]]) (hp2 : st.acts = [])
    (hrow : evalSeq [] = .ok row) :
    GInv evalSeq order E maxSteps (advance order st none row) ∧
      need maxSteps (advance order st none row) + 1 = need maxSteps st := by
  refine ⟨⟨?_, hinv.actsLen, hinv.split, Or.inr rfl, fun i hi => ?_, fun i hi => ?_⟩, ?_⟩
  · show (st.rows.set st.acts.length row).length = _
    rw [List.length_set]; exact hinv.rowsLen
  · change i ≤ st.acts.length at hi
    have hi0 : i = 0 := by rw [hp2] at hi; exact Nat.le_zero.mp hi
    subst hi0
    refine ⟨row, hrow, ?_⟩
    show (st.rows.set st.acts.length row)[0]? = some row
    rw [hp2]
    exact List.getElem?_set_self (by rw [hinv.rowsLen]; exact Nat.succ_pos _)
  · change i < st.acts.length at hi
    rw [hp2] at hi
    exact absurd hi (Nat.not_lt_zero i)
  · simp only [need, advance, hp1, hp2, List.length_nil, ↓reduceIte, map_append_singleton_ne, Nat.add_zero]

/-- a pass that appends `a`, a minimiser of the mean gap among the extensions of `acts` by a remaining coalition (`hmin`):
    the invariant is kept and `need` drops by one -/
theorem GInv.regular_pass (hperm : ∀ acts s, (order acts s).Perm s) {E : List Nat}
    {maxSteps : Nat} {st : GState α} {row : List α} {a : Nat} (hinv : GInv evalSeq order E maxSteps st)
    (hlt : st.acts.length < maxSteps) (hp : st.pnas = (order st.acts st.possible).map (fun a => st.acts ++ [a]))
    (ha : a ∈ order st.acts st.possible) (hrow : evalSeq (st.acts ++ [a]) = .ok row)
    (hmin : ∀ seq' ∈ st.pnas, ∃ row', evalSeq seq' = .ok row' ∧ mean row ≤ mean row')
    (hlen : (st.acts ++ [a]).length < st.rows.length) :
    GInv evalSeq order E maxSteps (advance order st (some a) row) ∧
      need maxSteps (advance order st (some a) row) + 1 = need maxSteps st := by
  have haposs : a ∈ st.possible := (hperm _ _).mem_iff.mp ha
  have hlen1 : (st.acts ++ [a]).length = st.acts.length + 1 := List.length_append
  have hlen' : st.acts.length + 1 < st.rows.length := hlen1 ▸ hlen
  refine ⟨⟨?_, hlen1 ▸ hlt, ?_, Or.inr rfl, fun i hi => ?_, fun i hi c hc hcn => ?_⟩, ?_⟩
  · show (st.rows.set (st.acts ++ [a]).length row).length = _
    rw [List.length_set]; exact hinv.rowsLen
  · show ((st.acts ++ [a]) ++ st.possible.erase a).Perm E
    rw [List.append_assoc]
    exact ((List.perm_cons_erase haposs).symm.append_left _).trans hinv.split
  · change i ≤ (st.acts ++ [a]).length at hi
    show ∃ r, evalSeq ((st.acts ++ [a]).take i) = .ok r ∧
      (st.rows.set (st.acts ++ [a]).length row)[i]? = some r
    rw [hlen1] at hi ⊢
    by_cases hile : i ≤ st.acts.length
    · obtain ⟨r, h1, h2⟩ := hinv.rowsOk i hile
      refine ⟨r, by rw [List.take_append_of_le_length hile]; exact h1, ?_⟩
      rw [List.getElem?_set_ne (Nat.ne_of_gt (Nat.lt_succ_of_le hile))]; exact h2
    · have hieq : i = st.acts.length + 1 := Nat.le_antisymm hi (Nat.lt_of_not_le hile)
      subst hieq
      exact ⟨row, by rw [List.take_of_length_le (by rw [hlen1])]; exact hrow, List.getElem?_set_self hlen'⟩
  · change i < (st.acts ++ [a]).length at hi
    change c ∉ (st.acts ++ [a]).take i at hcn
    show ∃ r rc, evalSeq ((st.acts ++ [a]).take (i + 1)) = .ok r ∧
      evalSeq ((st.acts ++ [a]).take i ++ [c]) = .ok rc ∧ mean r ≤ mean rc
    rw [hlen1] at hi
    by_cases hilt : i < st.acts.length
    · rw [List.take_append_of_le_length (Nat.le_of_lt hilt)] at hcn ⊢
      rw [List.take_append_of_le_length hilt]
      exact hinv.minOk i hilt c hc hcn
    · -- the coalition just taken against any other remaining one: it was a minimiser among the candidates
      have hieq : i = st.acts.length := Nat.le_antisymm (Nat.le_of_lt_succ hi) (Nat.le_of_not_lt hilt)
      subst hieq
      rw [List.take_append_of_le_length (le_refl _), List.take_length] at hcn ⊢
      rw [List.take_of_length_le (by rw [hlen1])]
      have hcposs : c ∈ st.possible :=
        (List.mem_append.mp (hinv.split.mem_iff.mpr hc)).resolve_left hcn
      obtain ⟨rc, hrc, hle⟩ := hmin (st.acts ++ [c]) (by
        rw [hp]; exact List.mem_map.mpr ⟨c, (hperm _ _).mem_iff.mpr hcposs, rfl⟩)
      exact ⟨row, rc, hrow, hrc, hle⟩
  · have h1 : st.pnas ≠ [[]] := by rw [hp]; exact map_append_singleton_ne _ _
    simp only [need, advance, hlen1, h1, ↓reduceIte, map_append_singleton_ne, Nat.add_zero]
    rw [Nat.sub_succ]
    exact Nat.succ_pred_eq_of_pos (Nat.sub_pos_of_lt hlt)

variable (evalSeq order)

theorem greedyIter_inv (hperm : ∀ acts s, (order acts s).Perm s) (E : List Nat)
    (maxSteps reps : Nat) (st st' : GState α) (hinv : GInv evalSeq order E maxSteps st)
    (hlt : st.acts.length < maxSteps) (hiter : greedyIter evalSeq order reps st = .ok st') :
    GInv evalSeq order E maxSteps st' ∧ need maxSteps st' + 1 = need maxSteps st := by
  obtain ⟨seq, row, hseq, hrow, hmin, hlen, rfl⟩ := greedyIter_ok evalSeq order hiter
  rcases hinv.pnas with ⟨hp1, hp2⟩ | hp
  · rw [hp1, List.mem_singleton] at hseq
    subst hseq
    exact hinv.first_pass hp1 hp2 hrow
  · rw [hp] at hseq
    obtain ⟨a, ha, rfl⟩ := List.mem_map.mp hseq
    have hlast : (st.acts ++ [a]).getLast? = some a := by
      simp only [List.getLast?_append, List.getLast?_singleton, Option.some_or]
    rw [hlast] at hlen ⊢
    exact hinv.regular_pass hperm hlt hp ha hrow hmin hlen

/-- the fuel `maxSteps + 1` of `expectedGreedyWith` never runs out with the loop condition still true -/
theorem greedyLoop_inv (hperm : ∀ acts s, (order acts s).Perm s) (E : List Nat) (maxSteps reps : Nat) :
    ∀ (f : Nat) (st st' : GState α), GInv evalSeq order E maxSteps st → need maxSteps st ≤ f →
      greedyLoop evalSeq order reps maxSteps f st = .ok st' →
      GInv evalSeq order E maxSteps st' ∧ st'.acts.length = maxSteps := by
  intro f
  induction f with
  | zero =>
    intro st st' hinv hneed h
    simp only [greedyLoop, Except.ok.injEq] at h
    subst h
    refine ⟨hinv, ?_⟩
    have := hinv.actsLen
    simp only [need, Nat.le_zero, Nat.add_eq_zero_iff] at hneed
    omega
  | succ f ih =>
    intro st st' hinv hneed h
    simp only [greedyLoop] at h
    by_cases hlt : st.acts.length < maxSteps
    · simp only [hlt, ↓reduceIte] at h
      cases hit : greedyIter evalSeq order reps st with
      | error e => rw [hit] at h; cases h
      | ok st1 =>
        rw [hit] at h
        simp only at h
        obtain ⟨hinv1, hneed1⟩ := greedyIter_inv evalSeq order hperm E maxSteps reps st st1 hinv hlt hit
        exact ih st1 st' hinv1 (by omega) h
    · simp only [hlt, ↓reduceIte, Except.ok.injEq] at h
      subst h
      exact ⟨hinv, by have := hinv.actsLen; omega⟩

/-! ### the facts of property C13 about the expected-greedy search -/

variable [One α] [Neg α]

theorem GInv.init {explorable : List Nat} {maxSteps reps : Nat} {row0 : List α} (h0 : evalSeq [] = .ok row0) :
    GInv evalSeq order explorable.eraseDups maxSteps
      { rows := (List.replicate (maxSteps + 1) (List.replicate reps (-1 : α))).set 0 row0, acts := [],
        possible := explorable.eraseDups, pnas := [[]] } := by
  refine ⟨by simp, Nat.zero_le _, List.Perm.refl _, Or.inl ⟨rfl, rfl⟩, fun i hi => ?_,
    fun i hi => absurd hi (Nat.not_lt_zero i)⟩
  obtain rfl : i = 0 := Nat.le_zero.mp hi
  exact ⟨row0, h0, List.getElem?_set_self (by simp)⟩

/-- **never repeats / minimises / rows are the gaps of its own prefixes.**  If `get_greedy_rewards`
    returns `(rows, acts)` then: it took exactly `maxSteps` coalitions, all explorable and pairwise
    different; row `i` is the gap vector of its first `i` coalitions on the sampled games; and its
    `i`-th extension has a mean gap not larger than that of ANY other extension of the same prefix by a
    coalition not yet taken. -/
theorem greedy_spec (hperm : ∀ acts s, (order acts s).Perm s) (explorable : List Nat) (maxSteps reps : Nat)
    (rows : List (List α)) (acts : List Nat)
    (h : expectedGreedyWith evalSeq order explorable maxSteps reps = .ok (rows, acts)) :
    acts.length = maxSteps ∧ acts.Nodup ∧ (∀ a ∈ acts, a ∈ explorable) ∧ rows.length = maxSteps + 1 ∧
    (∀ i, i ≤ maxSteps → ∃ r, evalSeq (acts.take i) = .ok r ∧ rows[i]? = some r) ∧
    (∀ i, i < maxSteps → ∀ c ∈ explorable, c ∉ acts.take i →
      ∃ r rc, evalSeq (acts.take (i + 1)) = .ok r ∧ evalSeq (acts.take i ++ [c]) = .ok rc ∧ mean r ≤ mean rc) := by
  simp only [expectedGreedyWith] at h
  cases h0 : evalSeq [] with
  | error e => rw [h0] at h; cases h
  | ok row0 =>
    rw [h0] at h
    simp only at h
    cases hl : greedyLoop evalSeq order reps maxSteps (maxSteps + 1)
        { rows := (List.replicate (maxSteps + 1) (List.replicate reps (-1 : α))).set 0 row0, acts := [],
          possible := explorable.eraseDups, pnas := [[]] } with
    | error e => rw [hl] at h; cases h
    | ok st =>
      rw [hl] at h
      simp only [Except.ok.injEq, Prod.mk.injEq] at h
      obtain ⟨rfl, rfl⟩ := h
      have hE := nodup_eraseDups explorable
      obtain ⟨hinv, hlen⟩ := greedyLoop_inv evalSeq order hperm explorable.eraseDups maxSteps reps (maxSteps + 1)
        _ st (GInv.init evalSeq order h0) (by simp [need]) hl
      refine ⟨hlen, (List.nodup_append.mp (hinv.split.nodup_iff.mpr hE)).1,
        fun a ha => List.mem_eraseDups.mp (hinv.split.subset (List.mem_append_left _ ha)), hinv.rowsLen, ?_, ?_⟩
      · intro i hi; exact hinv.rowsOk i (hlen ▸ hi)
      · intro i hi c hc hcn; exact hinv.minOk i (hlen ▸ hi) c (List.mem_eraseDups.mpr hc) hcn

/-- **curve non-increasing**, under the hypothesis on the gap that revealing one more coalition does not
    increase the mean gap over the sampled games (C07 on every sampled game). -/
theorem greedy_mono (hperm : ∀ acts s, (order acts s).Perm s) (explorable : List Nat) (maxSteps reps : Nat)
    (rows : List (List α)) (acts : List Nat)
    (h : expectedGreedyWith evalSeq order explorable maxSteps reps = .ok (rows, acts))
    (hmono : ∀ S c r rc, evalSeq S = .ok r → evalSeq (S ++ [c]) = .ok rc → mean rc ≤ mean r) :
    ∀ i, i < maxSteps → ∃ r1 r2, rows[i]? = some r1 ∧ rows[i + 1]? = some r2 ∧ mean r2 ≤ mean r1 := by
  obtain ⟨hlen, _, _, _, hrows, _⟩ := greedy_spec evalSeq order hperm explorable maxSteps reps rows acts h
  intro i hi
  have hia : i < acts.length := hlen ▸ hi
  obtain ⟨r1, he1, hr1⟩ := hrows i (Nat.le_of_lt hi)
  obtain ⟨r2, he2, hr2⟩ := hrows (i + 1) hi
  refine ⟨r1, r2, hr1, hr2, hmono (acts.take i) acts[i] r1 r2 he1 ?_⟩
  rw [← he2]
  congr 1
  rw [List.take_add_one, List.getElem?_eq_getElem hia]
  rfl

end

section
variable {α : Type} [Field α] [LinearOrder α] [IsStrictOrderedRing α]
variable (evalSeq : List Nat → Except Err (List α)) (order : List Nat → List Nat → List Nat)

/-- **never below the exhaustive optimum, equal for 0 and 1 reveals.**  `cands` are the sets best-states
    enumerated (every sub-list of the duplicate-free list `unknown` of explorable coalitions of length
    ≤ `maxSteps`) with their gap vectors from the SAME evaluation function, which depends on the set of
    a sequence only (C11 `value`).  `b` is the result of best-states. -/
theorem greedy_ge_best (hperm : ∀ acts s, (order acts s).Perm s) (unknown : List Nat) (hnd : unknown.Nodup)
    (maxSteps reps : Nat) (hreps : 0 < reps) (rows : List (List α)) (acts : List Nat)
    (h : expectedGreedyWith evalSeq order unknown maxSteps reps = .ok (rows, acts))
    (hset : ∀ S T : List Nat, (∀ c, c ∈ S ↔ c ∈ T) → evalSeq S = evalSeq T)
    (col : List Nat → List α) (hcol : ∀ q ∈ possibleSeqs unknown (some maxSteps), evalSeq q = .ok (col q))
    (hne : ∀ q ∈ possibleSeqs unknown (some maxSteps), mean (col q) ≠ -1)
    (b : List (BestRow α))
    (hb : bestStates maxSteps reps ((possibleSeqs unknown (some maxSteps)).map (fun q => (q, col q))) = .ok b) :
    (∀ i, i ≤ maxSteps → ∃ rg rb ab, rows[i]? = some rg ∧ b[i]? = some (rb, ab) ∧ mean rb ≤ mean rg) ∧
    (∀ i, i ≤ maxSteps → i ≤ 1 → ∃ rg rb ab, rows[i]? = some rg ∧ b[i]? = some (rb, ab) ∧ mean rb = mean rg) := by
  obtain ⟨hlen, hnodup, hexp, _, hrows, hminG⟩ := greedy_spec evalSeq order hperm unknown maxSteps reps rows acts h
  have hclen : ∀ p ∈ (possibleSeqs unknown (some maxSteps)).map (fun q => (q, col q)), p.1.length ≤ maxSteps :=
    List.forall_mem_map.mpr fun q hq => ((C11.enum_mem unknown (some maxSteps) q).mp hq).2
  have hcne : ∀ p ∈ (possibleSeqs unknown (some maxSteps)).map (fun q => (q, col q)), mean p.2 ≠ -1 :=
    List.forall_mem_map.mpr hne
  -- for every i the greedy prefix of length i is, as a set, an enumerated set `q` of size i; the greedy row is its
  -- column, and best-states is minimal among the sets of that size
  have hkey : ∀ i, i ≤ maxSteps → ∃ rg q, rows[i]? = some rg ∧ evalSeq (acts.take i) = .ok rg ∧
      q ∈ possibleSeqs unknown (some maxSteps) ∧ q.length = i ∧ b[i]? = some (col q, q) ∧ mean (col q) ≤ mean rg := by
    intro i hi
    obtain ⟨rg, herg, hrg⟩ := hrows i hi
    have hli : (acts.take i).length = i := by rw [List.length_take, Nat.min_eq_left (hlen ▸ hi)]
    obtain ⟨q, hq, hql, hqmem⟩ := C11.enum_of_nodup unknown hnd (some maxSteps)
      (hnodup.sublist (List.take_sublist i acts)) (fun c hc => hexp c (List.mem_of_mem_take hc))
      (by rw [hli]; exact hi)
    have hcq : col q = rg := by
      have h1 := hcol q hq
      rw [hset q (acts.take i) hqmem, herg] at h1
      exact (Except.ok.inj h1).symm
    have hqc := List.mem_map_of_mem (f := fun q => (q, col q)) hq
    obtain ⟨b', p, hb', hp, hps, hbi, hmin⟩ := C11.best_is_min maxSteps reps hreps _ hclen hcne i hi
      (List.ne_nil_of_mem (mem_ofSize.mpr ⟨hqc, hql.trans hli⟩))
    obtain ⟨q', hq', rfl⟩ := List.mem_map.mp hp
    rw [hb] at hb'
    cases hb'
    exact ⟨rg, q', hrg, herg, hq', hps, hbi, hcq ▸ hmin _ hqc (hql.trans hli)⟩
  refine ⟨fun i hi => ?_, fun i hi hi1 => ?_⟩
  · obtain ⟨rg, q, h1, _, _, _, h5, h6⟩ := hkey i hi
    exact ⟨rg, col q, q, h1, h5, h6⟩
  · obtain ⟨rg, q', h1, herg, hq', hps, h5, h6⟩ := hkey i hi
    refine ⟨rg, col q', q', h1, h5, le_antisymm h6 ?_⟩
    have hq'sub := ((C11.enum_mem unknown (some maxSteps) q').mp hq').1
    have hcq' := hcol q' hq'
    rcases Nat.le_one_iff_eq_zero_or_eq_one.mp hi1 with rfl | rfl
    · -- zero reveals: the only set is the empty one
      have : q' = [] := List.length_eq_zero_iff.mp hps
      subst this
      rw [List.take_zero, hcq'] at herg
      rw [Except.ok.inj herg]
    · -- one reveal: greedy's first choice is a minimiser over all single coalitions
      obtain ⟨c, rfl⟩ := List.length_eq_one_iff.mp hps
      have hcu : c ∈ unknown := hq'sub.subset (by simp)
      obtain ⟨r, rc, h1', h2', h3'⟩ := hminG 0 hi c hcu (by simp)
      simp only [List.take_zero, List.nil_append, Nat.zero_add] at h1' h2'
      rw [herg] at h1'
      rw [hcq'] at h2'
      rw [← Except.ok.inj h1', ← Except.ok.inj h2'] at h3'
      exact h3'

end
/-! ### non-vacuity: three explorable coalitions, two sampled games, candidate set iterated as 6, 5, 3 -/

/-- gap vector of a set on two sampled games (any function of the SET of the sequence) -/
def demoEval (seq : List Nat) : Except Err (List Rat) :=
  let has (c : Nat) : Bool := seq.contains c
  .ok (match has 3, has 5, has 6 with
    | false, false, false => [10, 20]
    | true, false, false => [5, 6]
    | false, true, false => [5, 4]
    | false, false, true => [7, 1]
    | true, true, false => [2, 2]
    | true, false, true => [3, 0]
    | false, true, true => [1, 1]
    | true, true, true => [0, 0])

def demoOrder (_acts s : List Nat) : List Nat := s.reverse

example : expectedGreedyWith demoEval demoOrder [3, 5, 6] 3 2 =
    .ok ([[10, 20], [7, 1], [1, 1], [0, 0]], [6, 5, 3]) := by decide +kernel

/-- more steps than explorable coalitions: the AxisError of the code (such calls are outside the property's domain) -/
example : expectedGreedyWith demoEval demoOrder [3, 5, 6] 4 2 = .error .other := by decide +kernel

example : ∀ acts s, (demoOrder acts s).Perm s := fun _ s => List.reverse_perm s

end ICG.ExpectedGreedy

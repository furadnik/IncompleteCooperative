/-
  ICG.Lemmas.ListSum — sums and left folds of lists: a constant summand, termwise comparison,
  non-negativity of a fold whose operation keeps non-negative operands non-negative.
-/
import Mathlib.Algebra.Order.Monoid.Defs
import Mathlib.Algebra.Ring.Defs
import Mathlib.Data.Nat.Cast.Defs

namespace ICG

theorem sum_map_const {α : Type} [Semiring α] {β : Type} (l : List β) (t : α) :
    (l.map (fun _ => t)).sum = (l.length : α) * t := by
  induction l with
  | nil => rw [List.map_nil, List.sum_nil, List.length_nil, Nat.cast_zero, zero_mul]
  | cons a l ih =>
    rw [List.map_cons, List.sum_cons, ih, List.length_cons, Nat.cast_succ, add_one_mul, add_comm]

theorem sum_map_le_sum_map {α : Type} [AddCommMonoid α] [PartialOrder α] [IsOrderedAddMonoid α]
    {β : Type} (l : List β) (f g : β → α) (h : ∀ x ∈ l, f x ≤ g x) :
    (l.map f).sum ≤ (l.map g).sum := by
  induction l with
  | nil => exact le_rfl
  | cons a l ih =>
    rw [List.map_cons, List.map_cons, List.sum_cons, List.sum_cons]
    exact add_le_add (h a List.mem_cons_self) (ih fun x hx => h x (List.mem_cons_of_mem _ hx))

theorem foldl_nonneg {α : Type} [Zero α] [LE α] {add' : α → α → α}
    (hadd : ∀ a b, 0 ≤ a → 0 ≤ b → 0 ≤ add' a b) :
    ∀ (l : List α) (z : α), 0 ≤ z → (∀ x ∈ l, 0 ≤ x) → 0 ≤ l.foldl add' z
  | [], _, hz, _ => hz
  | x :: l, z, hz, hl =>
    foldl_nonneg hadd l (add' z x) (hadd z x hz (hl x List.mem_cons_self))
      (fun y hy => hl y (List.mem_cons_of_mem _ hy))

end ICG

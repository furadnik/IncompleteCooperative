/-
  ICG.Lemmas.RegretPass — the two passes of one `regret_min_iteration` (ICG.Model.Regret.RM.iterate): the structural
  facts of a constructed object (`Struct`), and under them the loop invariants of the top-down and of the bottom-up pass.
-/
import ICG.Model.Regret
import ICG.Lemmas.BitFacts
import ICG.Lemmas.Regret
import ICG.Lemmas.RegretNode

namespace ICG.Regret
open ICG

/-! ### masks: the unrevealed coalitions of a node, and revealing one more -/

theorem mem_players_inverted {mc m j : Nat} : j ∈ players (inverted mc m) ↔ j < m ∧ j ∉ players mc := by
  rw [mem_players, mem_players, inverted, diff_testBit, testBit_grand]
  simp

theorem and_two_pow_eq_zero {c j : Nat} (h : c.testBit j = false) : c &&& 2 ^ j = 0 := by
  apply Nat.eq_of_testBit_eq
  intro i
  simp only [Nat.testBit_and, Nat.testBit_two_pow, Nat.zero_testBit]
  by_cases hij : j = i
  · subst hij; simp [h]
  · simp [hij]

theorem addPlayer_spec {mc m j : Nat} (hmc : mc < 2 ^ m) (hj : j < m) (hnot : j ∉ players mc) :
    addPlayer mc j < 2 ^ m ∧ size (addPlayer mc j) = size mc + 1 := by
  have hbit : mc.testBit j = false := by
    rw [mem_players] at hnot; simpa using hnot
  refine ⟨or_lt_two_pow hmc (Nat.pow_lt_pow_right (by decide) hj), ?_⟩
  show size (mc ||| 2 ^ j) = size mc + 1
  rw [size_or_of_disjoint _ _ (and_two_pow_eq_zero hbit), size_two_pow]

/-! ### structural facts of a constructed object (unchanged by iterations) -/

section struct
variable {α : Type}

/-- what the passes need of the tables.  The last three fields hold because the `R = coalitions_up_to(m, L - 1)`
    regret minimisers sit at the nodes with fewer than `L` coalitions and the stored limit `L` is at most `min m limit`
    (`coalitionsBelow_spec`); under `Policy.current` with `limit > m` the full node has a regret minimiser and `unused`
    fails. -/
structure Struct (rm : RM α) : Prop where
  V_pos : 0 < rm.rankToId.length
  R_le_V : rm.R ≤ rm.rankToId.length
  rank_id : ∀ r (hr : r < rm.rankToId.length), rm.rankOf rm.rankToId[r] = .ok r
  used_lt : ∀ i mc, i < rm.R → rm.rankToId[i]? = some mc → ∀ a ∈ players mc, a < rm.m
  unused : ∀ i mc, i < rm.R → rm.rankToId[i]? = some mc → ∃ j, j < rm.m ∧ j ∉ players mc
  child : ∀ i mc, i < rm.R → rm.rankToId[i]? = some mc → ∀ j, j < rm.m → j ∉ players mc →
    addPlayer mc j ∈ rm.rankToId

theorem Struct.frame {rm : RM α} (hs : Struct rm) (r s : List (List α)) (k : Nat) :
    Struct { rm with regret := r, strategy := s, iteration := k } :=
  ⟨hs.V_pos, hs.R_le_V, hs.rank_id, hs.used_lt, hs.unused, hs.child⟩

theorem Struct.rankOf_eq {rm : RM α} (hs : Struct rm) {i mc : Nat} (hmc : rm.rankToId[i]? = some mc) :
    rm.rankOf mc = .ok i := by
  obtain ⟨hi, rfl⟩ := List.getElem?_eq_some_iff.mp hmc
  exact hs.rank_id i hi

theorem metaIds_prefix {m k limit : Nat} (hk : k ≤ min m limit) :
    ∃ rest, metaIds m limit = metaIds m k ++ rest := by
  unfold metaIds
  obtain ⟨d, hd⟩ : ∃ d, min m limit + 1 = k + 1 + d := Nat.exists_eq_add_of_le (Nat.succ_le_succ hk)
  rw [Nat.min_eq_right (hk.trans (Nat.min_le_left ..)), hd, List.range_add, List.flatMap_append]
  exact ⟨_, rfl⟩

theorem coalitionsBelow_spec {m limit L : Nat} (hL : L ≤ min m limit) :
    coalitionsBelow m L ≤ (metaIds m limit).length ∧
    ∀ i mc, i < coalitionsBelow m L → (metaIds m limit)[i]? = some mc → mc < 2 ^ m ∧ size mc < L := by
  cases L with
  | zero => exact ⟨Nat.zero_le _, fun _ _ h => absurd h (Nat.not_lt_zero _)⟩
  | succ k =>
    have hk : k ≤ min m limit := Nat.le_of_succ_le hL
    have hR : coalitionsBelow m (k + 1) = (metaIds m k).length := by
      rw [length_metaIds, Nat.min_eq_right (hk.trans (Nat.min_le_left ..))]; rfl
    obtain ⟨rest, hrest⟩ := metaIds_prefix hk
    rw [hR]
    refine ⟨by rw [hrest, List.length_append]; exact Nat.le_add_right .., fun i mc hi hmc => ?_⟩
    rw [hrest, List.getElem?_append_left hi] at hmc
    have hmem := mem_metaIds.mp (List.mem_of_getElem? hmc)
    exact ⟨hmem.1, Nat.lt_succ_of_le (hmem.2.trans (Nat.min_le_left ..))⟩

theorem exists_unused {m c : Nat} (hs : size c < m) : ∃ j, j < m ∧ j ∉ players c := by
  by_contra hcon
  push Not at hcon
  have := List.Nodup.length_le_of_subset List.nodup_range
    (fun j hj => hcon j (List.mem_range.mp hj) : List.range m ⊆ players c)
  rw [List.length_range, ← size_eq_length_players] at this
  exact absurd this (Nat.not_le.mpr hs)

theorem new_struct [Zero α] {p : Policy} {n limit : Nat} {plus : Bool} {rm : RM α}
    (h : RM.new (α := α) p n limit plus = .ok rm)
    (hst : p.storedLimit (numCoalitions n) limit ≤ min (numCoalitions n) limit) : Struct rm := by
  obtain ⟨_, t, ht, rfl⟩ := new_ok h
  obtain ⟨hRV, hnode⟩ := coalitionsBelow_spec hst
  have hmem : ∀ x, x < 2 ^ numCoalitions n → size x ≤ min limit (numCoalitions n) →
      x ∈ metaIds (numCoalitions n) limit := fun x h1 h2 => mem_metaIds.mpr ⟨h1, h2⟩
  refine ⟨List.length_pos_of_mem (hmem 0 (Nat.two_pow_pos _) (by rw [size_zero]; exact Nat.zero_le _)), hRV,
    fresh_rank_id ht, ?_, ?_, ?_⟩
  · intro i mc hi hmc
    exact players_lt (hnode i mc hi hmc).1
  · intro i mc hi hmc
    exact exists_unused ((hnode i mc hi hmc).2.trans_le (hst.trans (Nat.min_le_left ..)))
  · intro i mc hi hmc j hj hnot
    obtain ⟨hlt, hsz⟩ := hnode i mc hi hmc
    obtain ⟨hc1, hc2⟩ := addPlayer_spec hlt hj hnot
    exact hmem _ hc1 (by rw [hc2, Nat.min_comm]; exact (Nat.succ_le_of_lt hsz).trans hst)

theorem R_le_V [Zero α] {p : Policy} {n limit : Nat} {plus : Bool} {rm : RM α}
    (_hn : 2 ≤ n) (h : RM.new (α := α) p n limit plus = .ok rm)
    (hst : p.storedLimit (numCoalitions n) limit ≤ min (numCoalitions n) limit) :
    rm.R ≤ rm.rankToId.length :=
  (new_struct h hst).R_le_V

theorem mem_zeros [Zero α] {k : Nat} {x : α} (h : x ∈ zeros (α := α) k) : x = 0 :=
  (List.mem_replicate.mp h).2

theorem mem_zeros2 [Zero α] {r k : Nat} {row : List α} (h : row ∈ zeros2 (α := α) r k) : row = zeros k :=
  (List.mem_replicate.mp h).2

theorem zeros_getElem? [Zero α] {k a : Nat} (h : a < k) : (zeros (α := α) k)[a]? = some 0 := by
  unfold zeros; rw [List.getElem?_replicate, if_pos h]

theorem nodeInfo_ok {rm : RM α} (hs : Struct rm) {i mc : Nat} (hi : i < rm.R)
    (hmc : rm.rankToId[i]? = some mc) :
    ∃ ranks, rm.nodeInfo i = .ok (mc, players (inverted mc rm.m), ranks) ∧
      ∀ r ∈ ranks, r < rm.rankToId.length := by
  obtain ⟨ranks, hr, _, hP⟩ := mapM_exists (f := rm.rankOf) (P := fun r => r < rm.rankToId.length)
    ((players (inverted mc rm.m)).map (addPlayer mc)) (by
      intro x hx
      rw [List.mem_map] at hx
      obtain ⟨j, hj, rfl⟩ := hx
      rw [mem_players_inverted] at hj
      obtain ⟨r, hr, hrx⟩ := List.getElem_of_mem (hs.child i mc hi hmc j hj.1 hj.2)
      exact ⟨r, hrx ▸ hs.rank_id r hr, hr⟩)
  refine ⟨ranks, ?_, hP⟩
  unfold RM.nodeInfo
  simp only [getIdx_of_getElem? hmc, ok_bind, hr]
  rfl

theorem usedRanks_ok {rm : RM α} (hs : Struct rm) {used : List (List Nat)}
    (hused : ∀ x ∈ used, ∃ id, rm.getMetacoalitionId x = .ok id ∧ id ∈ rm.rankToId) :
    ∃ ranks, used.mapM (fun x => do let id ← rm.getMetacoalitionId x; rm.rankOf id) = .ok ranks ∧
      ranks.length = used.length ∧ ∀ r ∈ ranks, r < rm.rankToId.length := by
  refine mapM_exists used fun x hx => ?_
  obtain ⟨id, hid, hmem⟩ := hused x hx
  obtain ⟨r, hr, hrx⟩ := List.getElem_of_mem hmem
  refine ⟨r, ?_, hr⟩
  show (rm.getMetacoalitionId x >>= fun id => rm.rankOf id) = _
  rw [hid, ok_bind, ← hrx]; exact hs.rank_id r hr

end struct

/-! ### the two passes -/

section rows
variable {α : Type} [Field α] [LinearOrder α]

/-- the shape the q-value table and the cumulative-strategy table share -/
structure NodeRows (rm : RM α) (t : List (List α)) : Prop where
  len : t.length = rm.R
  row : ∀ r ∈ t, r.length = rm.m ∧ ∀ x ∈ r, 0 ≤ x
  used : ∀ (i mc : Nat) (r : List α), rm.rankToId[i]? = some mc → t[i]? = some r →
    ∀ a ∈ players mc, r[a]? = some 0

theorem NodeRows.zero {rm : RM α} (hs : Struct rm) : NodeRows rm (zeros2 rm.R rm.m) := by
  refine ⟨List.length_replicate, fun r hr => ?_, fun i mc r hmc hr a ha => ?_⟩
  · rw [mem_zeros2 hr]
    exact ⟨List.length_replicate, fun x hx => (mem_zeros hx).ge⟩
  · obtain ⟨hi, rfl⟩ := List.getElem?_eq_some_iff.mp hr
    rw [mem_zeros2 (List.getElem_mem hi)]
    exact zeros_getElem? (hs.used_lt i mc (by simpa [zeros2] using hi) hmc a ha)

theorem NodeRows.set {rm : RM α} {t : List (List α)} (h : NodeRows rm t) {i mc : Nat} {r : List α}
    (hmc : rm.rankToId[i]? = some mc) (hl : r.length = rm.m) (hnn : ∀ x ∈ r, 0 ≤ x)
    (h0 : ∀ a ∈ players mc, r[a]? = some 0) : NodeRows rm (t.set i r) := by
  refine ⟨(List.length_set ..).trans h.len, fun r' hr' => ?_, fun j mc' r' hmc' hr' => ?_⟩
  · rcases List.mem_or_eq_of_mem_set hr' with hr' | rfl
    · exact h.row r' hr'
    · exact ⟨hl, hnn⟩
  · by_cases hij : i = j
    · subst hij
      have hlt : i < t.length := List.length_set (as := t) ▸ (List.getElem?_eq_some_iff.mp hr').1
      rw [List.getElem?_set_self hlt] at hr'
      rw [← Option.some.inj hr', ← Option.some.inj (hmc.symm.trans hmc')]
      exact h0
    · rw [List.getElem?_set_ne hij] at hr'
      exact h.used j mc' r' hmc' hr'

/-- loop invariant of the bottom-up pass; `done`: the ranks already processed -/
structure UpInv (rm : RM α) (done : List Nat) (st : Up α) : Prop where
  q : NodeRows rm st.q
  s : NodeRows rm st.strategy
  exp_len : st.exp.length = rm.rankToId.length
  exp_nn : ∀ x ∈ st.exp, 0 ≤ x
  exp_eq : ∀ i ∈ done, ∀ (mc : Nat) (σ row : List α), rm.rankToId[i]? = some mc → rm.regretMatching mc = .ok σ →
    st.q[i]? = some row → st.exp[i]? = some (listSum (List.zipWith (· * ·) row σ))

theorem UpInv.exp_eq_set {rm : RM α} {done : List Nat} {st : Up α} (hI : UpInv rm done st) {i mc : Nat}
    {σ qrow : List α} (hmc : rm.rankToId[i]? = some mc) (hσ : rm.regretMatching mc = .ok σ)
    (hiq : i < st.q.length) (hie : i < st.exp.length) :
    ∀ j ∈ i :: done, ∀ (mc' : Nat) (σ' row : List α), rm.rankToId[j]? = some mc' → rm.regretMatching mc' = .ok σ' →
      (st.q.set i qrow)[j]? = some row →
      (st.exp.set i (listSum (List.zipWith (· * ·) qrow σ)))[j]? = some (listSum (List.zipWith (· * ·) row σ')) := by
  intro j hj mc' σ' row hmc' hσ' hrow
  by_cases hij : i = j
  · subst hij
    rw [List.getElem?_set_self hiq] at hrow
    rw [← Option.some.inj (hmc.symm.trans hmc')] at hσ'
    rw [List.getElem?_set_self hie, ← Option.some.inj hrow, ← Except.ok.inj (hσ.symm.trans hσ')]
  · rw [List.getElem?_set_ne hij] at hrow ⊢
    exact hI.exp_eq j ((List.mem_cons.mp hj).resolve_left (Ne.symm hij)) mc' σ' row hmc' hσ' hrow

end rows

section passes
variable {α : Type} [Field α] [LinearOrder α] [IsStrictOrderedRing α]

def Strat (rm : RM α) : Prop :=
  ∀ i mc, i < rm.R → rm.rankToId[i]? = some mc →
    ∃ σ, rm.regretMatching mc = .ok σ ∧ σ.length = rm.m ∧ (∀ x ∈ σ, 0 ≤ x) ∧ σ.sum = 1 ∧
      ∀ a ∈ players mc, σ[a]? = some 0

/-- length `V` and entries ≥ 0 is all the invariants need of `node_reach_probability`; that the entries are
    probabilities is not shown -/
theorem topDownStep_ok {rm : RM α} (hs : Struct rm) (hst : Strat rm) {reach : List α}
    (hlen : reach.length = rm.rankToId.length) (hnn : ∀ x ∈ reach, 0 ≤ x) {i : Nat} (hi : i < rm.R) :
    ∃ reach', rm.topDownStep reach i = .ok reach' ∧ reach'.length = rm.rankToId.length ∧
      ∀ x ∈ reach', 0 ≤ x := by
  have hiV : i < rm.rankToId.length := lt_of_lt_of_le hi hs.R_le_V
  obtain ⟨mc, hmc⟩ : ∃ mc, rm.rankToId[i]? = some mc := ⟨_, List.getElem?_eq_getElem hiV⟩
  obtain ⟨ranks, hnode, hrlt⟩ := nodeInfo_ok hs hi hmc
  obtain ⟨σ, hσ, hσl, hσnn, _, _⟩ := hst i mc hi hmc
  obtain ⟨sel, hsel, hselnn⟩ := mapM_getIdx (P := fun x => (0 : α) ≤ x) hσnn
    (idx := players (inverted mc rm.m)) (by
      intro j hj; rw [hσl]; exact (mem_players_inverted.mp hj).1)
  have hiR : i < reach.length := by rw [hlen]; exact hiV
  have hri : 0 ≤ reach[i] := hnn _ (List.getElem_mem _)
  obtain ⟨old, hold, holdnn⟩ := mapM_getIdx (P := fun x => (0 : α) ≤ x) hnn (idx := ranks)
    (by rw [hlen]; exact hrlt)
  obtain ⟨reach', hok, hl', hP, _⟩ := assignMany_spec (a := reach) (idx := ranks)
    (vals := List.zipWith (fun o s => o + reach[i] * s) old sel) (by rw [hlen]; exact hrlt)
  refine ⟨reach', ?_, by rw [hl', hlen], ?_⟩
  · unfold RM.topDownStep
    rw [hnode, ok_bind]
    simp only []  -- reduces the `match` on the triple `nodeInfo` returned
    rw [hσ, ok_bind, hsel, ok_bind, getIdx_ok hiR, ok_bind, hold, ok_bind]
    exact hok
  · refine hP (fun x => 0 ≤ x) hnn ?_
    exact zipWith_forall (Q := fun x => (0 : α) ≤ x) (S := fun x => (0 : α) ≤ x)
      (fun o s ho hs' => add_nonneg ho (mul_nonneg hri hs')) old sel holdnn hselnn

theorem topDown_ok {rm : RM α} (hs : Struct rm) (hst : Strat rm) {reach0 : List α}
    (hlen : reach0.length = rm.rankToId.length) (hnn : ∀ x ∈ reach0, 0 ≤ x) :
    ∃ reach, (List.range rm.R).foldlM rm.topDownStep reach0 = .ok reach ∧
      reach.length = rm.rankToId.length ∧ ∀ x ∈ reach, 0 ≤ x :=
  foldlM_inv_done (f := rm.topDownStep)
    (I := fun _ (r : List α) => r.length = rm.rankToId.length ∧ ∀ x ∈ r, 0 ≤ x)
    (List.range rm.R) [] reach0 ⟨hlen, hnn⟩
    (fun _ _ _ hi hPs => topDownStep_ok hs hst hPs.1 hPs.2 (List.mem_range.mp hi))

/-- Row `i` of `q` is assigned exactly at the unrevealed player ids of the node, so its zeros on the revealed ones
    survive; the strategy row gets a multiple of `σ`, which is 0 there too; `exp[i]` is written in the same step as
    `q[i]`, as `⟨q[i], σ⟩`, and later steps touch neither entry. -/
theorem bottomUpStep_ok {rm : RM α} (hs : Struct rm) (hst : Strat rm) {weight : α} (hw : 0 ≤ weight)
    {reach : List α} (hrl : reach.length = rm.rankToId.length) (hrn : ∀ x ∈ reach, 0 ≤ x)
    {done : List Nat} {st : Up α} (hI : UpInv rm done st) {i : Nat} (hi : i < rm.R) :
    ∃ st', rm.bottomUpStep weight reach st i = .ok st' ∧ UpInv rm (i :: done) st' := by
  have hiV : i < rm.rankToId.length := lt_of_lt_of_le hi hs.R_le_V
  obtain ⟨mc, hmc⟩ : ∃ mc, rm.rankToId[i]? = some mc := ⟨_, List.getElem?_eq_getElem hiV⟩
  obtain ⟨ranks, hnode, hrlt⟩ := nodeInfo_ok hs hi hmc
  obtain ⟨σ, hσ, hσl, hσnn, _, hσ0⟩ := hst i mc hi hmc
  have hpid : ∀ j ∈ players (inverted mc rm.m), j < rm.m ∧ j ∉ players mc :=
    fun j hj => mem_players_inverted.mp hj
  obtain ⟨vals, hvals, hvnn⟩ := mapM_getIdx (P := fun x => (0 : α) ≤ x) hI.exp_nn (idx := ranks)
    (by rw [hI.exp_len]; exact hrlt)
  have hiq : i < st.q.length := by rw [hI.q.len]; exact hi
  have hq0 := hI.q.row _ (List.getElem_mem hiq)
  obtain ⟨qrow, hqrow, hql, hqP, hqk⟩ := assignMany_spec (a := st.q[i])
    (idx := players (inverted mc rm.m)) (vals := vals) (by
      intro j hj; rw [hq0.1]; exact (hpid j hj).1)
  have hqnn : ∀ x ∈ qrow, 0 ≤ x := hqP (fun x => 0 ≤ x) hq0.2 hvnn
  have hie : i < st.exp.length := by rw [hI.exp_len]; exact hiV
  have hir : i < reach.length := by rw [hrl]; exact hiV
  have hri : 0 ≤ reach[i] := hrn _ (List.getElem_mem _)
  have his : i < st.strategy.length := by rw [hI.s.len]; exact hi
  have hs0 := hI.s.row _ (List.getElem_mem his)
  refine ⟨{ q := st.q.set i qrow, exp := st.exp.set i (listSum (List.zipWith (· * ·) qrow σ)),
            strategy := st.strategy.set i
              (List.zipWith (fun s x => s + weight * x * reach[i]) st.strategy[i] σ) }, ?run,
    { q := hI.q.set hmc (hql.trans hq0.1) hqnn ?q_used
      s := hI.s.set hmc ?s_len ?s_nn ?s_used
      exp_len := (List.length_set ..).trans hI.exp_len
      exp_nn := ?exp_nn
      exp_eq := hI.exp_eq_set hmc hσ hiq hie }⟩
  case run =>
    unfold RM.bottomUpStep
    rw [hnode, ok_bind]
    simp only []  -- reduces the `match` on the triple `nodeInfo` returned
    rw [hvals, ok_bind, getIdx_ok hiq, ok_bind, hqrow, ok_bind, hσ, ok_bind, setIdx_ok _ hie, ok_bind,
      getIdx_ok hir, ok_bind, getIdx_ok his, ok_bind, setIdx_ok _ his, ok_bind, setIdx_ok _ hiq, ok_bind]
    rfl
  case q_used =>
    intro a ha
    rw [hqk a (fun hmem => (hpid a hmem).2 ha)]
    exact hI.q.used i mc _ hmc (List.getElem?_eq_getElem hiq) a ha
  case s_len => rw [List.length_zipWith, hs0.1, hσl, Nat.min_self]
  case s_nn =>
    exact zipWith_forall (Q := fun x => (0 : α) ≤ x) (S := fun x => (0 : α) ≤ x)
      (fun s x hs' hx => add_nonneg hs' (mul_nonneg (mul_nonneg hw hx) hri)) _ _ hs0.2 hσnn
  case s_used =>
    intro a ha
    rw [List.getElem?_zipWith, hI.s.used i mc _ hmc (List.getElem?_eq_getElem his) a ha, hσ0 a ha]
    simp
  case exp_nn =>
    intro x hx
    rcases List.mem_or_eq_of_mem_set hx with h | rfl
    · exact hI.exp_nn x h
    · rw [listSum_eq_sum]; exact dot_nonneg qrow σ hqnn hσnn

theorem bottomUp_ok {rm : RM α} (hs : Struct rm) (hst : Strat rm) {weight : α} (hw : 0 ≤ weight)
    {reach : List α} (hrl : reach.length = rm.rankToId.length) (hrn : ∀ x ∈ reach, 0 ≤ x)
    {st : Up α} (hI : UpInv rm [] st) :
    ∃ up, (List.range rm.R).reverse.foldlM (rm.bottomUpStep weight reach) st = .ok up ∧
      UpInv rm (List.range rm.R) up := by
  obtain ⟨up, h, hI'⟩ := foldlM_inv_done (f := rm.bottomUpStep weight reach) (I := UpInv rm)
    (List.range rm.R).reverse [] st hI (by
      intro done s i hi hIs
      rw [List.mem_reverse, List.mem_range] at hi
      exact bottomUpStep_ok hs hst hw hrl hrn hIs hi)
  refine ⟨up, h, ?_⟩
  simpa using hI'

end passes

end ICG.Regret

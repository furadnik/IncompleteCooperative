/-
  ICG.Lemmas.Rounding — one rounded operation and its error bound, free of the game model; shared by the float-error
  developments (absolute error `δ`: ICG.Approx, ICG.ApproxShapley, ICG.ApproxNorms; relative error `u`:
  ICG.ApproxNormalize).  In `rel_step`, `r` is the rounded result, `s'` the exact result at the operands the operation
  was given, `s` the exact result at the operands it should have been given; the last lemmas bound the error of the
  rounding functions the examples use.
-/
import Mathlib.Algebra.Order.Field.Basic
import Mathlib.Algebra.Order.Ring.Abs
import Mathlib.Tactic.Linarith
import Mathlib.Tactic.LinearCombination

namespace ICG.Rounding

variable {α : Type} [Field α] [LinearOrder α] [IsStrictOrderedRing α]

theorem delta_nonneg {add' : α → α → α} {δ : α} (hadd : ∀ a b, |add' a b - (a + b)| ≤ δ) : 0 ≤ δ :=
  le_trans (abs_nonneg _) (hadd 0 0)

theorem abs_add_error {r a' b' a b δ ea eb : α} (h : |r - (a' + b')| ≤ δ) (ha : |a' - a| ≤ ea)
    (hb : |b' - b| ≤ eb) : |r - (a + b)| ≤ ea + eb + δ := by
  have h1 := abs_sub_le r (a' + b') (a + b)
  have h2 := abs_add_le (a' - a) (b' - b)
  rw [← add_sub_add_comm] at h2
  linarith only [h, ha, hb, h1, h2]

theorem abs_sub_error {r a' b' a b δ ea eb : α} (h : |r - (a' - b')| ≤ δ) (ha : |a' - a| ≤ ea)
    (hb : |b' - b| ≤ eb) : |r - (a - b)| ≤ ea + eb + δ := by
  have h1 := abs_sub_le r (a' - b') (a - b)
  have h2 := abs_sub (a' - a) (b' - b)
  rw [← sub_sub_sub_comm] at h2
  linarith only [h, ha, hb, h1, h2]

/-- how the case of exact operations is read off an error theorem -/
theorem eq_of_abs_sub_le_zero {a b : α} (h : |a - b| ≤ 0) : a = b :=
  sub_eq_zero.mp (abs_nonpos_iff.mp h)

theorem relative_to_absolute {u M r s : α} (hu : 0 ≤ u) (hrel : |r - s| ≤ u * |s|) (hM : |s| ≤ M) :
    |r - s| ≤ u * M :=
  le_trans hrel (mul_le_mul_of_nonneg_left hM hu)

/-- the rounding is relative to `|s'| ≤ |s| + |s' − s|` -/
theorem rel_step {r s' s u : α} (hu : 0 ≤ u) (h : |r - s'| ≤ u * |s'|) :
    |r - s| ≤ u * |s| + (1 + u) * |s' - s| := by
  have h1 := abs_sub_le r s' s
  have h2 := abs_add_le s (s' - s)
  rw [add_sub_cancel] at h2
  have h3 := mul_le_mul_of_nonneg_left h2 hu
  linarith only [h, h1, h3]

theorem abs_sub_self_le_zero_mul (x : α) : |x - x| ≤ 0 * |x| := by
  rw [sub_self, abs_zero, zero_mul]

theorem eq_zero_of_rel {r s u : α} (h : |r - s| ≤ u * |s|) (hs : s = 0) : r = 0 := by
  subst hs
  rw [abs_zero, mul_zero, sub_zero] at h
  exact abs_nonpos_iff.mp h

/-! ### the rounding functions of the examples: a result moved by `d`, or scaled by `1 ± u` -/

theorem abs_add_sub_self_le {d : α} (hd : 0 ≤ d) (x : α) : |x + d - x| ≤ d := by
  rw [add_sub_cancel_left, abs_of_nonneg hd]

theorem abs_sub_sub_self_le {d : α} (hd : 0 ≤ d) (x : α) : |x - d - x| ≤ d := by
  rw [sub_sub_cancel_left, abs_neg, abs_of_nonneg hd]

theorem abs_mul_one_add_sub_self_le {u : α} (hu : 0 ≤ u) (x : α) : |x * (1 + u) - x| ≤ u * |x| := by
  rw [mul_add, mul_one, add_sub_cancel_left, mul_comm, abs_mul, abs_of_nonneg hu]

theorem abs_mul_one_sub_sub_self_le {u : α} (hu : 0 ≤ u) (x : α) : |x * (1 - u) - x| ≤ u * |x| := by
  rw [mul_sub, mul_one, sub_sub_cancel_left, abs_neg, mul_comm, abs_mul, abs_of_nonneg hu]

end ICG.Rounding

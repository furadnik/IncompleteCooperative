/-
  ICG.Lemmas.EnvBasic — unfolding lemmas for ICG.Model.Env (core Lean only): Python indexing, the table
  `set_known_values` produces, what `step` / `unstep` / `reset` / the constructor compute when they succeed, when they
  fail and what they leave behind; `sortedIds` keeps exactly the members of its list.  Defines `ICG.Search.exactTable`
  (the table that knows ∅ and the coalitions selected by a predicate, each with its hidden value), which Lemmas/Search
  and Lemmas/ComposeSearch use.
-/
import ICG.Model.Env
namespace ICG.Env
open ICG Table

variable {α : Type}

/-! ### Python list indexing -/

theorem pyIndex_nat {β} (l : List β) (a : Nat) :
    pyIndex l (a : Int) = match l[a]? with | some x => .ok x | none => .error .index := by
  have h1 : ¬ ((a : Int) < 0) := by omega
  unfold pyIndex
  simp only [h1, if_false, Int.toNat_natCast]
  cases l[a]? <;> rfl

theorem pyIndex_nat_some {β} {l : List β} {a : Nat} {x : β} (h : l[a]? = some x) :
    pyIndex l (a : Int) = .ok x := by rw [pyIndex_nat, h]

theorem pyIndex_nat_none {β} {l : List β} {a : Nat} (h : l.length ≤ a) :
    pyIndex l (a : Int) = .error .index := by
  rw [pyIndex_nat, List.getElem?_eq_none h]

/-- outside `-len ≤ a < len` Python raises IndexError -/
theorem pyIndex_out_of_range {β} (l : List β) (a : Int) (h : a < -(l.length : Int) ∨ (l.length : Int) ≤ a) :
    pyIndex l a = .error .index := by
  unfold pyIndex
  by_cases h0 : a < 0
  · simp only [h0, if_true]
    rcases h with h | h
    · have : a + (l.length : Int) < 0 := by omega
      simp [this]
    · omega
  · simp only [h0, if_false]
    rcases h with h | h
    · omega
    · have hl : l.length ≤ a.toNat := by omega
      simp [List.getElem?_eq_none hl]

/-! ### `sortedIds` -/

theorem le_foldl_max_nat (l : List Nat) (a : Nat) : a ≤ l.foldl max a := by
  induction l generalizing a with
  | nil => exact Nat.le_refl _
  | cons y l ih => exact Nat.le_trans (Nat.le_max_left a y) (ih (max a y))

theorem mem_le_foldl_max_nat (l : List Nat) (a x : Nat) (hx : x ∈ l) : x ≤ l.foldl max a := by
  induction l generalizing a with
  | nil => cases hx
  | cons y l ih =>
    simp only [List.foldl]
    rcases List.mem_cons.mp hx with rfl | h
    · exact Nat.le_trans (Nat.le_max_right a x) (le_foldl_max_nat l _)
    · exact ih _ h

theorem mem_sortedIds (l : List Nat) (c : Nat) : c ∈ sortedIds l ↔ c ∈ l := by
  simp only [sortedIds, List.mem_filter, List.mem_range, List.contains_iff_mem]
  constructor
  · exact fun h => h.2
  · intro h
    exact ⟨Nat.lt_succ_of_le (mem_le_foldl_max_nat l 0 c h), h⟩

theorem nodup_sortedIds (l : List Nat) : (sortedIds l).Nodup :=
  List.Nodup.sublist List.filter_sublist List.nodup_range

/-! ### the table after `set_known_values(values of ik, ik)` -/

section tables

/-- writing `v c` at every listed id (duplicates are harmless: all writes of one row carry the same value) -/
theorem foldl_putValue (v : Nat → α) : ∀ (ids : List Nat) (t : Table α),
    ((ids.zip (ids.map v)).foldl (fun t (p : Nat × α) => t.putValue p.1 p.2) t) =
      { n := t.n, known := fun c => ids.contains c || t.known c,
        lo := fun c => if ids.contains c then v c else t.lo c,
        hi := fun c => if ids.contains c then v c else t.hi c } := by
  intro ids
  induction ids with
  | nil => intro t; simp
  | cons a ids ih =>
    intro t
    rw [List.map_cons, List.zip_cons_cons, List.foldl_cons, ih]
    simp only [putValue]
    congr 1 <;> funext c <;> by_cases h1 : c = a <;> simp [h1]

variable [Zero α]

/-- the table that knows exactly ∅ (value 0 unless listed) and the coalitions selected by `K`, each with
    its hidden value -/
def _root_.ICG.Search.exactTable (n : Nat) (v : Nat → α) (K : Nat → Bool) : Table α :=
  { n := n, known := fun c => c == 0 || K c,
    lo := fun c => if K c then v c else 0, hi := fun c => if K c then v c else 0 }

theorem _root_.ICG.Search.exactTable_known {n : Nat} {v : Nat → α} {K : Nat → Bool} (h0 : K 0 = true) :
    (Search.exactTable n v K).known = K := by
  funext c
  by_cases hc : c = 0
  · subst hc; simp [Search.exactTable, h0]
  · simp [Search.exactTable, hc]

/-- `set_known_values(full.get_values(ids), ids)`: whatever the table held before, afterwards it is the
    `exactTable` of the listed coalitions -/
theorem setKnownValues_ids (t : Table α) (v : Nat → α) (ids : List Nat) (h : ∀ c ∈ ids, c < 2 ^ t.n) :
    t.setKnownValues (ids.map v) (some ids) = .ok (Search.exactTable t.n v (fun c => ids.contains c)) := by
  have hall : (ids.all fun x => decide (x < (Table.init (α := α) t.n).rows)) = true :=
    List.all_eq_true.mpr (fun x hx => decide_eq_true (h x hx))
  simp only [setKnownValues, setValues, fromiter, List.length_map, Nat.lt_irrefl, ↓reduceIte, List.take_length,
    bind, Except.bind, hall, foldl_putValue, Search.exactTable]
  congr 2
  funext c
  exact Bool.or_comm _ _

end tables

/-! ### `reveal_value` / `unreveal_value` -/

theorem reveal_inv {t t1 : Table α} {v : α} {c : Nat} (h : t.reveal v c = .ok t1) :
    c < 2 ^ t.n ∧ t.known c = false ∧ t1 = t.putValue c v := by
  unfold Table.reveal Table.rows at h
  by_cases hlt : c < 2 ^ t.n
  · rw [if_pos hlt] at h
    cases hk : t.known c with
    | true => rw [hk, if_pos rfl] at h; cases h
    | false => rw [hk, if_neg Bool.false_ne_true] at h; cases h; exact ⟨hlt, rfl, rfl⟩
  · rw [if_neg hlt] at h; cases h

theorem unreveal_inv [Zero α] {t t1 : Table α} {c : Nat} (h : t.unreveal c = .ok t1) :
    c < 2 ^ t.n ∧ t.known c = true ∧ t1 = t.clearRow c := by
  unfold Table.unreveal Table.rows at h
  by_cases hlt : c < 2 ^ t.n
  · rw [if_pos hlt] at h
    cases hk : t.known c with
    | true => rw [hk, if_pos rfl] at h; cases h; exact ⟨hlt, rfl, rfl⟩
    | false => rw [hk, if_neg Bool.false_ne_true] at h; cases h
  · rw [if_neg hlt] at h; cases h

/-! ### `step` / `unstep`: the successful path and the failing ones -/

theorem reward_ok [Neg α] (gap : Table α → Except Err α) {e : Env α} {g : α} (hg : gap e.table = .ok g) :
    e.reward gap = .ok (-g) := by
  simp only [reward, hg]

section core
variable [Zero α] [Neg α] [Sub α] [DecidableEq α]
variable (compute : Table α → Except Err (Table α)) (gap : Table α → Except Err α)

/-- the environment after a successful `step` whose recomputed table is `t2` -/
def stepped (e : Env α) (t2 : Table α) : Env α := { e with table := t2, steps := e.steps + 1 }
/-- the environment after a successful `unstep` whose recomputed table is `t2` -/
def unstepped (e : Env α) (t2 : Table α) : Env α := { e with table := t2, steps := e.steps - 1 }

/-- what a successful call returns: observation and done flag of `e`, reward `r`, coalition `c` -/
def outOf (e : Env α) (r : α) (c : Nat) : StepOut α := { obs := e.state, reward := r, done := e.done, chosen := c }

theorem observe_ok {e : Env α} {c : Nat} {g : α} (hg : gap e.table = .ok g) :
    observe gap e c = .ok (e, outOf e (-g) c) := by
  simp only [observe, reward_ok gap hg, outOf]

theorem observe_inv {e e' : Env α} {c : Nat} {out : StepOut α} (h : observe gap e c = .ok (e', out)) :
    ∃ g, gap e.table = .ok g ∧ e' = e ∧ out = outOf e (-g) c := by
  unfold observe reward at h
  cases hg : gap e.table with
  | error err => simp [hg] at h
  | ok g =>
    simp only [hg, Except.ok.injEq, Prod.mk.injEq] at h
    exact ⟨g, rfl, h.1.symm, h.2.symm⟩

/-- the tail shared by `step` and `unstep` once the table is written -/
theorem recompute_inv {e e' : Env α} {t1 : Table α} {st : Int} {c : Nat} {out : StepOut α}
    (h : (match compute t1 with
      | .error err => (.error (err, { e with table := t1 }) : Except (Err × Env α) (Env α × StepOut α))
      | .ok t2 => observe gap { e with table := t2, steps := st } c) = .ok (e', out)) :
    ∃ t2 g, compute t1 = .ok t2 ∧ gap t2 = .ok g ∧ e' = { e with table := t2, steps := st } ∧
      out = outOf { e with table := t2, steps := st } (-g) c := by
  cases hcomp : compute t1 with
  | error err => rw [hcomp] at h; cases h
  | ok t2 =>
    rw [hcomp] at h
    obtain ⟨g, hg, he, ho⟩ := observe_inv gap h
    exact ⟨t2, g, rfl, hg, he, ho⟩

theorem step_ok {e : Env α} {a c : Nat} {t2 : Table α} {g : α}
    (hc : e.explorable[a]? = some c) (hlt : c < 2 ^ e.table.n) (hk : e.table.known c = false)
    (hcomp : compute (e.table.putValue c (e.full c)) = .ok t2) (hg : gap t2 = .ok g) :
    step compute gap e a = .ok (stepped e t2, outOf (stepped e t2) (-g) c) := by
  have hg' : gap (stepped e t2).table = .ok g := hg
  simp only [step, pyIndex_nat_some hc, Table.reveal, Table.rows, hlt, if_true, hk, Bool.false_eq_true, if_false,
    hcomp]
  exact observe_ok gap hg'

theorem step_inv {e e' : Env α} {a : Nat} {out : StepOut α}
    (h : step compute gap e a = .ok (e', out)) :
    ∃ c t2 g, e.explorable[a]? = some c ∧ c < 2 ^ e.table.n ∧ e.table.known c = false ∧
      compute (e.table.putValue c (e.full c)) = .ok t2 ∧ gap t2 = .ok g ∧
      e' = stepped e t2 ∧ out = outOf (stepped e t2) (-g) c := by
  unfold step at h
  rw [pyIndex_nat] at h
  cases hc : e.explorable[a]? with
  | none => rw [hc] at h; cases h
  | some c =>
    rw [hc] at h
    dsimp only at h
    cases hr : e.table.reveal (e.full c) c with
    | error err => rw [hr] at h; cases h
    | ok t1 =>
      rw [hr] at h
      obtain ⟨hlt, hk, rfl⟩ := reveal_inv hr
      obtain ⟨t2, g, hcomp, hg, he, ho⟩ := recompute_inv compute gap h
      exact ⟨c, t2, g, rfl, hlt, hk, hcomp, hg, he, ho⟩

theorem unstep_ok {e : Env α} {a c : Nat} {t2 : Table α} {g : α}
    (hc : e.explorable[a]? = some c) (hlt : c < 2 ^ e.table.n) (hk : e.table.known c = true)
    (hcomp : compute (e.table.clearRow c) = .ok t2) (hg : gap t2 = .ok g) :
    unstep compute gap e a = .ok (unstepped e t2, outOf (unstepped e t2) (-g) c) := by
  have hg' : gap (unstepped e t2).table = .ok g := hg
  simp only [unstep, pyIndex_nat_some hc, Table.unreveal, Table.rows, hlt, if_true, hk, hcomp]
  exact observe_ok gap hg'

theorem unstep_inv {e e' : Env α} {a : Nat} {out : StepOut α}
    (h : unstep compute gap e a = .ok (e', out)) :
    ∃ c t2 g, e.explorable[a]? = some c ∧ c < 2 ^ e.table.n ∧ e.table.known c = true ∧
      compute (e.table.clearRow c) = .ok t2 ∧ gap t2 = .ok g ∧
      e' = unstepped e t2 ∧ out = outOf (unstepped e t2) (-g) c := by
  unfold unstep at h
  rw [pyIndex_nat] at h
  cases hc : e.explorable[a]? with
  | none => rw [hc] at h; cases h
  | some c =>
    rw [hc] at h
    dsimp only at h
    cases hr : e.table.unreveal c with
    | error err => rw [hr] at h; cases h
    | ok t1 =>
      rw [hr] at h
      obtain ⟨hlt, hk, rfl⟩ := unreveal_inv hr
      obtain ⟨t2, g, hcomp, hg, he, ho⟩ := recompute_inv compute gap h
      exact ⟨c, t2, g, rfl, hlt, hk, hcomp, hg, he, ho⟩

/-- an action index outside `-len ≤ a < len`: IndexError, nothing changed -/
theorem step_index_error (e : Env α) (a : Int)
    (h : a < -(e.explorable.length : Int) ∨ (e.explorable.length : Int) ≤ a) :
    step compute gap e a = .error (.index, e) ∧ unstep compute gap e a = .error (.index, e) := by
  simp [step, unstep, pyIndex_out_of_range _ a h]

/-- `reveal_value` asserts, nothing changed -/
theorem step_known_error {e : Env α} {a c : Nat} (hc : e.explorable[a]? = some c) (hlt : c < 2 ^ e.table.n)
    (hk : e.table.known c = true) : step compute gap e a = .error (.assert, e) := by
  simp [step, pyIndex_nat_some hc, Table.reveal, Table.rows, hlt, hk]

/-- `unreveal_value` asserts, nothing changed -/
theorem unstep_unknown_error {e : Env α} {a c : Nat} (hc : e.explorable[a]? = some c) (hlt : c < 2 ^ e.table.n)
    (hk : e.table.known c = false) : unstep compute gap e a = .error (.assert, e) := by
  simp [unstep, pyIndex_nat_some hc, Table.unreveal, Table.rows, hlt, hk]

/-- a `step` whose `compute_bounds` raises has already revealed the value and has not counted the step -/
theorem step_compute_error {e : Env α} {a c : Nat} {err : Err} (hc : e.explorable[a]? = some c)
    (hlt : c < 2 ^ e.table.n) (hk : e.table.known c = false)
    (hcomp : compute (e.table.putValue c (e.full c)) = .error err) :
    step compute gap e a = .error (err, { e with table := e.table.putValue c (e.full c) }) := by
  simp [step, pyIndex_nat_some hc, Table.reveal, Table.rows, hlt, hk, hcomp]

/-- a `step` whose gap function raises has revealed, recomputed and counted -/
theorem step_gap_error {e : Env α} {a c : Nat} {err : Err} {t2 : Table α} (hc : e.explorable[a]? = some c)
    (hlt : c < 2 ^ e.table.n) (hk : e.table.known c = false)
    (hcomp : compute (e.table.putValue c (e.full c)) = .ok t2) (hg : gap t2 = .error err) :
    step compute gap e a = .error (err, stepped e t2) := by
  simp [step, pyIndex_nat_some hc, Table.reveal, Table.rows, hlt, hk, hcomp, observe, reward, hg, stepped]

end core

/-! ### `reset` and the constructor -/

section reset
variable [Zero α] (compute : Table α → Except Err (Table α))

theorem reset_ok {e : Env α} {f g : Nat → α} {t2 : Table α} (hik : ∀ c ∈ e.initiallyKnown, c < 2 ^ e.table.n)
    (hcomp : compute (Search.exactTable e.table.n f (fun c => e.initiallyKnown.contains c)) = .ok t2) :
    reset compute e f g = .ok ({ e with full := f, norm := g, table := t2, steps := 0 },
      Env.state { e with full := f, norm := g, table := t2, steps := 0 }) := by
  have hall : (e.initiallyKnown.all fun x => decide (x < e.table.rows)) = true :=
    List.all_eq_true.mpr (fun x hx => decide_eq_true (hik x hx))
  simp only [reset, hall, if_true, setKnownValues_ids _ _ _ hik, hcomp]

theorem reset_inv {e e' : Env α} {f g : Nat → α} {obs : List α} (h : reset compute e f g = .ok (e', obs)) :
    (∀ c ∈ e.initiallyKnown, c < 2 ^ e.table.n) ∧
    ∃ t2, compute (Search.exactTable e.table.n f (fun c => e.initiallyKnown.contains c)) = .ok t2 ∧
      e' = { e with full := f, norm := g, table := t2, steps := 0 } ∧ obs = e'.state := by
  unfold reset at h
  cases hall : e.initiallyKnown.all fun x => decide (x < e.table.rows) with
  | false => simp [hall] at h
  | true =>
    have hik : ∀ c ∈ e.initiallyKnown, c < 2 ^ e.table.n := fun c hc =>
      of_decide_eq_true (List.all_eq_true.mp hall c hc)
    refine ⟨hik, ?_⟩
    simp only [hall, if_true, setKnownValues_ids _ _ _ hik] at h
    cases h2 : compute (Search.exactTable e.table.n f (fun c => e.initiallyKnown.contains c)) with
    | error x => rw [h2] at h; cases h
    | ok t2 => rw [h2] at h; cases h; exact ⟨t2, rfl, rfl, rfl⟩

theorem mkEnvWith_ok {t0 t2 : Table α} {ik : List Nat} {budget : Option Nat} {f g : Nat → α}
    (hik : ∀ c ∈ ik, c < 2 ^ t0.n)
    (hcomp : compute (Search.exactTable t0.n f (fun c => ik.contains c)) = .ok t2)
    (hne : (allCoalitions t0.n).filter (fun c => !ik.contains c) ≠ []) :
    mkEnvWith compute t0 ik budget f g =
      .ok ⟨f, g, t2, 0, budget, ik, (allCoalitions t0.n).filter (fun c => !ik.contains c)⟩ := by
  have hr := reset_ok compute (f := f) (g := g)
    (e := ⟨f, g, t0, 0, budget, ik, (allCoalitions t0.n).filter (fun c => !ik.contains c)⟩) hik hcomp
  have hl : ((allCoalitions t0.n).filter (fun c => !ik.contains c)).length ≠ 0 :=
    fun h0 => hne (List.length_eq_zero_iff.mp h0)
  simp only [mkEnvWith, hr, hl, if_false]

/-- `reset` with an initially known id outside the table: IndexError before the table is touched
    (the new hidden game is already in place) -/
theorem reset_index_error {e : Env α} {f g : Nat → α} (h : ∃ c ∈ e.initiallyKnown, 2 ^ e.table.n ≤ c) :
    reset compute e f g = .error (.index, { e with full := f, norm := g }) := by
  obtain ⟨c, hc, hge⟩ := h
  have hall : (e.initiallyKnown.all fun x => decide (x < e.table.rows)) = false := by
    rw [List.all_eq_false]
    exact ⟨c, hc, fun h => absurd (of_decide_eq_true h) (Nat.not_lt.mpr hge)⟩
  simp [reset, hall]

end reset
end ICG.Env

/-
  ICG.Lemmas.BitFacts — arithmetic bridges between bit-mask operations on `Nat` (core Lean only):
  `&&&` / `|||` / `^^^` / `-` on sub-masks and disjoint masks, `testBit` of `diff`, `inter`, `addPlayer`,
  `removePlayer`, `isSub_iff`, `grand_lt`, `fromPlayers_singleton`, and the relation code `relCode` with
  `relCode_eq_zero/one/two`.
-/
import ICG.Model.Bits
import ICG.Spec.Bounds

namespace ICG

theorem or_mod_two_of_disjoint {a b : Nat} (h : a &&& b = 0) : (a ||| b) % 2 = a % 2 + b % 2 := by
  rw [show (a ||| b) % 2 = a % 2 ||| b % 2 from Nat.or_mod_two_pow (n := 1)]
  rcases Nat.mod_two_eq_zero_or_one a with ha | ha
  · rw [ha, Nat.zero_or, Nat.zero_add]
  · rcases Nat.mod_two_eq_zero_or_one b with hb | hb
    · rw [hb, Nat.or_zero, Nat.add_zero]
    · have := Nat.and_mod_two_eq_one.mpr ⟨ha, hb⟩
      rw [h] at this; cases this

theorem add_eq_or_of_and_eq_zero : ∀ (a b : Nat), a &&& b = 0 → a + b = a ||| b := by
  intro a
  induction a using Nat.strongRecOn with
  | _ a ih =>
    intro b h
    by_cases ha : a = 0
    · subst ha; simp
    · have hd := ih (a / 2) (by omega) (b / 2) (by rw [← Nat.and_div_two, h])
      rw [← Nat.div_add_mod (a ||| b) 2, Nat.or_div_two, ← hd, or_mod_two_of_disjoint h]
      omega

theorem or_sub_left_of_disj {a b : Nat} (h : a &&& b = 0) : (a ||| b) - a = b := by
  have := add_eq_or_of_and_eq_zero a b h; omega

theorem sub_testBit {x c : Nat} (h : x &&& c = x) (i : Nat) (hx : x.testBit i = true) :
    c.testBit i = true := by
  have := congrArg (·.testBit i) h
  simp only [Nat.testBit_and] at this
  rw [hx] at this
  simpa using this

theorem sub_of_testBit {x c : Nat} (h : ∀ i, x.testBit i = true → c.testBit i = true) : x &&& c = x := by
  apply Nat.eq_of_testBit_eq; intro i
  simp only [Nat.testBit_and]
  cases hx : x.testBit i
  · simp
  · simp [h i hx]

theorem sub_le {x c : Nat} (h : x &&& c = x) : x ≤ c := by rw [← h]; exact Nat.and_le_right

theorem sub_lt_two_pow {x c n : Nat} (h : x &&& c = x) (hc : c < 2 ^ n) : x < 2 ^ n :=
  Nat.lt_of_le_of_lt (sub_le h) hc

theorem and_xor_self_of_sub {x c : Nat} (h : x &&& c = x) : x &&& (c ^^^ x) = 0 := by
  rw [Nat.and_xor_distrib_left, h, Nat.and_self, Nat.xor_self]

theorem or_xor_self_of_sub {x c : Nat} (h : x &&& c = x) : x ||| (c ^^^ x) = c := by
  apply Nat.eq_of_testBit_eq; intro i
  have := congrArg (·.testBit i) h
  simp at this ⊢
  cases hx : x.testBit i <;> cases hc : c.testBit i <;> simp_all

theorem sub_eq_xor_of_sub {x c : Nat} (h : x &&& c = x) : c - x = c ^^^ x := by
  have hadd := add_eq_or_of_and_eq_zero x (c ^^^ x) (and_xor_self_of_sub h)
  rw [or_xor_self_of_sub h] at hadd
  omega

theorem sub_or_self {x c : Nat} (h : x &&& c = x) : x ||| (c - x) = c ∧ x &&& (c - x) = 0 := by
  rw [sub_eq_xor_of_sub h]; exact ⟨or_xor_self_of_sub h, and_xor_self_of_sub h⟩

theorem and_or_self (a b : Nat) : a &&& (a ||| b) = a := by
  apply Nat.eq_of_testBit_eq; intro i
  rw [Nat.testBit_and, Nat.testBit_or]
  cases a.testBit i <;> rfl

theorem compl_sub {x c : Nat} (h : x &&& c = x) : (c - x) &&& c = c - x := by
  have := and_or_self (c - x) x
  rwa [Nat.or_comm, (sub_or_self h).1] at this

theorem sub_sub_self_of_sub {x c : Nat} (h : x &&& c = x) : c - (c - x) = x := by
  have := sub_le h; omega

/-- `Coalition.__sub__` (`diff a b = a & ~b`) on a sub-mask is subtraction -/
theorem diff_eq_sub_of_sub {x c : Nat} (h : x &&& c = x) : diff c x = c - x := by
  unfold diff
  have : c &&& x = x := by rw [Nat.and_comm]; exact h
  rw [this, sub_eq_xor_of_sub h]

theorem diff_testBit (a b i : Nat) : (diff a b).testBit i = (a.testBit i && !b.testBit i) := by
  unfold diff
  simp only [Nat.testBit_xor, Nat.testBit_and]
  cases a.testBit i <;> cases b.testBit i <;> rfl

theorem or_sub {a b c : Nat} (ha : a &&& c = a) (hb : b &&& c = b) : (a ||| b) &&& c = a ||| b := by
  apply sub_of_testBit; intro i hi
  simp only [Nat.testBit_or, Bool.or_eq_true] at hi
  rcases hi with h | h
  · exact sub_testBit ha i h
  · exact sub_testBit hb i h

theorem sub_trans {a b c : Nat} (hab : a &&& b = a) (hbc : b &&& c = b) : a &&& c = a :=
  sub_of_testBit fun i hi => sub_testBit hbc i (sub_testBit hab i hi)

theorem isSub_iff {x c : Nat} : isSub x c = true ↔ x &&& c = x := by simp [isSub]

theorem or_lt_two_pow {a b n : Nat} (ha : a < 2 ^ n) (hb : b < 2 ^ n) : a ||| b < 2 ^ n :=
  Nat.or_lt_two_pow ha hb

theorem grand_lt (n : Nat) : grand n < 2 ^ n := by
  unfold grand; have := Nat.two_pow_pos n; omega

/-! ### single bits and the operations of `Coalition` bit by bit -/

theorem lt_of_testBit {c n i : Nat} (hc : c < 2 ^ n) (h : c.testBit i = true) : i < n :=
  Nat.lt_of_not_le fun hni =>
    Bool.false_ne_true ((Nat.testBit_lt_two_pow
      (Nat.lt_of_lt_of_le hc (Nat.pow_le_pow_right (by decide) hni))).symm.trans h)

theorem sub_iff_testBit {x c : Nat} : x &&& c = x ↔ ∀ i, x.testBit i = true → c.testBit i = true :=
  ⟨fun h i hi => sub_testBit h i hi, sub_of_testBit⟩

theorem two_pow_sub_of_testBit {c i : Nat} (h : c.testBit i = true) : 2 ^ i &&& c = 2 ^ i := by
  apply sub_of_testBit
  intro j hj
  rw [Nat.testBit_two_pow] at hj
  have : i = j := by simpa using hj
  subst this; exact h

theorem testBit_disjoint {a b i : Nat} (h : a &&& b = 0) : ¬ (a.testBit i = true ∧ b.testBit i = true) := by
  intro ⟨ha, hb⟩
  have := congrArg (·.testBit i) h
  simp [ha, hb] at this

theorem inter_testBit (a b i : Nat) : (inter a b).testBit i = (a.testBit i && b.testBit i) :=
  Nat.testBit_and a b i

theorem addPlayer_testBit (a p i : Nat) : (addPlayer a p).testBit i = (a.testBit i || decide (p = i)) := by
  unfold addPlayer
  rw [Nat.testBit_or, Nat.testBit_two_pow]

theorem removePlayer_testBit (a p i : Nat) :
    (removePlayer a p).testBit i = (a.testBit i && !decide (p = i)) := by
  unfold removePlayer
  rw [diff_testBit, Nat.testBit_two_pow]

theorem fromPlayers_singleton (i : Nat) : fromPlayers [i] = 2 ^ i := by
  simp [fromPlayers, List.eraseDups, List.eraseDupsBy, List.eraseDupsBy.loop]

theorem compl_proper {x c : Nat} (hx : x &&& c = x) (h0 : x ≠ 0) (hxc : x ≠ c) :
    (c - x) &&& c = c - x ∧ c - x ≠ 0 ∧ c - x ≠ c := by
  have := sub_le hx
  exact ⟨compl_sub hx, by omega, by omega⟩

theorem xor_eq_sub_of_sup {c T : Nat} (h : c &&& T = c) : c ^^^ T = T - c := by
  rw [Nat.xor_comm]; exact (sub_eq_xor_of_sub h).symm

theorem sub_two_pow {d i : Nat} (h : d &&& 2 ^ i = d) : d = 0 ∨ d = 2 ^ i := by
  by_cases h0 : d = 0
  · exact Or.inl h0
  · right
    obtain ⟨j, hj⟩ := Nat.exists_testBit_of_ne_zero h0
    have := sub_testBit h j hj
    rw [Nat.testBit_two_pow] at this
    have hij : i = j := by simpa using this
    subst hij
    have h1 := Nat.ge_two_pow_of_testBit hj
    have h2 := sub_le h
    omega

theorem sup_or_left {c a b : Nat} (h : c &&& a = c) : c &&& (a ||| b) = c :=
  sub_trans h (and_or_self a b)

theorem disj_of_sub_of_disj {p q x y : Nat} (hp : p &&& x = p) (hq : q &&& y = q) (hxy : x &&& y = 0) :
    p &&& q = 0 := by
  rw [← hp, ← hq, Nat.and_assoc, ← Nat.and_assoc x, Nat.and_comm x q, Nat.and_assoc q, hxy,
    Nat.and_zero, Nat.and_zero]

theorem not_sup_of_disj {c a b : Nat} (hc : c ≠ 0) (h : c &&& a = c) (hab : a &&& b = 0) : ¬ c &&& b = c :=
  fun hb => hc (by have := disj_of_sub_of_disj h hb hab; rwa [Nat.and_self] at this)

theorem sub_or_disj {c a b : Nat} (h : c &&& a = c) (hab : a &&& b = 0) :
    (a - c) &&& b = 0 ∧ (a - c) ||| b = (a ||| b) - c := by
  have h1 := disj_of_sub_of_disj (compl_sub h) (Nat.and_self b) hab
  refine ⟨h1, ?_⟩
  rw [← add_eq_or_of_and_eq_zero _ _ h1, ← add_eq_or_of_and_eq_zero _ _ hab]
  have := sub_le h
  omega

theorem exists_singleton_sub {n c : Nat} (hc : c < 2 ^ n) (h0 : c ≠ 0) :
    ∃ i, i < n ∧ 2 ^ i &&& c = 2 ^ i :=
  let ⟨i, hi⟩ := Nat.exists_testBit_of_ne_zero h0
  ⟨i, lt_of_testBit hc hi, two_pow_sub_of_testBit hi⟩

theorem sub_grand {n c : Nat} (hc : c < 2 ^ n) : c &&& (2 ^ n - 1) = c := by
  rw [Nat.and_two_pow_sub_one_eq_mod, Nat.mod_eq_of_lt hc]

/-! ### the relation table of `bounds.py` -/

/-- the entry of the relation table for row `c` and column `d` (the if-chain of `EnumFacts.struct`).
    The code assigns −1, 1, 2, 0, −2 in this order, later writes winning; so the first match of
    −2 column ∅, 0 the coalition itself, 2 supersets, 1 sub-coalitions, −1 unrelated decides -/
def relCode (c d : Nat) : Int :=
  if d = 0 then -2 else if d = c then 0 else if c &&& d = c then 2 else if d &&& c = d then 1 else -1

theorem relCode_eq_zero {c d : Nat} (h0 : c ≠ 0) : relCode c d = 0 ↔ d = c := by
  unfold relCode
  by_cases h1 : d = 0
  · rw [if_pos h1]
    exact ⟨fun h => absurd h (by decide), fun h => absurd (h.symm.trans h1) h0⟩
  rw [if_neg h1]
  by_cases h2 : d = c
  · rw [if_pos h2]; exact ⟨fun _ => h2, fun _ => rfl⟩
  rw [if_neg h2]
  refine ⟨fun h => ?_, fun h => absurd h h2⟩
  by_cases h3 : c &&& d = c
  · rw [if_pos h3] at h; exact absurd h (by decide)
  rw [if_neg h3] at h
  by_cases h4 : d &&& c = d
  · rw [if_pos h4] at h; exact absurd h (by decide)
  · rw [if_neg h4] at h; exact absurd h (by decide)

theorem relCode_eq_one {c d : Nat} : relCode c d = 1 ↔ d &&& c = d ∧ d ≠ 0 ∧ d ≠ c := by
  unfold relCode
  by_cases h1 : d = 0
  · rw [if_pos h1]; exact ⟨fun h => absurd h (by decide), fun h => absurd h1 h.2.1⟩
  rw [if_neg h1]
  by_cases h2 : d = c
  · rw [if_pos h2]; exact ⟨fun h => absurd h (by decide), fun h => absurd h2 h.2.2⟩
  rw [if_neg h2]
  by_cases h3 : c &&& d = c
  · rw [if_pos h3]
    exact ⟨fun h => absurd h (by decide), fun h => absurd (by rw [← h.1, Nat.and_comm, h3]) h2⟩
  rw [if_neg h3]
  by_cases h4 : d &&& c = d
  · rw [if_pos h4]; exact ⟨fun _ => ⟨h4, h1, h2⟩, fun _ => rfl⟩
  · rw [if_neg h4]; exact ⟨fun h => absurd h (by decide), fun h => absurd h.1 h4⟩

theorem relCode_eq_two {c d : Nat} : relCode c d = 2 ↔ c &&& d = c ∧ d ≠ c := by
  unfold relCode
  by_cases h1 : d = 0
  · rw [if_pos h1]
    exact ⟨fun h => absurd h (by decide),
      fun h => absurd (by rw [h1, ← h.1, h1, Nat.and_zero]) h.2⟩
  rw [if_neg h1]
  by_cases h2 : d = c
  · rw [if_pos h2]; exact ⟨fun h => absurd h (by decide), fun h => absurd h2 h.2⟩
  rw [if_neg h2]
  by_cases h3 : c &&& d = c
  · rw [if_pos h3]; exact ⟨fun _ => ⟨h3, h2⟩, fun _ => rfl⟩
  rw [if_neg h3]
  refine ⟨fun h => ?_, fun h => absurd h.1 h3⟩
  by_cases h4 : d &&& c = d
  · rw [if_pos h4] at h; exact absurd h (by decide)
  · rw [if_neg h4] at h; exact absurd h (by decide)

end ICG

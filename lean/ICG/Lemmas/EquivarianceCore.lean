/-
  ICG.Lemmas.EquivarianceCore — what ICG.Props.Equivariance rests on: regret matching, the two passes and one
  iteration of the regret minimiser commute with scaling by `c > 0`; monotone (families of) maps commute with the
  specification of the bounds, and then with the computers: `OrdHom` for one map (homogeneity), the `*_family` lemmas with
  `bsum_split` / `shift_*` for the shift by an additive game.  (The `Except.map` calculus is in RegretHelpers.)
-/
import ICG.Model.Regret
import ICG.Lemmas.Regret
import ICG.Lemmas.RegretNode
import ICG.Lemmas.BoundsCommon
import ICG.Lemmas.NormFacts
import Mathlib.Order.MinMax
import Mathlib.Algebra.Order.Field.Basic
import Mathlib.Algebra.BigOperators.Group.List.Basic

namespace ICG.Equivariance
open ICG ICG.Regret

/-! ### scaling the state of the regret minimiser -/

section scaling
variable {α : Type}

/-- every entry of a matrix multiplied by `c` -/
def scaleRows [Mul α] (c : α) (l : List (List α)) : List (List α) := l.map (List.map (c * ·))

/-- the minimiser with every cumulative regret multiplied by `c` (everything else untouched, in
    particular the cumulative strategy and the iteration counter) -/
def scaleRM [Mul α] (c : α) (rm : RM α) : RM α := { rm with regret := scaleRows c rm.regret }

/-- the bottom-up state with q-values and experienced losses multiplied by `c` -/
def scaleUp [Mul α] (c : α) (st : Up α) : Up α :=
  { q := scaleRows c st.q, exp := st.exp.map (c * ·), strategy := st.strategy }

end scaling

theorem sum_scale {α : Type} [Semiring α] (c : α) (l : List α) : (l.map (c * ·)).sum = c * l.sum := by
  induction l with
  | nil => simp
  | cons x l ih => rw [List.map_cons, List.sum_cons, List.sum_cons, ih, mul_add]

section algebra
variable {α : Type} [Field α]

theorem listSum_scale (c : α) (l : List α) : listSum (l.map (c * ·)) = c * listSum l := by
  rw [listSum_eq_sum, listSum_eq_sum, sum_scale]

theorem dot_scale (c : α) (q σ : List α) :
    listSum (List.zipWith (· * ·) (q.map (c * ·)) σ) = c * listSum (List.zipWith (· * ·) q σ) := by
  rw [← listSum_scale, List.zipWith_map_left, List.map_zipWith]
  simp only [mul_assoc]

theorem update_scale (c e : α) : ∀ (r q : List α),
    List.zipWith (fun r q => r + (q - c * e)) (r.map (c * ·)) (q.map (c * ·)) =
      (List.zipWith (fun r q => r + (q - e)) r q).map (c * ·)
  | [], _ => rfl
  | _ :: _, [] => rfl
  | x :: r, y :: q => by
    rw [List.map_cons, List.map_cons, List.zipWith_cons_cons, List.zipWith_cons_cons, List.map_cons,
      update_scale c e r q, ← mul_sub, ← mul_add]

theorem zeros_scale (c : α) (k : Nat) : (zeros (α := α) k).map (c * ·) = zeros k := by
  unfold zeros
  rw [List.map_replicate, mul_zero]

theorem zeros2_scale (c : α) (r k : Nat) : scaleRows c (zeros2 (α := α) r k) = zeros2 r k := by
  unfold zeros2 scaleRows
  rw [List.map_replicate, zeros_scale]

theorem assignMany_zeros_scale (c : α) (k : Nat) (idx : List Nat) (vals : List α) :
    assignMany (zeros (α := α) k) idx (vals.map (c * ·)) =
      Except.map (List.map (c * ·)) (assignMany (zeros k) idx vals) := by
  rw [← assignMany_map, zeros_scale]

theorem nodeInfo_scale (c : α) (rm : RM α) (i : Nat) : (scaleRM c rm).nodeInfo i = rm.nodeInfo i := rfl

end algebra

/-! ### regret matching is invariant under scaling by `c > 0`, hence so are the passes -/

section positive
variable {α : Type} [Field α] [LinearOrder α] [IsStrictOrderedRing α]

theorem normalize_scale {c : α} (hc : c ≠ 0) (l : List α) : normalize (l.map (c * ·)) = normalize l := by
  unfold normalize
  simp only [listSum_scale, mul_eq_zero, hc, false_or, List.isEmpty_map]
  by_cases hs : listSum l = 0
  · rw [if_pos hs, if_pos hs]
  · rw [if_neg hs, if_neg hs, List.map_map]
    congr 1
    exact List.map_congr_left (fun x _ => mul_div_mul_left x _ hc)

theorem posPart_mul {c : α} (hc : 0 < c) (x : α) : Regret.posPart (c * x) = c * Regret.posPart x := by
  unfold Regret.posPart
  by_cases hx : 0 < x
  · rw [if_pos hx, if_pos (mul_pos hc hx)]
  · rw [if_neg hx, if_neg (fun h => hx ((mul_pos_iff_of_pos_left hc).mp h)), mul_zero]

theorem map_posPart_scale {c : α} (hc : 0 < c) (row : List α) :
    (row.map (c * ·)).map Regret.posPart = (row.map Regret.posPart).map (c * ·) := by
  rw [List.map_map, List.map_map]
  exact List.map_congr_left (fun x _ => posPart_mul hc x)

theorem scaleRows_posPart {c : α} (hc : 0 < c) (l : List (List α)) :
    (scaleRows c l).map (·.map Regret.posPart) = scaleRows c (l.map (·.map Regret.posPart)) := by
  unfold scaleRows
  rw [List.map_map, List.map_map]
  exact List.map_congr_left (fun row _ => map_posPart_scale hc row)

theorem regretMatchingRow_scale {c : α} (hc : 0 < c) (m : Nat) (row : List α) (used : List Nat) :
    regretMatchingRow m (row.map (c * ·)) used = regretMatchingRow m row used := by
  unfold regretMatchingRow
  simp only [map_posPart_scale hc, listSum_scale, mul_eq_zero, hc.ne', false_or, normalize_scale hc.ne']

theorem regretMatching_scale {c : α} (hc : 0 < c) (rm : RM α) (mc : Nat) :
    (scaleRM c rm).regretMatching mc = rm.regretMatching mc := by
  unfold RM.regretMatching
  refine bind_congr_eq (fun rank => ?_)
  exact bind_map_eq (getIdx_map _ rm.regret rank) (fun row => regretMatchingRow_scale hc rm.m row (players mc))

theorem topDownStep_scale {c : α} (hc : 0 < c) (rm : RM α) : (scaleRM c rm).topDownStep = rm.topDownStep := by
  funext reach i
  unfold RM.topDownStep
  rw [nodeInfo_scale]
  refine bind_congr_eq (fun info => ?_)
  obtain ⟨mc, nextPids, nextRanks⟩ := info
  dsimp only
  rw [regretMatching_scale hc]

theorem bottomUpStep_scale {c : α} (hc : 0 < c) (rm : RM α) (w : α) (reach : List α) (st : Up α) (i : Nat) :
    (scaleRM c rm).bottomUpStep w reach (scaleUp c st) i =
      Except.map (scaleUp c) (rm.bottomUpStep w reach st i) := by
  unfold RM.bottomUpStep
  rw [nodeInfo_scale]
  refine bind_congr_map (fun info => ?_)
  obtain ⟨mc, nextPids, nextRanks⟩ := info
  dsimp only
  refine bind_map_congr (f := List.map (c * ·))
    (mapM_map (fun a => getIdx_map (c * ·) st.exp a) nextRanks) (fun vals => ?_)
  refine bind_map_congr (getIdx_map _ st.q i) (fun qrow0 => ?_)
  refine bind_map_congr (assignMany_map (c * ·) qrow0 nextPids vals) (fun qrow => ?_)
  rw [regretMatching_scale hc]
  refine bind_congr_map (fun sigma => ?_)
  rw [dot_scale]
  refine bind_map_congr (setIdx_map (c * ·) st.exp i _) (fun exp' => ?_)
  refine bind_congr_map (fun ri => ?_)
  refine bind_congr_map (fun srow => ?_)
  refine bind_congr_map (fun strategy' => ?_)
  refine bind_map_congr (f := scaleRows c) (setIdx_map (List.map (c * ·)) st.q i qrow) (fun q' => ?_)
  rfl

/-- plain and plus; the equation with `Except.map` says that the scaled run fails exactly when the original fails,
    with the same error -/
theorem iterate_scale {c : α} (hc : 0 < c) (rm : RM α) (t : List α) (u : List (List Nat)) :
    (scaleRM c rm).iterate (t.map (c * ·)) u = Except.map (scaleRM c) (rm.iterate t u) := by
  unfold RM.iterate
  dsimp only
  refine bind_congr_map (fun usedRanks => ?_)
  refine bind_map_congr (broadcastTo_map (c * ·) t usedRanks.length) (fun rhs => ?_)
  refine bind_map_congr (assignMany_zeros_scale c rm.V usedRanks rhs) (fun exp0 => ?_)
  refine bind_congr_map (fun reach0 => ?_)
  rw [topDownStep_scale hc]
  refine bind_congr_map (fun reach => ?_)
  have hup : scaleUp c ({ q := zeros2 rm.R rm.m, exp := exp0, strategy := rm.strategy } : Up α) =
      { q := zeros2 rm.R rm.m, exp := exp0.map (c * ·), strategy := rm.strategy } := by
    unfold scaleUp; rw [zeros2_scale]
  have hb := foldlM_map
    (bottomUpStep_scale hc rm (if rm.plus = true then ((rm.iteration + 1 : Nat) : α) else 1) reach)
    (List.range rm.R).reverse { q := zeros2 rm.R rm.m, exp := exp0, strategy := rm.strategy }
  rw [hup] at hb
  refine bind_map_congr hb (fun up => ?_)
  refine bind_map_congr (f := scaleRows c) (mapM_map (fun i => ?_) (List.range rm.R)) (fun regret' => ?_)
  · refine bind_map_congr (getIdx_map _ rm.regret i) (fun r => ?_)
    refine bind_map_congr (getIdx_map _ up.q i) (fun q => ?_)
    refine bind_map_congr (getIdx_map (c * ·) up.exp i) (fun e => ?_)
    exact congrArg pure (update_scale c e r q)
  · show Except.ok _ = Except.ok _
    refine congrArg Except.ok ?_
    simp only [scaleRM, scaleUp]
    rw [apply_ite (scaleRows c), scaleRows_posPart hc]
    rfl

end positive

/-! ### bounds: monotone maps commute with the max / min of the specification -/

theorem foldl_op_map {α : Type} {f : α → α} {op : α → α → α} (h : ∀ a b, f (op a b) = op (f a) (f b)) :
    ∀ (l : List α) (a : α), (l.map f).foldl op (f a) = f (l.foldl op a)
  | [], _ => rfl
  | b :: l, a => by
    rw [List.map_cons, List.foldl_cons, List.foldl_cons, ← h]
    exact foldl_op_map h l _

section family
variable {α : Type} [LinearOrder α]

theorem listMax?_map {f : α → α} (hf : Monotone f) (l : List α) :
    listMax? (l.map f) = (listMax? l).map f := by
  cases l with
  | nil => rfl
  | cons a l => exact congrArg some (foldl_op_map (op := max) (fun _ _ => hf.map_max) l a)

theorem listMin?_map {f : α → α} (hf : Monotone f) (l : List α) :
    listMin? (l.map f) = (listMin? l).map f := by
  cases l with
  | nil => rfl
  | cons a l => exact congrArg some (foldl_op_map (op := min) (fun _ _ => hf.map_min) l a)

theorem listMin?_map_of {β : Type} {f : α → α} (hf : Monotone f) {l : List β} {g' g : β → α}
    (h : ∀ x ∈ l, g' x = f (g x)) : listMin? (l.map g') = (listMin? (l.map g)).map f := by
  rw [← listMin?_map hf, List.map_map]
  exact congrArg _ (List.map_congr_left h)

/-- the shape every bound of the specification has: the value if known, else the max (min) of candidates, else the value -/
theorem pickMax_map {f : α → α} (hf : Monotone f) (b : Bool) (d : α) {l' l : List α} (hl : l' = l.map f) :
    (if b = true then f d else match listMax? l' with | some m => m | none => f d) =
      f (if b = true then d else match listMax? l with | some m => m | none => d) := by
  subst hl
  rw [listMax?_map hf]
  split
  · rfl
  · cases listMax? l <;> rfl

theorem pickMin_map {f : α → α} (hf : Monotone f) (b : Bool) (d : α) {l' l : List α} (hl : l' = l.map f) :
    (if b = true then f d else match listMin? l' with | some m => m | none => f d) =
      f (if b = true then d else match listMin? l with | some m => m | none => d) := by
  subst hl
  rw [listMin?_map hf]
  split
  · rfl
  · cases listMin? l <;> rfl

variable [Add α]

/-- `F c = (k * ·)` gives homogeneity, `F c = (· + a c)` for an additive game `a` gives the shift -/
theorem splitSpec_family (F : Nat → α → α) (hmono : ∀ c, Monotone (F c)) (known : Nat → Bool)
    (v : Nat → α) {extra' extra : Nat → List α} (hex : ∀ c, extra' c = (extra c).map (F c))
    (hsplit : ∀ c x, x ∈ properSubs c → ∀ p q, F x p + F (c - x) q = F c (p + q)) :
    ∀ c, splitSpec known (fun c => F c (v c)) extra' c = F c (splitSpec known v extra c) := by
  intro c
  induction c using Nat.strong_induction_on with
  | _ c ih =>
    rw [Refine.splitSpec_unfold known (fun c => F c (v c)), Refine.splitSpec_unfold known v]
    refine pickMax_map (hmono c) _ _ ?_
    rw [hex c, List.map_append, List.map_map]
    congr 1
    apply List.map_congr_left
    intro x hx
    have hlt := properSubs_lt hx
    rw [ih x hlt.1, ih (c - x) hlt.2, hsplit c x hx]
    rfl

theorem loSpec_family (F : Nat → α → α) (hmono : ∀ c, Monotone (F c)) (known : Nat → Bool) (v : Nat → α)
    (hsplit : ∀ c x, x ∈ properSubs c → ∀ p q, F x p + F (c - x) q = F c (p + q)) (c : Nat) :
    loSpec known (fun c => F c (v c)) c = F c (loSpec known v c) :=
  splitSpec_family F hmono known v (extra := fun _ => []) (fun _ => rfl) hsplit c

variable [Sub α]

omit [Add α] in
theorem upAgainst_family (F : Nat → α → α) (hmono : ∀ c, Monotone (F c)) (n : Nat) (known : Nat → Bool)
    (v : Nat → α) {lo' lo : Nat → α} (hlo : ∀ c, lo' c = F c (lo c))
    (hsup : ∀ c T, T ∈ knownSupers n known c → ∀ p q, F T p - F (T - c) q = F c (p - q)) (c : Nat) :
    upAgainst n known (fun c => F c (v c)) lo' c = F c (upAgainst n known v lo c) := by
  unfold upAgainst
  refine pickMin_map (hmono c) _ _ ?_
  rw [List.map_map]
  apply List.map_congr_left
  intro T hT
  rw [hlo, hsup c T hT]
  rfl

theorem upSpec_family (F : Nat → α → α) (hmono : ∀ c, Monotone (F c)) (n : Nat) (known : Nat → Bool)
    (v : Nat → α)
    (hsplit : ∀ c x, x ∈ properSubs c → ∀ p q, F x p + F (c - x) q = F c (p + q))
    (hsup : ∀ c T, T ∈ knownSupers n known c → ∀ p q, F T p - F (T - c) q = F c (p - q)) (c : Nat) :
    upSpec n known (fun c => F c (v c)) c = F c (upSpec n known v c) :=
  upAgainst_family F hmono n known v (loSpec_family F hmono known v hsplit) hsup c

end family

/-! ### one monotone additive map (homogeneity), including the SAM approximation -/

section uniform
variable {α : Type} [Add α] [Sub α] [LinearOrder α]

/-- a monotone map that commutes with `+` and with `-` — both are asked for because `α` has bare `Add` and `Sub`, no
    group structure (the computers run on such types); `k * ·` for `k ≥ 0` and `k • ·` for `k : ℕ` are the instances -/
structure OrdHom (f : α → α) : Prop where
  mono : Monotone f
  add : ∀ a b, f (a + b) = f a + f b
  sub : ∀ a b, f (a - b) = f a - f b

variable {f : α → α}

theorem splitSpec_hom (hf : OrdHom f) (known : Nat → Bool) (v : Nat → α) {extra' extra : Nat → List α}
    (hex : ∀ c, extra' c = (extra c).map f) (c : Nat) :
    splitSpec known (fun c => f (v c)) extra' c = f (splitSpec known v extra c) :=
  splitSpec_family (fun _ => f) (fun _ => hf.mono) known v hex (fun _ _ _ p q => (hf.add p q).symm) c

theorem loSpec_hom (hf : OrdHom f) (known : Nat → Bool) (v : Nat → α) (c : Nat) :
    loSpec known (fun c => f (v c)) c = f (loSpec known v c) :=
  splitSpec_hom hf known v (extra := fun _ => []) (fun _ => rfl) c

theorem upSpec_hom (hf : OrdHom f) (n : Nat) (known : Nat → Bool) (v : Nat → α) (c : Nat) :
    upSpec n known (fun c => f (v c)) c = f (upSpec n known v c) :=
  upSpec_family (fun _ => f) (fun _ => hf.mono) n known v (fun _ _ _ p q => (hf.add p q).symm)
    (fun _ _ _ p q => (hf.sub p q).symm) c

theorem closeSpec_hom (hf : OrdHom f) (n : Nat) (known : Nat → Bool) (v : Nat → α) {A' A : Nat → α}
    (hA : ∀ c, A' c = f (A c)) (c : Nat) :
    closeSpec n known (fun c => f (v c)) A' c = f (closeSpec n known v A c) := by
  unfold closeSpec
  refine pickMax_map hf.mono _ _ ?_
  rw [List.map_map]
  exact List.map_congr_left fun c _ => hA c

theorem samB_hom (hf : OrdHom f) (n : Nat) (known : Nat → Bool) (v : Nat → α) :
    ∀ (i c : Nat), samB n known (fun c => f (v c)) i c = f (samB n known v i c)
  | 0, c => closeSpec_hom hf n known v (loSpec_hom hf known v) c
  | i + 1, c =>
    closeSpec_hom hf n known v
      (splitSpec_hom hf known v fun d => by rw [samB_hom hf n known v i d, ← hf.add]; rfl) c

theorem samUp_hom (hf : OrdHom f) (n : Nat) (known : Nat → Bool) (v : Nat → α) (r c : Nat) :
    samUp n known (fun c => f (v c)) r c = f (samUp n known v r c) := by
  unfold samUp
  rw [listMin?_map_of hf.mono (g := fun T => v T - samB n known v r (T - c))
      (fun T _ => by rw [samB_hom hf, hf.sub]),
    listMin?_map_of hf.mono (g := v) (fun _ _ => rfl)]
  split
  · rfl
  · cases listMin? ((knownSupers n known c).map fun T => v T - samB n known v r (T - c)) with
    | none => rfl
    | some a =>
      cases listMin? ((knownSubs known c).map v) with
      | none => rfl
      | some b => exact (hf.mono.map_min).symm

end uniform

/-! ### the additive game `a(S) = Σ_{i ∈ S, i < n} w i` and the shift by it -/

section shift
open Finset

theorem bsum_split {α : Type} [AddCommMonoid α] (n : Nat) (w : Nat → α) {x c : Nat} (h : x &&& c = x) :
    Norm.bsum n w x + Norm.bsum n w (c - x) = Norm.bsum n w c := by
  rw [← Norm.bsum_or n w (sub_or_self h).2, (sub_or_self h).1]

theorem shift_split {α : Type} [AddCommGroup α] (n : Nat) (w : Nat → α) (c x : Nat) (hx : x ∈ properSubs c) (p q : α) :
    (p + Norm.bsum n w x) + (q + Norm.bsum n w (c - x)) = (p + q) + Norm.bsum n w c := by
  rw [← bsum_split n w (mem_properSubs.mp hx).1, add_add_add_comm]

theorem shift_sup {α : Type} [AddCommGroup α] (n : Nat) (w : Nat → α) {c T : Nat} (h : c &&& T = c) (p q : α) :
    (p + Norm.bsum n w T) - (q + Norm.bsum n w (T - c)) = (p - q) + Norm.bsum n w c := by
  rw [← bsum_split n w h, add_sub_add_comm, add_sub_cancel_right]

theorem shift_mono {α : Type} [AddCommGroup α] [LinearOrder α] [IsOrderedAddMonoid α] (k : α) : Monotone (fun p : α => p + k) := fun _ _ h => add_le_add_left h k

end shift

/-! ### from the specification to the computers -/

section computers
variable {α : Type} [Add α] [Sub α] [LinearOrder α]

/-- both bound columns transformed row by row -/
def mapTable (F : Nat → α → α) (t : Table α) : Table α :=
  { t with lo := fun c => F c (t.lo c), hi := fun c => F c (t.hi c) }

/-- `t.Inv` (known rows have `lo = hi`) is why the specification can be read with `t.lo` as the value function -/
theorem run_mapTable (k : Computer) (F : Nat → α → α) (t : Table α) (hmin : MinInfo t.n t.known)
    (hinv : t.Inv)
    (hlo : ∀ c, k.specLo t.n t.known (fun c => F c (t.lo c)) c = F c (k.specLo t.n t.known t.lo c))
    (hup : ∀ c, k.specUp t.n t.known (fun c => F c (t.lo c)) c = F c (k.specUp t.n t.known t.lo c)) :
    ∃ t', k.run t = .ok t' ∧ k.run (mapTable F t) = .ok (mapTable F t') := by
  obtain ⟨t', h1, h2, h3, h4, h5⟩ := BoundsCommon.run_spec k t hmin hinv
  have hinv' : (mapTable F t).Inv := fun c hc hk => congrArg (F c) (hinv c hc hk)
  obtain ⟨t'', g1, g2, g3, g4, g5⟩ := BoundsCommon.run_spec k (mapTable F t) hmin hinv'
  refine ⟨t', h1, ?_⟩
  rw [g1]
  refine congrArg Except.ok (Refine.table_ext (g2.trans h2.symm) (g3.trans h3.symm) ?_ ?_)
  · intro c
    by_cases hc : c < 2 ^ t.n
    · exact (g4 c hc).1.trans ((hlo c).trans (congrArg (F c) (h4 c hc).1.symm))
    · exact (g5 c (Nat.le_of_not_lt hc)).1.trans (congrArg (F c) (h5 c (Nat.le_of_not_lt hc)).1.symm)
  · intro c
    by_cases hc : c < 2 ^ t.n
    · exact (g4 c hc).2.trans ((hup c).trans (congrArg (F c) (h4 c hc).2.symm))
    · exact (g5 c (Nat.le_of_not_lt hc)).2.trans (congrArg (F c) (h5 c (Nat.le_of_not_lt hc)).2.symm)

end computers

end ICG.Equivariance

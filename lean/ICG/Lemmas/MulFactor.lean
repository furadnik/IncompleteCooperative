/-
  ICG.Lemmas.MulFactor — multiplicative_factor.py (ICG.Model.Mul): the outcomes and the result of `factor` on vectors
  of equal length; the same for vectors given as functions on coalition ids (rows `1 … 2^n − 1`, `factorFn`); the four
  table functions written through `factorFn`; helpers for the NaN-aware `factorN` (its theorems: Props/Mul.lean).
-/
import ICG.Model.Mul
import ICG.Lemmas.ListMax
import Mathlib.Algebra.Order.Field.Basic

namespace ICG.Mul
open ICG

set_option linter.unusedSectionVars false
variable {α : Type} [Field α] [LinearOrder α] [IsStrictOrderedRing α]

theorem broadcast_of_length_eq {β γ : Type} {a : List β} {b : List γ} (h : a.length = b.length) :
    broadcast a b = .ok (a.zip b) := by
  simp [broadcast, h]

/-- the guard of `factor`: both assertions hold -/
def Guard (num den : List α) : Prop := (∀ p ∈ num.zip den, p.2 ≤ p.1) ∧ (∀ d ∈ den, 0 < d)

theorem zip_eq_nil_of_length_eq {β γ : Type} {a : List β} {b : List γ} (hlen : a.length = b.length) :
    a.zip b = [] ↔ a = [] := by
  cases a with
  | nil => simp
  | cons x t => cases b with
    | nil => simp at hlen
    | cons y s => simp

theorem factor_outcome {num den : List α} (hlen : num.length = den.length) :
    (¬ Guard num den ∧ factor num den = .error .assert) ∨
    (Guard num den ∧ num = [] ∧ factor num den = .error .value) ∨
    (Guard num den ∧ num ≠ [] ∧
      ∃ m, listMax? ((num.zip den).map (fun p => p.1 / p.2)) = some m ∧ factor num den = .ok m) := by
  unfold factor
  rw [broadcast_of_length_eq hlen]
  simp only [List.all_eq_true, decide_eq_true_eq]
  by_cases hg : Guard num den
  · refine Or.inr ?_
    rw [if_pos hg.1, if_pos hg.2]
    cases h : listMax? ((num.zip den).map (fun p => p.1 / p.2)) with
    | none =>
      exact Or.inl ⟨hg, (zip_eq_nil_of_length_eq hlen).mp (List.map_eq_nil_iff.mp (listMax?_eq_none.mp h)), rfl⟩
    | some m => exact Or.inr ⟨hg, (fun hn => by rw [hn] at h; cases h), m, rfl, rfl⟩
  · refine Or.inl ⟨hg, ?_⟩
    by_cases h1 : ∀ p ∈ num.zip den, p.2 ≤ p.1
    · rw [if_pos h1, if_neg fun h => hg ⟨h1, h⟩]
    · rw [if_neg h1]

theorem factor_eq_ok_iff {num den : List α} (hlen : num.length = den.length) {m : α} :
    factor num den = .ok m ↔
      Guard num den ∧ listMax? ((num.zip den).map (fun p => p.1 / p.2)) = some m := by
  rcases factor_outcome hlen with ⟨hg, h⟩ | ⟨hg, rfl, h⟩ | ⟨hg, -, m', hm, h⟩
  · simp [h, hg]
  · simp [h, listMax?]
  · simp [h, hg, hm]

/-- `factor` succeeds iff the two assertions hold and the vectors are non-empty -/
theorem factor_succeeds_iff {num den : List α} (hlen : num.length = den.length) :
    (∃ m, factor num den = .ok m) ↔ Guard num den ∧ num ≠ [] := by
  rcases factor_outcome hlen with ⟨hg, h⟩ | ⟨hg, rfl, h⟩ | ⟨hg, hn, m, -, h⟩
  · simp [h, hg]
  · simp [h]
  · exact ⟨fun _ => ⟨hg, hn⟩, fun _ => ⟨m, h⟩⟩

/-- AssertionError iff an assertion fails; ValueError (`np.max` of an empty array) iff they hold on empty vectors -/
theorem factor_error_kinds {num den : List α} (hlen : num.length = den.length) :
    (factor num den = .error .assert ↔ ¬ Guard num den) ∧
    (factor num den = .error .value ↔ Guard num den ∧ num = []) := by
  rcases factor_outcome hlen with ⟨hg, h⟩ | ⟨hg, rfl, h⟩ | ⟨hg, hn, m, -, h⟩
  · simp [h, hg]
  · simp [h, hg]
  · simp [h, hg, hn]

/-- on success the result `m` bounds every ratio, is attained, is the least such number, and is ≥ 1 -/
theorem factor_is_least_bound {num den : List α} (hlen : num.length = den.length) {m : α}
    (h : factor num den = .ok m) :
    (∀ p ∈ num.zip den, p.1 ≤ m * p.2) ∧ (∃ p ∈ num.zip den, p.1 = m * p.2) ∧
    (∀ a, (∀ p ∈ num.zip den, p.1 ≤ a * p.2) → m ≤ a) ∧ 1 ≤ m := by
  obtain ⟨⟨h1, h2⟩, hm⟩ := (factor_eq_ok_iff hlen).mp h
  obtain ⟨hmem, hub⟩ := listMax?_eq_some_iff.mp hm
  have hpos : ∀ p ∈ num.zip den, 0 < p.2 := fun p hp => h2 _ (List.of_mem_zip hp).2
  -- the maximum is the ratio of some row `p0`
  obtain ⟨p0, hp0, hp0m⟩ := List.mem_map.mp hmem
  have hatt : p0.1 = m * p0.2 := by
    rw [← hp0m]; exact (div_mul_cancel₀ _ (hpos p0 hp0).ne').symm
  refine ⟨fun p hp => (div_le_iff₀ (hpos p hp)).mp (hub _ (List.mem_map.mpr ⟨p, hp, rfl⟩)), ⟨p0, hp0, hatt⟩,
    fun a ha => le_of_mul_le_mul_right (hatt ▸ ha p0 hp0) (hpos p0 hp0), ?_⟩
  have := h1 p0 hp0
  rw [hatt] at this
  exact le_of_mul_le_mul_right (by rwa [one_mul]) (hpos p0 hp0)

/-! ### vectors given as functions on coalition ids: rows `1 … 2^n − 1` -/

/-- `vector[1:]` of a vector given as a function on ids -/
def rows1 {β : Type} (n : Nat) (f : Nat → β) : List β := ((List.range (2 ^ n)).map f).drop 1

theorem rows1_eq {β : Type} (n : Nat) (f : Nat → β) : rows1 n f = (List.range' 1 (2 ^ n - 1)).map f := by
  unfold rows1
  rw [← List.map_drop, List.range_eq_range', List.drop_range']

theorem length_rows1 {β : Type} (n : Nat) (f : Nat → β) : (rows1 n f).length = 2 ^ n - 1 := by
  rw [rows1_eq, List.length_map, List.length_range']

theorem length_rows1_eq {β γ : Type} (n : Nat) (f : Nat → β) (g : Nat → γ) : (rows1 n f).length = (rows1 n g).length := by
  rw [length_rows1, length_rows1]

theorem zip_rows1 {β γ : Type} (n : Nat) (f : Nat → β) (g : Nat → γ) :
    (rows1 n f).zip (rows1 n g) = rows1 n (fun c => (f c, g c)) := by
  rw [rows1_eq, rows1_eq, rows1_eq, List.zip_map']

theorem map_rows1 {β γ : Type} (n : Nat) (f : Nat → β) (g : β → γ) : (rows1 n f).map g = rows1 n (fun c => g (f c)) := by
  rw [rows1_eq, rows1_eq, List.map_map]
  rfl

theorem mem_rows1 {β : Type} {n : Nat} {f : Nat → β} {x : β} : x ∈ rows1 n f ↔ ∃ c, 0 < c ∧ c < 2 ^ n ∧ f c = x := by
  rw [rows1_eq, List.mem_map]
  refine exists_congr fun c => ?_
  rw [List.mem_range'_1, and_assoc]
  have := Nat.two_pow_pos n
  exact and_congr_right fun _ => and_congr_left fun _ => by omega

theorem forall_mem_rows1 {β : Type} {n : Nat} {f : Nat → β} {P : β → Prop} :
    (∀ p ∈ rows1 n f, P p) ↔ ∀ c, 0 < c → c < 2 ^ n → P (f c) :=
  ⟨fun h c h0 hc => h _ (mem_rows1.mpr ⟨c, h0, hc, rfl⟩),
   fun h p hp => by obtain ⟨c, h0, hc, rfl⟩ := mem_rows1.mp hp; exact h c h0 hc⟩

theorem exists_mem_rows1 {β : Type} {n : Nat} {f : Nat → β} {P : β → Prop} :
    (∃ p ∈ rows1 n f, P p) ↔ ∃ c, 0 < c ∧ c < 2 ^ n ∧ P (f c) :=
  ⟨fun ⟨p, hp, h⟩ => by obtain ⟨c, h0, hc, rfl⟩ := mem_rows1.mp hp; exact ⟨c, h0, hc, h⟩,
   fun ⟨c, h0, hc, h⟩ => ⟨_, mem_rows1.mpr ⟨c, h0, hc, rfl⟩, h⟩⟩

def GuardFn (n : Nat) (num den : Nat → α) : Prop :=
  (∀ c, 0 < c → c < 2 ^ n → den c ≤ num c) ∧ (∀ c, 0 < c → c < 2 ^ n → 0 < den c)

/-- `factor` on the rows `1 … 2^n − 1` of two vectors -/
def factorFn (n : Nat) (num den : Nat → α) : Except Err α := factor (rows1 n num) (rows1 n den)

theorem guard_rows1 (n : Nat) (num den : Nat → α) : Guard (rows1 n num) (rows1 n den) ↔ GuardFn n num den := by
  unfold Guard GuardFn
  rw [zip_rows1, forall_mem_rows1, forall_mem_rows1]

theorem rows1_eq_nil (n : Nat) (f : Nat → α) : rows1 n f = [] ↔ n = 0 := by
  rw [← List.length_eq_zero_iff, length_rows1]
  constructor
  · intro h
    by_contra hn
    have : 2 ^ 1 ≤ 2 ^ n := Nat.pow_le_pow_right (by omega) (by omega)
    omega
  · rintro rfl; rfl

theorem factorFn_outcomes (n : Nat) (num den : Nat → α) :
    ((∃ m, factorFn n num den = .ok m) ↔ GuardFn n num den ∧ n ≠ 0) ∧
    (factorFn n num den = .error .assert ↔ ¬ GuardFn n num den) ∧
    (factorFn n num den = .error .value ↔ GuardFn n num den ∧ n = 0) := by
  have hlen := length_rows1_eq n num den
  unfold factorFn
  rw [factor_succeeds_iff hlen, (factor_error_kinds hlen).1, (factor_error_kinds hlen).2, guard_rows1, Ne, rows1_eq_nil]
  exact ⟨Iff.rfl, Iff.rfl, Iff.rfl⟩

theorem factorFn_result (n : Nat) (num den : Nat → α) (m : α) :
    factorFn n num den = .ok m ↔
      GuardFn n num den ∧ (∀ c, 0 < c → c < 2 ^ n → num c ≤ m * den c) ∧
        (∃ c, 0 < c ∧ c < 2 ^ n ∧ num c = m * den c) := by
  have hlen := length_rows1_eq n num den
  unfold factorFn
  constructor
  · intro h
    have hs := factor_is_least_bound hlen h
    rw [zip_rows1, forall_mem_rows1, exists_mem_rows1] at hs
    exact ⟨(guard_rows1 n num den).mp ((factor_eq_ok_iff hlen).mp h).1, hs.1, hs.2.1⟩
  · rintro ⟨hg, hub, c, h0, hc, hatt⟩
    refine (factor_eq_ok_iff hlen).mpr ⟨(guard_rows1 n num den).mpr hg, listMax?_eq_some_of ?_ ?_⟩
    · rw [zip_rows1, map_rows1, mem_rows1]
      exact ⟨c, h0, hc, by rw [hatt]; exact mul_div_cancel_right₀ _ (hg.2 c h0 hc).ne'⟩
    · rw [zip_rows1, map_rows1, forall_mem_rows1]
      exact fun d h0 hd => (div_le_iff₀ (hg.2 d h0 hd)).mpr (hub d h0 hd)

theorem factorFn_least {n : Nat} {num den : Nat → α} {m : α} (h : factorFn n num den = .ok m) (a : α)
    (ha : ∀ c, 0 < c → c < 2 ^ n → num c ≤ a * den c) : m ≤ a := by
  obtain ⟨hg, -, c, h0, hc, hatt⟩ := (factorFn_result n num den m).mp h
  have := ha c h0 hc
  rw [hatt] at this
  exact le_of_mul_le_mul_right this (hg.2 c h0 hc)

theorem factorFn_ge_one {n : Nat} {num den : Nat → α} {m : α} (h : factorFn n num den = .ok m) : 1 ≤ m :=
  (factor_is_least_bound (length_rows1_eq n num den) h).2.2.2

/-- a larger numerator and a smaller denominator can only increase the factor -/
theorem factor_monotone {n : Nat} {num num' den den' : Nat → α} {m m' : α}
    (h : factorFn n num den = .ok m) (h' : factorFn n num' den' = .ok m')
    (hnum : ∀ c, 0 < c → c < 2 ^ n → num c ≤ num' c) (hden : ∀ c, 0 < c → c < 2 ^ n → den' c ≤ den c) :
    m ≤ m' := by
  obtain ⟨hg', hub', -⟩ := (factorFn_result n num' den' m').mp h'
  have hm' : 0 ≤ m' := le_trans zero_le_one (factorFn_ge_one h')
  refine factorFn_least h m' ?_
  intro c h0 hc
  calc num c ≤ num' c := hnum c h0 hc
    _ ≤ m' * den' c := hub' c h0 hc
    _ ≤ m' * den c := mul_le_mul_of_nonneg_left (hden c h0 hc) hm'

theorem factorFn_both_ok_of_le {n : Nat} {num num' den : Nat → α} (hn : n ≠ 0) (hg : GuardFn n num den)
    (hle : ∀ c, 0 < c → c < 2 ^ n → num c ≤ num' c) :
    ∃ m₁ m₂, factorFn n num' den = .ok m₁ ∧ factorFn n num den = .ok m₂ ∧ m₂ ≤ m₁ := by
  obtain ⟨m₁, h₁⟩ := (factorFn_outcomes n num' den).1.mpr
    ⟨⟨fun c h0 hc => le_trans (hg.1 c h0 hc) (hle c h0 hc), hg.2⟩, hn⟩
  obtain ⟨m₂, h₂⟩ := (factorFn_outcomes n num den).1.mpr ⟨hg, hn⟩
  exact ⟨m₁, m₂, h₁, h₂, factor_monotone h₂ h₁ hle (fun _ _ _ => le_rfl)⟩

/-! ### the four functions on tables -/

theorem getValues_none (t : Table α) :
    t.getValues none = if t.full then .ok ((List.range (2 ^ t.n)).map t.hi) else .error .value := by
  unfold Table.getValues Table.full Table.rows
  rfl

theorem lowerUpperBound_eq (inc : Table α) : lowerUpperBound inc = factorFn inc.n inc.hi inc.lo := rfl

theorem toLowerBound_eq (game inc : Table α) (hn : game.n = inc.n) :
    toLowerBound game inc = if game.full then factorFn inc.n game.hi inc.lo else .error .value := by
  unfold toLowerBound
  rw [getValues_none, hn]
  cases game.full <;> rfl

theorem upperToApproximation_eq (approx inc : Table α) (hn : approx.n = inc.n) :
    upperToApproximation approx inc = if approx.full then factorFn inc.n inc.hi approx.hi else .error .value := by
  unfold upperToApproximation
  rw [getValues_none, hn]
  cases approx.full <;> rfl

theorem toApproximation_eq (game approx : Table α) (hn : game.n = approx.n) :
    toApproximation game approx =
      if approx.full then (if game.full then factorFn game.n game.hi approx.hi else .error .value)
      else .error .value := by
  unfold toApproximation
  rw [getValues_none, getValues_none, ← hn]
  cases approx.full <;> cases game.full <;> rfl

/-! ### vectors with NaN entries -/

theorem allSome_map_some {β : Type} (l : List β) : allSome (l.map some) = some l := by
  induction l with
  | nil => rfl
  | cons a l ih => simp [allSome, ih]

theorem allSome_isSome_of {β : Type} (l : List (Option β)) (h : ∀ x ∈ l, x ≠ none) : ∃ r, allSome l = some r := by
  induction l with
  | nil => exact ⟨[], rfl⟩
  | cons a l ih =>
    cases a with
    | none => exact absurd rfl (h none List.mem_cons_self)
    | some x =>
      obtain ⟨r, hr⟩ := ih (fun y hy => h y (List.mem_cons_of_mem _ hy))
      exact ⟨x :: r, by simp [allSome, hr]⟩

theorem broadcast_map {β γ β' γ' : Type} (f : β → β') (g : γ → γ') (a : List β) (b : List γ) :
    broadcast (a.map f) (b.map g) = (broadcast a b).map (List.map (Prod.map f g)) := by
  unfold broadcast
  by_cases h : a.length = b.length
  · simp only [List.length_map, h, if_true, Except.map, List.zip_map, List.map_map]
  · simp only [List.length_map, h, if_false]
    match a, b with
    | [x], b => simp [Except.map, Function.comp_def]
    | [], [y] => simp [Except.map]
    | _ :: _ :: _, [y] => simp [Except.map, Function.comp_def]
    | [], [] => simp at h
    | [], _ :: _ :: _ => simp [Except.map]
    | _ :: _ :: _, [] => simp [Except.map]
    | _ :: _ :: _, _ :: _ :: _ => simp [Except.map]

end ICG.Mul

#print axioms ICG.Mul.factor_succeeds_iff
#print axioms ICG.Mul.factor_error_kinds
#print axioms ICG.Mul.factor_is_least_bound
#print axioms ICG.Mul.factorFn_result
#print axioms ICG.Mul.factorFn_outcomes
#print axioms ICG.Mul.factor_monotone

/-
  ICG.Lemmas.MulXos — `_approx_xos_subroutine` and `_max_subroutine` (ICG.Model.Mul) on a complete game `okGet v`:
  the first in closed form, by induction along the players of `c` from a position on (`PlayersFromPos`); for the second
  the invariant `Grown` of a pass and of the `while` loop, fuel monotonicity, and termination when `n < fuel·eps²`.
  Also, used by the other Mul files: `marginal` (an entry of the additive vector), facts about the prefixes `c % 2^p`
  and `addPlayer`, the lemmas about `mapE`, and the singleton assertion (`singles_okGet`, `all_singles_ge_one`).
-/
import ICG.Model.Mul
import ICG.Lemmas.Enum
import ICG.Lemmas.BitFacts
import ICG.Lemmas.ListMax
import Mathlib.Algebra.Order.Field.Basic
import Mathlib.Algebra.Order.Ring.Pow

namespace ICG.Mul
open ICG

theorem mod_two_pow_eq_of_gap {c b p : Nat} (hbp : b ≤ p) (h : ∀ i, b ≤ i → i < p → c.testBit i = false) :
    c % 2 ^ b = c % 2 ^ p := by
  apply Nat.eq_of_testBit_eq
  intro i
  rw [Nat.testBit_mod_two_pow, Nat.testBit_mod_two_pow]
  by_cases hib : i < b
  · have : i < p := by omega
    simp [hib, this]
  · by_cases hip : i < p
    · simp [hib, hip, h i (by omega) hip]
    · simp [hib, hip]

theorem addPlayer_mod_two_pow {c p : Nat} (h : c.testBit p = true) : addPlayer (c % 2 ^ p) p = c % 2 ^ (p + 1) := by
  -- `c % 2^(p+1) = c % 2^p + 2^p·(bit p of c)`, and the sum of a number below `2^p` and `2^p` is their `|||`
  have h1 : c / 2 ^ p % 2 = 1 := of_decide_eq_true (Nat.testBit_eq_decide_div_mod_eq ▸ h)
  have h2 := Nat.two_pow_add_eq_or_of_lt (Nat.mod_lt c (Nat.two_pow_pos p)) 1
  rw [Nat.mul_one] at h2
  unfold addPlayer
  rw [Nat.mod_pow_succ, h1, Nat.mul_one, Nat.or_comm, ← h2, Nat.add_comm]

theorem mod_two_pow_eq_self_of_no_high {c b : Nat} (h : ∀ i, b ≤ i → c.testBit i = false) : c % 2 ^ b = c :=
  Nat.mod_eq_of_lt (Nat.lt_pow_two_of_testBit c h)

theorem size_addPlayer {c p : Nat} (h : c.testBit p = false) : size (addPlayer c p) = size c + 1 := by
  unfold addPlayer
  rw [size_or_of_disjoint, size_two_pow]
  apply Nat.eq_of_testBit_eq
  intro i
  rw [Nat.testBit_and, Nat.testBit_two_pow, Nat.zero_testBit]
  by_cases hpi : p = i
  · subst hpi; simp [h]
  · simp [hpi]

theorem mapE_cons_eq_ok {β γ : Type} (g : β → Except Err γ) (a : β) (l : List β) (out : List γ) :
    mapE g (a :: l) = .ok out ↔ ∃ y ys, g a = .ok y ∧ mapE g l = .ok ys ∧ out = y :: ys := by
  rw [mapE]
  cases g a with
  | error e => exact ⟨(fun h => nomatch h), fun ⟨_, _, h, _⟩ => nomatch h⟩
  | ok y =>
    cases mapE g l with
    | error e => exact ⟨(fun h => nomatch h), fun ⟨_, _, _, h, _⟩ => nomatch h⟩
    | ok ys =>
      exact ⟨fun h => ⟨y, ys, rfl, rfl, (Except.ok.inj h).symm⟩,
        fun ⟨_, _, h1, h2, h3⟩ => by cases h1; cases h2; rw [h3]⟩

theorem mapE_ok_of {β γ : Type} (g : β → Except Err γ) (f : β → γ) :
    ∀ (l : List β), (∀ x ∈ l, g x = .ok (f x)) → mapE g l = .ok (l.map f)
  | [], _ => rfl
  | a :: l, h => (mapE_cons_eq_ok g a l _).mpr
      ⟨_, _, h a List.mem_cons_self, mapE_ok_of g f l fun x hx => h x (List.mem_cons_of_mem _ hx), rfl⟩

theorem mapE_isOk_of {β γ : Type} (g : β → Except Err γ) :
    ∀ (l : List β), (∀ x ∈ l, ∃ y, g x = .ok y) → ∃ out, mapE g l = .ok out
  | [], _ => ⟨[], rfl⟩
  | a :: l, h => by
    obtain ⟨y, hy⟩ := h a List.mem_cons_self
    obtain ⟨out, hout⟩ := mapE_isOk_of g l (fun x hx => h x (List.mem_cons_of_mem _ hx))
    exact ⟨y :: out, (mapE_cons_eq_ok g a l _).mpr ⟨y, out, hy, hout, rfl⟩⟩

theorem mapE_getElem? {β γ : Type} (g : β → Except Err γ) :
    ∀ (l : List β) (out : List γ), mapE g l = .ok out →
      ∀ (j : Nat) (y : γ), out[j]? = some y → ∃ x, l[j]? = some x ∧ g x = .ok y
  | [], out, h, j, y, hy => by
    cases Except.ok.inj h
    cases hy
  | a :: l, out, h, j, y, hy => by
    obtain ⟨y', ys, hga, hl, rfl⟩ := (mapE_cons_eq_ok g a l out).mp h
    cases j with
    | zero => cases hy; exact ⟨a, rfl, hga⟩
    | succ j => exact mapE_getElem? g l ys hl j y hy

/-! ### `_approx_xos_subroutine` -/

/-- `ps` lists, in increasing order, the players of `c` from position `b` on -/
def PlayersFromPos (c b : Nat) (ps : List Nat) : Prop :=
  ps.Pairwise (· < ·) ∧ (∀ p ∈ ps, b ≤ p) ∧ ∀ i, b ≤ i → (c.testBit i = true ↔ i ∈ ps)

theorem playersFromPos_players (c : Nat) : PlayersFromPos c 0 (players c) :=
  ⟨players_pairwise c, fun _ _ => Nat.zero_le _, fun _ _ => mem_players.symm⟩

theorem PlayersFromPos.nil {c b : Nat} (h : PlayersFromPos c b []) : c % 2 ^ b = c :=
  mod_two_pow_eq_self_of_no_high fun i hi =>
    Bool.eq_false_iff.mpr fun hci => List.not_mem_nil ((h.2.2 i hi).mp hci)

theorem PlayersFromPos.cons {c b p : Nat} {ps : List Nat} (h : PlayersFromPos c b (p :: ps)) :
    c.testBit p = true ∧ c % 2 ^ b = c % 2 ^ p ∧ PlayersFromPos c (p + 1) ps := by
  obtain ⟨hs, hb, hc⟩ := h
  have hbp : b ≤ p := hb p List.mem_cons_self
  obtain ⟨hlt, hs'⟩ := List.pairwise_cons.mp hs
  refine ⟨(hc p hbp).mpr List.mem_cons_self, mod_two_pow_eq_of_gap hbp fun i hbi hip => ?_, hs', hlt, fun i hi => ?_⟩
  · refine Bool.eq_false_iff.mpr fun hci => ?_
    rcases List.mem_cons.mp ((hc i hbi).mp hci) with rfl | hmem
    · exact Nat.lt_irrefl _ hip
    · exact Nat.lt_asymm hip (hlt i hmem)
  · rw [hc i (by omega), List.mem_cons]
    exact or_iff_right (by omega)

/-- entry `p` of the additive vector that `_approx_xos_subroutine` forms for `C` -/
def marginal {α : Type} [Sub α] (v : Nat → α) (C p : Nat) : α := v (C % 2 ^ (p + 1)) - v (C % 2 ^ p)

section xos
variable {α : Type} [AddCommGroup α]

theorem approxXosGo_okGet (v : Nat → α) (c : Nat) : ∀ (ps : List Nat) (b : Nat), PlayersFromPos c b ps →
    approxXosGo (okGet v) ps (c % 2 ^ b) =
      .ok (ps.map (fun p => (p, marginal v c p)), ps.map (fun p => c % 2 ^ (p + 1))) := by
  intro ps
  induction ps with
  | nil => intro _ _; rfl
  | cons p ps ih =>
    intro b h
    obtain ⟨hcp, e1, h'⟩ := h.cons
    simp only [approxXosGo, okGet, e1, addPlayer_mod_two_pow hcp]
    rw [ih (p + 1) h']
    rfl

theorem approxXos_okGet (v : Nat → α) (c : Nat) :
    approxXos (okGet v) c =
      .ok ((players c).map (fun p => (p, marginal v c p)), (players c).map (fun p => c % 2 ^ (p + 1))) := by
  have := approxXosGo_okGet v c (players c) 0 (playersFromPos_players c)
  rwa [Nat.pow_zero, Nat.mod_one] at this

theorem marginals_sum (v : Nat → α) (c : Nat) : ∀ (ps : List Nat) (b : Nat), PlayersFromPos c b ps →
    (ps.map (marginal v c)).sum = v c - v (c % 2 ^ b) := by
  intro ps
  induction ps with
  | nil => intro b h; rw [h.nil, sub_self]; rfl
  | cons p ps ih =>
    intro b h
    obtain ⟨-, e1, h'⟩ := h.cons
    rw [List.map_cons, List.sum_cons, ih (p + 1) h', e1]
    exact sub_add_sub_cancel' _ _ _

theorem marginals_sum_players (v : Nat → α) (c : Nat) :
    ((players c).map (marginal v c)).sum = v c - v 0 := by
  have := marginals_sum v c (players c) 0 (playersFromPos_players c)
  rwa [Nat.pow_zero, Nat.mod_one] at this

end xos
/-! ### `_max_subroutine` -/

section maxsub
set_option linter.unusedSectionVars false
variable {α : Type} [Field α] [LinearOrder α] [IsStrictOrderedRing α]

/-- a stretch of `_max_subroutine` on `coalition` that starts with `c` constructed, ends with `r` and queries `qs`:
    `c ⊆ r ⊆ coalition`; either nothing was added or the test `len + 1 >= size` was False for the size of `r` (the code
    tests BEFORE adding); every queried id is `c' + p` for a part `c'` of `r` and a player `p` of the coalition
    outside `c'` -/
structure Grown (coalition : Nat) (reached : Nat → Bool) (c r : Nat) (qs : List Nat) : Prop where
  sub : c &&& r = c
  inside : r &&& coalition = r
  small : r = c ∨ reached (size r) = false
  queried : ∀ x ∈ qs, ∃ c' p, c' &&& r = c' ∧ coalition.testBit p = true ∧ c'.testBit p = false ∧ x = addPlayer c' p

theorem Grown.refl {coalition : Nat} {reached : Nat → Bool} {c : Nat} (hc : c &&& coalition = c) :
    Grown coalition reached c c [] :=
  ⟨Nat.and_self c, hc, Or.inl rfl, fun _ hx => nomatch hx⟩

theorem Grown.trans {coalition : Nat} {reached : Nat → Bool} {c r1 r2 : Nat} {qs1 qs2 : List Nat}
    (h1 : Grown coalition reached c r1 qs1) (h2 : Grown coalition reached r1 r2 qs2) :
    Grown coalition reached c r2 (qs1 ++ qs2) where
  sub := sub_trans h1.sub h2.sub
  inside := h2.inside
  small := by
    rcases h2.small with rfl | h
    · exact h1.small
    · exact Or.inr h
  queried := fun x hx => (List.mem_append.mp hx).elim
    (fun hx => let ⟨c', p, hc', hp⟩ := h1.queried x hx; ⟨c', p, sub_trans hc' h2.sub, hp⟩) (h2.queried x)

theorem Grown.step {coalition : Nat} {reached : Nat → Bool} {c p c2 : Nat} (hc : c &&& coalition = c)
    (hp : coalition.testBit p = true) (hcp : c.testBit p = false) (hr : reached (size c + 1) = false)
    (h2 : c2 = c ∨ c2 = addPlayer c p) : Grown coalition reached c c2 [addPlayer c p] := by
  have hadd : addPlayer c p &&& coalition = addPlayer c p := or_sub hc (two_pow_sub_of_testBit hp)
  have hq : ∀ x ∈ [addPlayer c p], ∃ c' q, c' &&& c2 = c' ∧ coalition.testBit q = true ∧ c'.testBit q = false ∧
      x = addPlayer c' q := fun x hx =>
    ⟨c, p, by rcases h2 with rfl | rfl; exacts [Nat.and_self _, and_or_self _ _], hp, hcp, List.mem_singleton.mp hx⟩
  rcases h2 with rfl | rfl
  · exact ⟨Nat.and_self _, hc, Or.inl rfl, hq⟩
  · exact ⟨and_or_self c (2 ^ p), hadd, Or.inr (by rw [size_addPlayer hcp]; exact hr), hq⟩

theorem maxPass_returns (v : Nat → α) (reached : Nat → Bool) (limit : α) :
    ∀ (ps : List Nat) (c : Nat), ∃ res, maxPass (okGet v) reached limit ps c = .ok res := by
  intro ps
  induction ps with
  | nil => exact fun c => ⟨_, rfl⟩
  | cons p ps ih =>
    intro c
    obtain ⟨res, hres⟩ := ih (if limit ≤ v (addPlayer c p) - v c then addPlayer c p else c)
    simp only [maxPass, okGet, hres]
    split <;> exact ⟨_, rfl⟩

theorem maxPass_post (v : Nat → α) (reached : Nat → Bool) (limit : α) {coalition : Nat} :
    ∀ (ps : List Nat) (c : Nat), c &&& coalition = c → (∀ p ∈ ps, coalition.testBit p = true ∧ c.testBit p = false) →
      ps.Nodup → ∀ r qs stop, maxPass (okGet v) reached limit ps c = .ok (r, qs, stop) → Grown coalition reached c r qs := by
  intro ps
  induction ps with
  | nil =>
    intro c hc _ _ r qs stop h
    cases h
    exact Grown.refl hc
  | cons p ps ih =>
    intro c hc hps hnd r qs stop h
    obtain ⟨hp, hcp⟩ := hps p List.mem_cons_self
    obtain ⟨hpps, hnd'⟩ := List.nodup_cons.mp hnd
    rw [maxPass] at h
    split at h                    -- `len + 1 >= size`: return
    · cases h
      exact Grown.refl hc
    rename_i hr
    simp only [okGet] at h
    split at h                    -- the rest of the pass, from `c` or from `c + p`
    · cases h
    rename_i r' qs' stop' hrest
    cases h
    have hstep : Grown coalition reached c (if limit ≤ v (addPlayer c p) - v c then addPlayer c p else c)
        [addPlayer c p] := Grown.step hc hp hcp (Bool.eq_false_iff.mpr hr) (by split; exacts [Or.inr rfl, Or.inl rfl])
    refine hstep.trans (ih _ hstep.inside (fun p' hp' => ⟨(hps p' (List.mem_cons_of_mem _ hp')).1, ?_⟩) hnd' _ _ _ hrest)
    split
    · rw [addPlayer_testBit, (hps p' (List.mem_cons_of_mem _ hp')).2, Bool.false_or]
      exact decide_eq_false fun e => hpps (e ▸ hp')
    · exact (hps p' (List.mem_cons_of_mem _ hp')).2

theorem passPlayers (coalition c : Nat) :
    ∀ p ∈ players (diff coalition c), coalition.testBit p = true ∧ c.testBit p = false := by
  intro p hp
  have := mem_players.mp hp
  rw [diff_testBit, Bool.and_eq_true, Bool.not_eq_true'] at this
  exact this

theorem maxLoop_post (v : Nat → α) (coalition : Nat) (reached : Nat → Bool) (thr q : α) :
    ∀ (fuel : Nat) (limit : α) (c : Nat), c &&& coalition = c →
      ∀ r qs, maxLoop (okGet v) coalition reached thr q fuel limit c = .ok (r, qs) → Grown coalition reached c r qs := by
  intro fuel
  induction fuel with
  | zero =>
    intro limit c hc r qs h
    rw [maxLoop] at h
    split at h
    · cases h
    · cases h
      exact Grown.refl hc
  | succ fuel ih =>
    intro limit c hc r qs h
    rw [maxLoop] at h
    split at h                    -- the `while` test
    · split at h                  -- the pass
      · cases h
      rename_i r1 qs1 stop hpass
      have g1 := maxPass_post v reached limit _ c hc (passPlayers coalition c) (players_nodup _) r1 qs1 stop hpass
      split at h                  -- `return` inside the pass
      · cases h
        exact g1
      split at h                  -- the following passes
      · cases h
      rename_i r2 qs2 hrec
      cases h
      exact g1.trans (ih _ r1 g1.inside _ qs2 hrec)
    · cases h
      exact Grown.refl hc

theorem maxLoop_returns (v : Nat → α) (coalition : Nat) (reached : Nat → Bool) (thr q : α) :
    ∀ (fuel : Nat) (limit : α) (c : Nat), (∃ j, j ≤ fuel ∧ limit * q ^ j < thr) →
      ∃ res, maxLoop (okGet v) coalition reached thr q fuel limit c = .ok res := by
  intro fuel
  induction fuel with
  | zero =>
    intro limit c ⟨j, hj, hlt⟩
    obtain rfl : j = 0 := Nat.le_zero.mp hj
    rw [pow_zero, mul_one] at hlt
    rw [maxLoop, if_neg (not_le.mpr hlt)]
    exact ⟨_, rfl⟩
  | succ fuel ih =>
    intro limit c ⟨j, hj, hlt⟩
    rw [maxLoop]
    split
    · rename_i hthr
      obtain ⟨⟨r1, qs1, stop⟩, hpass⟩ := maxPass_returns v reached limit (players (diff coalition c)) c
      rw [hpass]
      dsimp only
      split
      · exact ⟨_, rfl⟩
      · -- the test held for `limit`, so `j ≠ 0`: the schedule goes on from `limit * q` with `j - 1`
        cases j with
        | zero => exact absurd hthr (not_le.mpr (by rwa [pow_zero, mul_one] at hlt))
        | succ j =>
          obtain ⟨res, hres⟩ := ih (limit * q) r1 ⟨j, Nat.le_of_succ_le_succ hj, by rwa [mul_assoc, ← pow_succ']⟩
          rw [hres]
          exact ⟨_, rfl⟩
    · exact ⟨_, rfl⟩

theorem maxLoop_fuel_le (get : Nat → Except Err α) (coalition : Nat) (reached : Nat → Bool) (thr q : α) :
    ∀ (fuel fuel' : Nat), fuel ≤ fuel' → ∀ (limit : α) (c : Nat) (res : Nat × List Nat),
      maxLoop get coalition reached thr q fuel limit c = .ok res →
      maxLoop get coalition reached thr q fuel' limit c = .ok res := by
  intro fuel
  induction fuel with
  | zero =>
    intro fuel' _ limit c res h
    rw [maxLoop] at h
    by_cases hthr : thr ≤ limit   -- the `while` test must have failed: at any fuel the loop ends here
    · rw [if_pos hthr] at h; cases h
    rw [if_neg hthr] at h
    cases fuel' with
    | zero => rw [maxLoop, if_neg hthr]; exact h
    | succ fuel' => rw [maxLoop, if_neg hthr]; exact h
  | succ fuel ih =>
    intro fuel' hle limit c res h
    obtain ⟨fuel', rfl⟩ := Nat.exists_eq_add_one_of_ne_zero (Nat.ne_of_gt (Nat.lt_of_lt_of_le (Nat.succ_pos fuel) hle))
    rw [maxLoop] at h ⊢
    by_cases hthr : thr ≤ limit
    · rw [if_pos hthr] at h ⊢
      split at h                  -- the pass
      · cases h
      rename_i c' qs stop hpass
      by_cases hstop : stop = true
      · rw [if_pos hstop] at h ⊢
        exact h
      rw [if_neg hstop] at h ⊢
      split at h                  -- the following passes: `fuel` resp. `fuel'` left
      · cases h
      rename_i r2 qs' hrec
      rw [ih fuel' (Nat.le_of_succ_le_succ hle) _ _ _ hrec]
      exact h
    · rw [if_neg hthr] at h ⊢
      exact h

/-- the geometric schedule falls below `eps·init/n` within `fuel` steps as soon as `n < fuel·eps²`:
    for `eps ≤ 1` by Bernoulli `(1−eps)^f·(1 + f·eps) ≤ ((1−eps)(1+eps))^f ≤ 1` and `n < f·eps² < eps·(1 + f·eps)`;
    for `eps > 1` after one step, `1 − eps` being negative -/
theorem schedule_below {eps init : α} {n fuel : Nat} (heps : 0 < eps) (hinit : 0 < init) (hn : n ≠ 0)
    (hfuel : (n : α) < fuel * eps * eps) :
    ∃ j, j ≤ fuel ∧ init * (1 - eps) ^ j < eps * init / (n : α) := by
  have hnpos : (0 : α) < n := Nat.cast_pos.mpr (Nat.pos_of_ne_zero hn)
  rcases le_or_gt eps 1 with h1 | h1
  · refine ⟨fuel, le_rfl, ?_⟩
    have hq0 : 0 ≤ 1 - eps := sub_nonneg.mpr h1
    have hfe : 0 < 1 + (fuel : α) * eps := add_pos_of_pos_of_nonneg one_pos (mul_nonneg (Nat.cast_nonneg _) heps.le)
    have h2 : (1 - eps) ^ fuel * (1 + (fuel : α) * eps) ≤ 1 :=
      calc (1 - eps) ^ fuel * (1 + (fuel : α) * eps)
          ≤ (1 - eps) ^ fuel * (1 + eps) ^ fuel :=
            mul_le_mul_of_nonneg_left (one_add_mul_le_pow ((neg_nonpos.mpr zero_le_two).trans heps.le) fuel) (pow_nonneg hq0 _)
        _ = (1 - eps * eps) ^ fuel := by rw [← mul_pow, mul_comm, ← mul_self_sub_mul_self, mul_one]
        _ ≤ 1 := pow_le_one₀ (sub_nonneg.mpr (mul_le_one₀ h1 heps.le h1)) (sub_le_self _ (mul_self_nonneg eps))
    have h3 : (n : α) * (1 - eps) ^ fuel < eps := by
      apply lt_of_mul_lt_mul_right _ hfe.le
      calc (n : α) * (1 - eps) ^ fuel * (1 + (fuel : α) * eps)
          = (n : α) * ((1 - eps) ^ fuel * (1 + (fuel : α) * eps)) := mul_assoc _ _ _
        _ ≤ (n : α) * 1 := mul_le_mul_of_nonneg_left h2 hnpos.le
        _ < eps + fuel * eps * eps := (mul_one (n : α)).symm ▸ hfuel.trans (lt_add_of_pos_left _ heps)
        _ = eps * (1 + (fuel : α) * eps) := by rw [mul_add, mul_one, mul_comm eps]
    rw [lt_div_iff₀ hnpos]
    calc init * (1 - eps) ^ fuel * (n : α) = init * ((n : α) * (1 - eps) ^ fuel) := by rw [mul_assoc, mul_comm (n : α)]
      _ < init * eps := mul_lt_mul_of_pos_left h3 hinit
      _ = eps * init := mul_comm _ _
  · -- `eps > 1`: the first factor `1 − eps` is already negative
    have hf : fuel ≠ 0 := by
      rintro rfl
      rw [Nat.cast_zero, zero_mul, zero_mul] at hfuel
      exact absurd hfuel (not_lt.mpr hnpos.le)
    refine ⟨1, Nat.one_le_iff_ne_zero.mpr hf, ?_⟩
    rw [pow_one]
    exact lt_trans (mul_neg_of_pos_of_neg hinit (sub_neg.mpr h1)) (div_pos (mul_pos heps hinit) hnpos)

theorem singles_okGet (v : Nat → α) (l : List Nat) :
    mapE (fun p => okGet v (singleton p)) l = .ok (l.map (fun p => v (singleton p))) :=
  mapE_ok_of _ _ l fun _ _ => rfl

/-- `assert np.all(singleton_values >= 1)` -/
theorem all_singles_ge_one (v : Nat → α) (l : List Nat) :
    (l.map (fun p => v (singleton p))).all (fun s => decide (1 ≤ s)) = true ↔ ∀ p ∈ l, 1 ≤ v (singleton p) := by
  simp only [List.all_map, List.all_eq_true, Function.comp, decide_eq_true_eq]

theorem players_ne_nil {c : Nat} (hc : c ≠ 0) : players c ≠ [] := fun h =>
  hc (size_eq_zero_iff.mp (by rw [size_eq_length_players, h]; rfl))

theorem maxSubroutine_eq_maxLoop (v : Nat → α) (n coalition : Nat) (reached : Nat → Bool) (eps : α) (fuel : Nat)
    (hc : coalition ≠ 0) (hn : n ≠ 0) (h1 : ∀ p ∈ players coalition, 1 ≤ v (singleton p)) :
    ∃ init, listMax? ((players coalition).map (fun p => v (singleton p))) = some init ∧ 1 ≤ init ∧
      maxSubroutine (okGet v) n coalition reached eps fuel =
        maxLoop (okGet v) coalition reached (eps * init / (n : α)) (1 - eps) fuel init 0 := by
  obtain ⟨init, hinit⟩ := listMax?_isSome (l := (players coalition).map (fun p => v (singleton p)))
    (fun h => players_ne_nil hc (List.map_eq_nil_iff.mp h))
  obtain ⟨p0, hp0, hp0e⟩ := List.mem_map.mp (listMax?_mem hinit)
  refine ⟨init, hinit, hp0e ▸ h1 p0 hp0, ?_⟩
  unfold maxSubroutine
  rw [if_neg hc, singles_okGet]
  dsimp only
  rw [if_pos ((all_singles_ge_one v _).mpr h1), hinit]
  dsimp only
  rw [if_neg hn]

/-- with `0 < eps`, singletons ≥ 1 inside the coalition and `n < fuel·eps²` the fuel suffices: the call never answers
    the out-of-fuel marker `Err.other` -/
theorem maxSubroutine_terminates (v : Nat → α) (n coalition : Nat) (reached : Nat → Bool) (eps : α) (fuel : Nat)
    (hn : n ≠ 0) (h1 : ∀ p ∈ players coalition, 1 ≤ v (singleton p)) (heps : 0 < eps)
    (hfuel : (n : α) < fuel * eps * eps) :
    ∃ res, maxSubroutine (okGet v) n coalition reached eps fuel = .ok res := by
  by_cases h0 : coalition = 0
  · exact ⟨(0, []), by unfold maxSubroutine; rw [if_pos h0]⟩
  · obtain ⟨init, -, hinit, heq⟩ := maxSubroutine_eq_maxLoop v n coalition reached eps fuel h0 hn h1
    rw [heq]
    exact maxLoop_returns v coalition reached _ _ fuel init 0
      (schedule_below heps (lt_of_lt_of_le zero_lt_one hinit) hn hfuel)


/-- an answer of `_max_subroutine` on a complete game: the constructed coalition lies inside the coalition; it is
    empty or the test `len + 1 >= size` was False for its own size (the code checks BEFORE adding, so it never holds
    `size` players or more); every queried id is `C + player` for a part `C` of the result and a player of the
    coalition outside `C` -/
theorem maxSubroutine_result (v : Nat → α) (n coalition : Nat) (reached : Nat → Bool) (eps : α) (fuel : Nat)
    (r : Nat) (qs : List Nat) (h : maxSubroutine (okGet v) n coalition reached eps fuel = .ok (r, qs)) :
    r &&& coalition = r ∧ (r = 0 ∨ reached (size r) = false) ∧
    (∀ x ∈ qs, ∃ c' p, c' &&& r = c' ∧ coalition.testBit p = true ∧ c'.testBit p = false ∧ x = addPlayer c' p) := by
  unfold maxSubroutine at h
  by_cases hc : coalition = 0
  · rw [if_pos hc] at h
    simp only [Except.ok.injEq, Prod.mk.injEq] at h
    obtain ⟨rfl, rfl⟩ := h
    exact ⟨Nat.zero_and _, Or.inl rfl, fun x hx => by cases hx⟩
  · rw [if_neg hc, singles_okGet] at h
    dsimp only at h
    split at h
    · split at h
      · cases h
      · split at h
        · cases h
        · have g := maxLoop_post v coalition reached _ _ fuel _ 0 (Nat.zero_and _) r qs h
          exact ⟨g.inside, g.small, g.queried⟩
    · cases h


end maxsub
end ICG.Mul

#print axioms ICG.Mul.maxSubroutine_terminates
#print axioms ICG.Mul.maxSubroutine_result

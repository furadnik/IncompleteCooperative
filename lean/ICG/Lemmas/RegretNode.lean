/-
  ICG.Lemmas.RegretNode — what one regret minimiser (one node of the tree) does: regret matching yields a
  distribution on the unused coalitions, one update is orthogonal to the strategy played, clipping.  Also the two
  things the average strategy reuses: `normalize_distribution` and the notion `Weights` of what gets normalised.
-/
import ICG.Model.Regret
import ICG.Lemmas.Regret
import Mathlib.Algebra.Order.Field.Basic
import Mathlib.Algebra.BigOperators.Group.List.Basic

namespace ICG.Regret
open ICG

section algebra
variable {α : Type} [Field α]

theorem sum_map_div' (l : List α) (s : α) : (l.map (· / s)).sum = l.sum / s := by
  induction l with
  | nil => simp
  | cons x xs ih => rw [List.map_cons, List.sum_cons, ih, List.sum_cons, add_div]

/-- `⟨q, σ⟩` on the right in the order the code computes it, `(q_values[i] * strategy).sum()` -/
theorem dot_sub_const : ∀ (σ q : List α) (e : α), σ.length = q.length →
    (List.zipWith (· * ·) σ (q.map (· - e))).sum = (List.zipWith (· * ·) q σ).sum - e * σ.sum
  | [], [], e, _ => by simp
  | [], _ :: _, _, h => nomatch h
  | _ :: _, [], _, h => nomatch h
  | a :: σ, b :: q, e, h => by
    simp only [List.map_cons, List.zipWith_cons_cons, List.sum_cons]
    rw [dot_sub_const σ q e (Nat.succ.inj h), mul_sub, mul_add, sub_add_sub_comm, mul_comm a e, mul_comm a b]

/-- the regret added, `q_a − e` with `e = Σ_b q_b σ_b`, is orthogonal to `σ` because `σ` sums to one -/
theorem update_orthogonal {σ q : List α} (hlen : σ.length = q.length) (hs : σ.sum = 1) :
    (List.zipWith (· * ·) σ (q.map (· - listSum (List.zipWith (· * ·) q σ)))).sum = 0 := by
  rw [dot_sub_const σ q _ hlen, listSum_eq_sum, hs, mul_one, sub_self]

theorem zipWith_add_sub_cancel : ∀ (row add : List α), row.length = add.length →
    List.zipWith (fun r' r => r' - r) (List.zipWith (· + ·) row add) row = add
  | [], [], _ => rfl
  | [], _ :: _, h => nomatch h
  | _ :: _, [], h => nomatch h
  | r :: row, a :: add, h => by
    simp only [List.zipWith_cons_cons]
    rw [zipWith_add_sub_cancel row add (Nat.succ.inj h)]
    congr 1
    exact add_sub_cancel_left r a

theorem regret_update_sub (r q : List α) (e : α) (h : r.length = q.length) :
    List.zipWith (fun r' r => r' - r) (List.zipWith (fun r q => r + (q - e)) r q) r = q.map (· - e) := by
  rw [← List.zipWith_map_right (f := (· - e)) (g := (· + ·))]
  exact zipWith_add_sub_cancel r _ (by rw [List.length_map]; exact h)

end algebra

theorem zipWith_forall {β γ δ} {f : β → γ → δ} {P : δ → Prop} {Q : β → Prop} {S : γ → Prop}
    (hf : ∀ b c, Q b → S c → P (f b c)) : ∀ (l : List β) (l' : List γ),
    (∀ b ∈ l, Q b) → (∀ c ∈ l', S c) → ∀ d ∈ List.zipWith f l l', P d
  | [], _, _, _ => by simp
  | _ :: _, [], _, _ => by simp
  | b :: l, c :: l', hb, hc => by
    intro d hd
    rw [List.zipWith_cons_cons] at hd
    rcases List.mem_cons.mp hd with rfl | hd
    · exact hf b c (hb b List.mem_cons_self) (hc c List.mem_cons_self)
    · exact zipWith_forall hf l l' (fun x hx => hb x (List.mem_cons_of_mem _ hx))
        (fun x hx => hc x (List.mem_cons_of_mem _ hx)) d hd

section order
variable {α : Type} [Field α] [LinearOrder α]

theorem posPart_nonneg (x : α) : 0 ≤ posPart x := by
  unfold posPart; split <;> [exact le_of_lt ‹_›; exact le_refl _]

theorem posPart_of_nonpos {x : α} (h : x ≤ 0) : posPart x = 0 := by
  unfold posPart; rw [if_neg (not_lt.mpr h)]

theorem map_posPart_nonneg (l : List α) : ∀ x ∈ l.map posPart, 0 ≤ x :=
  List.forall_mem_map.mpr fun x _ => posPart_nonneg x

theorem posPart_used_nonpos {new : List α} {used : List Nat} (h : ∀ a ∈ used, ∀ h : a < new.length, new[a] ≤ 0) :
    ∀ a ∈ used, ∀ h : a < (new.map posPart).length, (new.map posPart)[a] ≤ 0 := by
  intro a ha h'
  rw [List.getElem_map, posPart_of_nonpos (h a ha (List.length_map (as := new) posPart ▸ h'))]

end order

section node
variable {α : Type} [Field α] [LinearOrder α] [IsStrictOrderedRing α]

-- Mathlib's `List.sum_nonneg` and `List.single_le_sum` live in Algebra.Order.BigOperators.Group.List, which this file
-- does not import

theorem sum_nonneg' : ∀ (l : List α), (∀ x ∈ l, 0 ≤ x) → 0 ≤ l.sum
  | [], _ => by simp
  | x :: xs, h => by
    rw [List.sum_cons]
    exact add_nonneg (h x List.mem_cons_self) (sum_nonneg' xs fun y hy => h y (List.mem_cons_of_mem _ hy))

theorem le_sum_of_mem' : ∀ (l : List α), (∀ x ∈ l, 0 ≤ x) → ∀ x ∈ l, x ≤ l.sum
  | [], _, x, hx => by simp at hx
  | y :: ys, h, x, hx => by
    rw [List.sum_cons]
    have h1 := sum_nonneg' ys (fun z hz => h z (List.mem_cons_of_mem _ hz))
    rcases List.mem_cons.mp hx with rfl | hx'
    · exact le_add_of_nonneg_right h1
    · exact (le_sum_of_mem' ys (fun z hz => h z (List.mem_cons_of_mem _ hz)) x hx').trans
        (le_add_of_nonneg_left (h y List.mem_cons_self))

theorem sum_eq_zero_of_nonneg {l : List α} (h : ∀ x ∈ l, 0 ≤ x) (hs : l.sum = 0) : ∀ x ∈ l, x = 0 :=
  fun x hx => le_antisymm (hs ▸ le_sum_of_mem' l h x hx) (h x hx)

theorem normalize_distribution {l : List α} (hnn : ∀ x ∈ l, 0 ≤ x) (hpos : ∃ x ∈ l, 0 < x) :
    ∃ σ : List α, normalize l = .ok σ ∧ σ.length = l.length ∧ (∀ x ∈ σ, 0 ≤ x) ∧ σ.sum = 1 ∧
      ∀ i : Nat, l[i]? = some 0 → σ[i]? = some 0 := by
  obtain ⟨x, hx, hx0⟩ := hpos
  have hs : 0 < l.sum := lt_of_lt_of_le hx0 (le_sum_of_mem' l hnn x hx)
  refine ⟨l.map (· / l.sum), ?_, List.length_map _, ?_, ?_, ?_⟩
  · unfold normalize
    simp only [listSum_eq_sum, hs.ne', if_false]
  · exact List.forall_mem_map.mpr fun z hz => div_nonneg (hnn z hz) hs.le
  · rw [sum_map_div', div_self hs.ne']
  · intro i hi
    rw [List.getElem?_map, hi, Option.map_some, zero_div]


/-- what regret matching and the average strategy normalise: weights over the `m` viable coalitions, ≥ 0, not all
    zero, and zero on the coalitions `used` (already revealed at the node) -/
structure Weights (m : Nat) (used : List Nat) (v : List α) : Prop where
  len : v.length = m
  nonneg : ∀ x ∈ v, 0 ≤ x
  pos : ∃ x ∈ v, 0 < x
  zero : ∀ a ∈ used, v[a]? = some 0

omit [IsStrictOrderedRing α] in
theorem Weights.of_nonneg {m : Nat} {used : List Nat} {v : List α} (hlen : v.length = m) (hnn : ∀ x ∈ v, 0 ≤ x)
    (hne : ¬ ∀ x ∈ v, x = 0) (hz : ∀ a ∈ used, v[a]? = some 0) : Weights m used v := by
  refine ⟨hlen, hnn, ?_, hz⟩
  by_contra hcon
  push Not at hcon
  exact hne fun x hx => le_antisymm (hcon x hx) (hnn x hx)

theorem Weights.normalize {m : Nat} {used : List Nat} {v : List α} (h : Weights m used v) :
    ∃ σ, normalize v = .ok σ ∧ σ.length = m ∧ (∀ x ∈ σ, 0 ≤ x) ∧ σ.sum = 1 ∧ ∀ a ∈ used, σ[a]? = some 0 := by
  obtain ⟨σ, hok, hl, hnn, hsum, hz⟩ := normalize_distribution h.nonneg h.pos
  exact ⟨σ, hok, hl.trans h.len, hnn, hsum, fun a ha => hz a (h.zero a ha)⟩

/-- the fallback `u = np.ones(m); u[used] = 0` -/
theorem onesWithout_weights {m : Nat} {used : List Nat} (h : ∀ i ∈ used, i < m) (hfree : ∃ j, j < m ∧ j ∉ used) :
    ∃ u : List α, onesWithout m used = .ok u ∧ Weights m used u := by
  obtain ⟨j, hjm, hju⟩ := hfree
  refine ⟨(List.range m).map (fun i => if i ∈ used then 0 else 1), ?_, (List.length_map _).trans List.length_range,
    ?_, ⟨1, ?_, zero_lt_one⟩, ?_⟩
  · unfold onesWithout
    rw [if_pos (List.all_eq_true.mpr fun i hi => decide_eq_true (h i hi))]
  · refine List.forall_mem_map.mpr fun i _ => ?_
    split <;> [exact le_refl _; exact zero_le_one]
  · exact List.mem_map.mpr ⟨j, List.mem_range.mpr hjm, if_neg hju⟩
  · intro i hi
    rw [List.getElem?_map, List.getElem?_range (h i hi), Option.map_some, if_pos hi]

theorem regretMatchingRow_distribution {m : Nat} {row : List α} {used : List Nat}
    (hlen : row.length = m) (hused : ∀ i ∈ used, i < m)
    (hneg : ∀ i ∈ used, ∀ h : i < row.length, row[i] ≤ 0)
    (hfree : ∃ j, j < m ∧ j ∉ used) :
    ∃ σ, regretMatchingRow m row used = .ok σ ∧ σ.length = m ∧ (∀ x ∈ σ, 0 ≤ x) ∧ σ.sum = 1 ∧
      ∀ i ∈ used, σ[i]? = some 0 := by
  unfold regretMatchingRow
  dsimp only
  split
  · -- no positive regret: uniform over the unused coalitions
    obtain ⟨u, hu, hw⟩ := onesWithout_weights (α := α) hused hfree
    rw [hu]
    exact hw.normalize
  · rename_i hz
    refine (Weights.of_nonneg (by rw [List.length_map, hlen]) (map_posPart_nonneg row)
      (fun h0 => hz ((listSum_eq_sum _).trans (List.sum_eq_zero h0))) fun i hi => ?_).normalize
    have him : i < row.length := hlen ▸ hused i hi
    rw [List.getElem?_map, List.getElem?_eq_getElem him, Option.map_some, posPart_of_nonpos (hneg i hi him)]

theorem dot_nonneg (q σ : List α) (hq : ∀ x ∈ q, 0 ≤ x) (hσ : ∀ x ∈ σ, 0 ≤ x) :
    0 ≤ (List.zipWith (· * ·) q σ).sum :=
  sum_nonneg' _ (zipWith_forall (fun _ _ => mul_nonneg) q σ hq hσ)


theorem node_strategy {rm : RM α} {mc i : Nat} {row : List α}
    (hrank : rm.rankOf mc = .ok i) (hrow : getIdx rm.regret i = .ok row) (hlen : row.length = rm.m)
    (hused : ∀ a ∈ players mc, a < rm.m) (hneg : ∀ a ∈ players mc, ∀ h : a < row.length, row[a] ≤ 0)
    (hfree : ∃ j, j < rm.m ∧ j ∉ players mc) :
    ∃ σ, rm.regretMatching mc = .ok σ ∧ σ.length = rm.m ∧ (∀ x ∈ σ, 0 ≤ x) ∧ σ.sum = 1 ∧
      ∀ a ∈ players mc, σ[a]? = some 0 := by
  unfold RM.regretMatching
  rw [hrank, ok_bind, hrow, ok_bind]
  exact regretMatchingRow_distribution hlen hused hneg hfree

/-- on the revealed coalitions the q-value is 0 (never assigned) and the experienced loss `e` is ≥ 0 -/
theorem update_used_nonpos {row q : List α} {used : List Nat} {e : α} (he : 0 ≤ e)
    (hq0 : ∀ a ∈ used, ∀ h : a < q.length, q[a] = 0)
    (hneg : ∀ a ∈ used, ∀ h : a < row.length, row[a] ≤ 0) :
    ∀ a ∈ used, ∀ h : a < (List.zipWith (fun r q => r + (q - e)) row q).length,
      (List.zipWith (fun r q => r + (q - e)) row q)[a] ≤ 0 := by
  intro a ha h
  rw [List.length_zipWith] at h
  rw [List.getElem_zipWith, hq0 a ha (h.trans_le (Nat.min_le_right ..))]
  rw [zero_sub, ← sub_eq_add_neg, sub_nonpos]
  exact (hneg a ha (h.trans_le (Nat.min_le_left ..))).trans he

end node

end ICG.Regret

/-
  ICG.Lemmas.NormFacts — (namespace `ICG.Norm`) lemmas about ICG.Model.Normalize and the table that C15, C10 and the
  Shapley files share: sums over the members of a mask (`bsum`), the additivity guard, `pairs` as
  `itertools.combinations(·, 2)`, reading a table, graph values.
-/
import ICG.Model.Normalize
import ICG.Lemmas.BitFacts
import ICG.Lemmas.Enum
import Mathlib.Algebra.BigOperators.Group.Finset.Basic
import Mathlib.Algebra.Order.BigOperators.Group.Finset
import Mathlib.Algebra.Order.Field.Basic

namespace ICG.Norm
open ICG Finset

variable {α : Type}

theorem listSum_eq_sum [AddCommMonoid α] (l : List α) : listSum l = l.sum := by
  unfold listSum
  rw [List.sum_eq_foldl]

theorem listSum_nil [Add α] [Zero α] : listSum ([] : List α) = 0 := rfl

/-! ### sums over the members of a mask -/

/-- `Σ_{i < n, i ∈ c} f i` -/
def bsum [AddCommMonoid α] (n : Nat) (f : Nat → α) (c : Nat) : α :=
  ∑ i ∈ range n, if c.testBit i then f i else 0

theorem bsum_zero [AddCommMonoid α] (n : Nat) (f : Nat → α) : bsum n f 0 = 0 := by
  simp [bsum]

theorem bsum_or [AddCommMonoid α] (n : Nat) (f : Nat → α) {a b : Nat} (h : a &&& b = 0) :
    bsum n f (a ||| b) = bsum n f a + bsum n f b := by
  unfold bsum
  rw [← Finset.sum_add_distrib]
  refine Finset.sum_congr rfl (fun i _ => ?_)
  rw [Nat.testBit_or]
  cases ha : a.testBit i <;> cases hb : b.testBit i
  · exact (add_zero _).symm
  · exact (zero_add _).symm
  · exact (add_zero _).symm
  · exact absurd ⟨ha, hb⟩ (testBit_disjoint h)

theorem bsum_two_pow [AddCommMonoid α] {n i : Nat} (f : Nat → α) (hi : i < n) : bsum n f (2 ^ i) = f i := by
  unfold bsum
  rw [Finset.sum_eq_single_of_mem i (Finset.mem_range.mpr hi)]
  · simp
  · intro j _ hj
    have : (2 ^ i).testBit j = false := by
      rw [Nat.testBit_two_pow]; simp; omega
    simp [this]

theorem bsum_grand [AddCommMonoid α] (n : Nat) (f : Nat → α) : bsum n f (grand n) = ∑ i ∈ range n, f i := by
  unfold bsum
  apply Finset.sum_congr rfl
  intro i hi
  rw [testBit_grand]
  simp [Finset.mem_range.mp hi]

theorem bsum_congr [AddCommMonoid α] (n : Nat) {f g : Nat → α} (h : ∀ i, i < n → f i = g i) (c : Nat) :
    bsum n f c = bsum n g c := by
  unfold bsum
  apply Finset.sum_congr rfl
  intro i hi
  rw [h i (Finset.mem_range.mp hi)]

theorem bsum_nonneg [AddCommMonoid α] [PartialOrder α] [IsOrderedAddMonoid α] (n : Nat) {f : Nat → α}
    (h : ∀ i, i < n → 0 ≤ f i) (c : Nat) : 0 ≤ bsum n f c := by
  unfold bsum
  apply Finset.sum_nonneg
  intro i hi
  split
  · exact h i (Finset.mem_range.mp hi)
  · exact le_refl _

/-- the sum the code forms over `coalition.players` is the mask sum -/
theorem listSum_players [AddCommMonoid α] {n c : Nat} (hc : c < 2 ^ n) (f : Nat → α) :
    listSum ((players c).map f) = bsum n f c := by
  rw [listSum_eq_sum, ← List.sum_toFinset f (players_nodup c)]
  unfold bsum
  rw [← Finset.sum_filter]
  apply Finset.sum_congr _ (fun _ _ => rfl)
  ext i
  simp only [List.mem_toFinset, mem_players, Finset.mem_filter, Finset.mem_range]
  constructor
  · exact fun h => ⟨lt_of_testBit hc h, h⟩
  · exact fun h => h.2

theorem listSum_range_map [AddCommMonoid α] (n : Nat) (f : Nat → α) :
    listSum ((List.range n).map f) = ∑ i ∈ range n, f i := by
  rw [listSum_eq_sum, ← List.sum_toFinset f (List.nodup_range (n := n))]
  apply Finset.sum_congr _ (fun _ _ => rfl)
  ext i; simp

/-! ### the additivity guard of `_normalize_icg`: `np.isclose(surplus + Σ, Σ, rtol, atol = 0)` -/

section additive
variable [Field α] [LinearOrder α]

theorem absN_eq_abs (x : α) : absN x = |x| := (abs_eq_max_neg (a := x)).symm

variable [DecidableLE α]

/-- in exact arithmetic `(surplus + Σ) − Σ` is the surplus: the guard says `|surplus| ≤ rtol · |Σ singletons|` -/
theorem isAdditive_iff (rtol sur : α) (sv : List α) :
    isAdditive rtol (sur, sv) = true ↔ |sur| ≤ rtol * |listSum sv| := by
  simp only [isAdditive, decide_eq_true_iff, absN_eq_abs, add_sub_cancel_right]

theorem closedAdditive_iff (n : Nat) (rtol : α) (v : Nat → α) :
    closedAdditive n rtol v = true ↔
      |closedW v (grand n)| ≤ rtol * |∑ i ∈ range n, v (2 ^ i)| := by
  simp only [closedAdditive, decide_eq_true_iff, absN_eq_abs, singleton, listSum_range_map]

theorem isAdditive_closed (n : Nat) (rtol : α) (v : Nat → α) :
    isAdditive rtol (closedW v (grand n), (List.range n).map (fun i => v (2 ^ i))) = closedAdditive n rtol v := by
  rw [Bool.eq_iff_iff, isAdditive_iff, closedAdditive_iff, listSum_range_map]

end additive

theorem sub_grand_mask {c n : Nat} (hc : c < 2 ^ n) : c &&& grand n = c := by
  apply sub_of_testBit
  intro i hi
  rw [testBit_grand]
  simpa using lt_of_testBit hc hi

theorem two_pow_lt_two_pow {i n : Nat} (h : i < n) : 2 ^ i < 2 ^ n := Nat.pow_lt_pow_right (by omega) h

theorem singleton_eq (i : Nat) : singleton i = 2 ^ i := rfl

theorem players_two_pow (i : Nat) : players (2 ^ i) = [i] := by
  rw [← fromPlayers_singleton]
  exact players_fromPlayers (by simp)

/-! ### `itertools.combinations(l, 2)` -/

theorem mem_pairs {β} {l : List β} {p : β × β} {r : β → β → Prop} (hl : l.Pairwise r) (hp : p ∈ pairs l) :
    p.1 ∈ l ∧ p.2 ∈ l ∧ r p.1 p.2 := by
  induction l with
  | nil => simp [pairs] at hp
  | cons a l ih =>
    rw [List.pairwise_cons] at hl
    simp only [pairs, List.mem_append, List.mem_map] at hp
    rcases hp with ⟨b, hb, rfl⟩ | hp
    · exact ⟨by simp, by simp [hb], hl.1 b hb⟩
    · obtain ⟨h1, h2, h3⟩ := ih hl.2 hp
      exact ⟨by simp [h1], by simp [h2], h3⟩

/-- `pairs` is `itertools.combinations(·, 2)` as modelled by `combos`, in the same order -/
theorem pairs_eq_combos {β} (l : List β) : (pairs l).map (fun p => [p.1, p.2]) = combos 2 l := by
  have h1 : ∀ l : List β, combos 1 l = l.map (fun b => [b]) := by
    intro l
    induction l with
    | nil => simp [combos]
    | cons a l ih => simp [combos, ih]
  induction l with
  | nil => simp [pairs, combos]
  | cons a l ih =>
    simp only [pairs, combos, List.map_append, List.map_map, ih, h1]
    congr 1

/-! ### reading a table -/

/-- `get_value(c)` for a row in range: the lower column if known, ValueError if not -/
theorem getValue_lt (t : Table α) {c : Nat} (hc : c < 2 ^ t.n) :
    t.getValue c = if t.known c then .ok (t.lo c) else .error .value := by
  rw [Table.getValue, if_pos (show c < t.rows from hc)]

/-- `get_values(coalitions)` succeeds when every requested row is in range and known; it reads the upper column -/
theorem getValues_known (t : Table α) {ids : List Nat} (h : ∀ c ∈ ids, c < 2 ^ t.n ∧ t.known c = true) :
    t.getValues (some ids) = .ok (ids.map t.hi) := by
  have h1 : ids.all (· < t.rows) = true := List.all_eq_true.mpr (fun c hc => decide_eq_true (h c hc).1)
  have h2 : ids.all t.known = true := List.all_eq_true.mpr (fun c hc => (h c hc).2)
  simp only [Table.getValues, h1, h2, if_true]

/-! ### values of a graph game -/

theorem pairs_players_lt {n c : Nat} (hc : c < 2 ^ n) {p : Nat × Nat} (hp : p ∈ pairs (players c)) :
    p.1 < p.2 ∧ p.1 < n ∧ p.2 < n := by
  obtain ⟨h1, h2, h3⟩ := mem_pairs (players_pairwise c) hp
  exact ⟨h3, lt_of_testBit hc (mem_players.mp h1), lt_of_testBit hc (mem_players.mp h2)⟩

/-- the value of a coalition `< 2^n` reads only the weights above the diagonal of the leading `n × n` block -/
theorem graphValue_congr [Add α] [Zero α] {g : GraphGame α} {n : Nat} {F : Nat → Nat → α}
    (hm : ∀ i j, i < j → j < n → g.m i j = F i j) {c : Nat} (hc : c < 2 ^ n) :
    graphValue g c = listSum ((pairs (players c)).map (fun p => F p.1 p.2)) := by
  unfold graphValue
  refine congrArg listSum (List.map_congr_left (fun p hp => ?_))
  obtain ⟨h1, _, h3⟩ := pairs_players_lt hc hp
  exact hm _ _ h1 h3

theorem graphValue_empty [Add α] [Zero α] (g : GraphGame α) : graphValue g 0 = 0 := by
  rw [graphValue, players_zero]; rfl

theorem graphValue_singleton [Add α] [Zero α] (g : GraphGame α) (i : Nat) : graphValue g (2 ^ i) = 0 := by
  rw [graphValue, players_two_pow]; rfl

end ICG.Norm

#print axioms ICG.Norm.pairs_players_lt
#print axioms ICG.Norm.graphValue_empty
#print axioms ICG.Norm.graphValue_singleton

/-
  ICG.Lemmas.ShapleyOrderings — the Shapley formula is the average marginal contribution over all
  orderings of the players, for every number of players.

  The specification (`maskOf`, `predMask`, `marginal`, `shapleyOrd`) is readable without the proofs; `shapleyOrd` sums
  over Mathlib's `List.permutations`, which lists every ordering exactly once (`List.mem_permutations`,
  `nodup_permutations`, `length_permutations`).

  Proof: `perm_sum` groups the orderings by the predecessor set of `i` (induction on the number of players left,
  through the first-element decomposition of the orderings and a re-indexing of (player, subset) pairs); then the
  subsets of `{0..n−1}∖{i}` are read as the masks `< 2^n` without bit `i`.

  Last: `orderings`, an enumeration that the kernel can run, and `shapleyOrdE` over it, equal to `shapleyOrd`.
-/
import ICG.Lemmas.ShapleyBridge
import Mathlib.Algebra.BigOperators.Group.Finset.Basic
import Mathlib.Algebra.BigOperators.Group.Finset.Sigma
import Mathlib.Algebra.BigOperators.Group.Finset.Piecewise
import Mathlib.Data.Finset.Powerset
import Mathlib.Data.List.Permutation
import Mathlib.Data.List.Perm.Basic
import Mathlib.Data.Nat.Factorial.Basic

namespace ICG
open Finset

/-! ### specification -/

/-- the coalition formed by the players in `l` -/
def maskOf (l : List Nat) : Nat := l.foldr (fun p m => 2 ^ p ||| m) 0

/-- the players before `i` in the ordering `σ`, as a coalition -/
def predMask (σ : List Nat) (i : Nat) : Nat := maskOf (σ.takeWhile (fun x => x != i))

section
variable {α : Type}

/-- marginal contribution of player `i` in the ordering `σ` -/
def marginal [Sub α] (v : Nat → α) (σ : List Nat) (i : Nat) : α :=
  v (predMask σ i ||| 2 ^ i) - v (predMask σ i)

/-- average marginal contribution of player `i` over all orderings of the players `0 .. n−1` -/
def shapleyOrd [Field α] (n : Nat) (v : Nat → α) (i : Nat) : α :=
  (((List.range n).permutations.map (fun σ => marginal v σ i)).sum) / (n.factorial : α)

end

/-! ### first-element decomposition of the orderings; re-indexing (player, subset) pairs -/

theorem perms_decomp {M} [AddCommMonoid M] (R : List ℕ) (hne : R ≠ []) (f : List ℕ → M) :
    ∑ σ ∈ R.permutations.toFinset, f σ
  = ∑ x ∈ R.toFinset, ∑ τ ∈ (R.erase x).permutations.toFinset, f (x :: τ) := by
  rw [Finset.sum_sigma']
  symm
  refine Finset.sum_bij' (fun p _ => p.1 :: p.2) (fun σ _ => ⟨σ.headI, σ.tail⟩) ?_ ?_ ?_ ?_ ?_
  · rintro ⟨x, τ⟩ h
    simp only [mem_sigma, List.mem_toFinset, List.mem_permutations] at h ⊢
    exact List.cons_perm_iff_perm_erase.mpr ⟨h.1, h.2⟩
  · intro σ h
    simp only [mem_sigma, List.mem_toFinset, List.mem_permutations] at h ⊢
    cases σ with
    | nil => exact absurd (List.Perm.nil_eq h) (by simpa using hne.symm)
    | cons a σ =>
      simp only [List.headI_cons, List.tail_cons]
      exact List.cons_perm_iff_perm_erase.mp h
  · rintro ⟨x, τ⟩ _; simp
  · intro σ h
    simp only [List.mem_toFinset, List.mem_permutations] at h
    cases σ with
    | nil => exact absurd (List.Perm.nil_eq h) (by simpa using hne.symm)
    | cons a σ => simp
  · rintro ⟨x, τ⟩ _; rfl

/-- pairs (x, S') with x ∈ Q, S' ⊆ Q∖x  ↔  pairs (S, x) with S ⊆ Q, x ∈ S -/
theorem reindex_pairs {M} [AddCommMonoid M] (Q : Finset ℕ) (F : ℕ → Finset ℕ → M) :
    ∑ x ∈ Q, ∑ S' ∈ (Q.erase x).powerset, F x S'
  = ∑ S ∈ Q.powerset, ∑ x ∈ S, F x (S.erase x) := by
  rw [Finset.sum_sigma', Finset.sum_sigma']
  refine Finset.sum_bij' (fun p _ => ⟨insert p.1 p.2, p.1⟩) (fun q _ => ⟨q.2, q.1.erase q.2⟩) ?_ ?_ ?_ ?_ ?_
  · rintro ⟨x, S'⟩ h
    simp only [mem_sigma, Finset.mem_powerset] at h ⊢
    refine ⟨?_, mem_insert_self _ _⟩
    intro y hy
    rcases mem_insert.mp hy with rfl | hy
    · exact h.1
    · exact mem_of_mem_erase (h.2 hy)
  · rintro ⟨S, x⟩ h
    simp only [mem_sigma, Finset.mem_powerset] at h ⊢
    exact ⟨h.1 h.2, fun y hy => mem_erase.mpr ⟨(mem_erase.mp hy).1, h.1 (mem_erase.mp hy).2⟩⟩
  · rintro ⟨x, S'⟩ h
    simp only [mem_sigma, Finset.mem_powerset] at h
    have hx : x ∉ S' := fun hx => (mem_erase.mp (h.2 hx)).1 rfl
    simp [erase_insert hx]
  · rintro ⟨S, x⟩ h
    simp only [mem_sigma, Finset.mem_powerset] at h
    simp [insert_erase h.2]
  · rintro ⟨x, S'⟩ h
    simp only [mem_sigma, Finset.mem_powerset] at h
    have hx : x ∉ S' := fun hx => (mem_erase.mp (h.2 hx)).1 rfl
    simp [erase_insert hx]

theorem toFinset_erase_of_nodup {R : List ℕ} (hR : R.Nodup) (x : ℕ) :
    (R.erase x).toFinset = R.toFinset.erase x := by
  ext y
  simp [hR.mem_erase_iff]

theorem card_perms {R : List ℕ} (hR : R.Nodup) : R.permutations.toFinset.card = R.length.factorial := by
  rw [List.toFinset_card_of_nodup (List.nodup_permutations R hR), List.length_permutations]

section
variable {α : Type} [Field α]

/-- Grouping the orderings of `R ∋ i` by the set `S` of predecessors of `i`: `coef |R| |S|` orderings for each.
    `P` collects the players already placed before `R` (it grows in the induction step); `r` is `R.length`, carried
    as a number to induct on. -/
theorem perm_sum (i : ℕ) (D : Finset ℕ → α) :
    ∀ (r : ℕ) (R : List ℕ) (P : Finset ℕ), R.length = r → R.Nodup → i ∈ R →
      ∑ τ ∈ R.permutations.toFinset, D (P ∪ (τ.takeWhile (fun x => x != i)).toFinset)
      = ∑ S ∈ (R.toFinset.erase i).powerset, (coef r S.card : α) * D (P ∪ S) := by
  intro r
  induction r with
  | zero =>
    intro R P hlen _ hi
    rw [List.length_eq_zero_iff] at hlen
    subst hlen
    simp at hi
  | succ r ih =>
    intro R P hlen hnd hi
    have hne : R ≠ [] := by intro h; subst h; simp at hi
    have hiF : i ∈ R.toFinset := List.mem_toFinset.mpr hi
    rw [perms_decomp R hne, ← Finset.add_sum_erase _ _ hiF]
    -- the orderings that start with `i`
    have hfirst : ∑ τ ∈ (R.erase i).permutations.toFinset,
        D (P ∪ ((i :: τ).takeWhile (fun x => x != i)).toFinset) = ((r.factorial : ℕ) : α) * D P := by
      have : ∀ τ : List ℕ, D (P ∪ ((i :: τ).takeWhile (fun x => x != i)).toFinset) = D P := by
        intro τ; simp
      simp only [this, Finset.sum_const, nsmul_eq_mul]
      rw [card_perms (hnd.erase i), List.length_erase_of_mem hi, hlen, Nat.add_sub_cancel]
    -- the orderings that start with some `x ≠ i`: induction hypothesis
    have hrest : ∀ x ∈ R.toFinset.erase i,
        ∑ τ ∈ (R.erase x).permutations.toFinset, D (P ∪ ((x :: τ).takeWhile (fun y => y != i)).toFinset)
        = ∑ S' ∈ ((R.toFinset.erase i).erase x).powerset, (coef r S'.card : α) * D (insert x P ∪ S') := by
      intro x hx
      have hxi : x ≠ i := (mem_erase.mp hx).1
      have hxR : x ∈ R := List.mem_toFinset.mp (mem_erase.mp hx).2
      have hlen' : (R.erase x).length = r := by rw [List.length_erase_of_mem hxR, hlen, Nat.add_sub_cancel]
      have hi' : i ∈ R.erase x := (hnd.mem_erase_iff).mpr ⟨fun h => hxi h.symm, hi⟩
      have := ih (R.erase x) (insert x P) hlen' (hnd.erase x) hi'
      rw [toFinset_erase_of_nodup hnd, Finset.erase_right_comm] at this
      rw [← this]
      apply Finset.sum_congr rfl
      intro τ _
      have htw : (x :: τ).takeWhile (fun y => y != i) = x :: τ.takeWhile (fun y => y != i) := by
        simp [hxi]
      rw [htw, List.toFinset_cons, Finset.union_insert, Finset.insert_union]
    rw [hfirst, Finset.sum_congr rfl hrest,
      reindex_pairs (R.toFinset.erase i) (fun x S' => (coef r S'.card : α) * D (insert x P ∪ S'))]
    -- collect the terms of each predecessor set `S`
    have hinner : ∀ S ∈ (R.toFinset.erase i).powerset,
        ∑ x ∈ S, (coef r (S.erase x).card : α) * D (insert x P ∪ S.erase x)
        = (S.card : α) * ((coef r (S.card - 1) : α) * D (P ∪ S)) := by
      intro S _
      rw [← nsmul_eq_mul, ← Finset.sum_const]
      apply Finset.sum_congr rfl
      intro x hx
      rw [Finset.card_erase_of_mem hx, Finset.insert_union, ← Finset.union_insert, Finset.insert_erase hx]
    rw [Finset.sum_congr rfl hinner]
    have hempty : (∅ : Finset ℕ) ∈ (R.toFinset.erase i).powerset := empty_mem_powerset _
    have hsplit : ((r.factorial : ℕ) : α) * D P
        = ∑ S ∈ (R.toFinset.erase i).powerset, (if S = ∅ then ((r.factorial : ℕ) : α) * D P else 0) := by
      rw [Finset.sum_ite_eq' _ _ (fun _ => ((r.factorial : ℕ) : α) * D P), if_pos hempty]
    rw [hsplit, ← Finset.sum_add_distrib]
    apply Finset.sum_congr rfl
    intro S _
    by_cases hS : S = ∅
    · subst hS
      simp [coef_succ_zero]
    · rw [if_neg hS, zero_add]
      have hpos : 0 < S.card := Finset.card_pos.mpr (Finset.nonempty_iff_ne_empty.mpr hS)
      obtain ⟨k, hk⟩ : ∃ k, S.card = k + 1 := ⟨S.card - 1, by omega⟩
      rw [hk, Nat.add_sub_cancel, coef_succ_succ, Nat.cast_mul, mul_assoc]

end

/-! ### subsets of `{0..n−1}` ↔ masks `< 2^n` -/

/-- the mask of a set of players `< n` -/
def maskF (n : Nat) (S : Finset ℕ) : Nat := Nat.ofBits (fun k : Fin n => decide ((k : ℕ) ∈ S))

/-- the players `< n` of a mask -/
def bitsF (n : Nat) (T : Nat) : Finset ℕ := (range n).filter (fun j => T.testBit j = true)

theorem maskF_lt (n : Nat) (S : Finset ℕ) : maskF n S < 2 ^ n := Nat.ofBits_lt_two_pow _

theorem testBit_maskF_lt {n k : Nat} (S : Finset ℕ) (hk : k < n) :
    (maskF n S).testBit k = decide (k ∈ S) := by
  unfold maskF; rw [Nat.testBit_ofBits_lt _ _ hk]

theorem testBit_maskF_ge {n k : Nat} (S : Finset ℕ) (hk : n ≤ k) : (maskF n S).testBit k = false :=
  Nat.testBit_ofBits_ge _ _ hk

theorem bitsF_maskF {n : Nat} {S : Finset ℕ} (hS : S ⊆ range n) : bitsF n (maskF n S) = S := by
  ext j
  simp only [bitsF, mem_filter, mem_range]
  constructor
  · rintro ⟨hj, hb⟩
    rw [testBit_maskF_lt S hj] at hb
    simpa using hb
  · intro hj
    have hjn := mem_range.mp (hS hj)
    exact ⟨hjn, by rw [testBit_maskF_lt S hjn]; simpa using hj⟩

theorem maskF_bitsF {n T : Nat} (hT : T < 2 ^ n) : maskF n (bitsF n T) = T := by
  apply Nat.eq_of_testBit_eq
  intro k
  by_cases hk : k < n
  · rw [testBit_maskF_lt _ hk]
    simp only [bitsF, mem_filter, mem_range, hk, true_and]
    cases T.testBit k <;> simp
  · rw [testBit_maskF_ge _ (by omega), (lt_two_pow_iff_testBit.mp hT) k (by omega)]

theorem size_maskF {n : Nat} {S : Finset ℕ} (hS : S ⊆ range n) : size (maskF n S) = S.card := by
  rw [size_eq_card (maskF_lt n S)]
  have := bitsF_maskF hS
  unfold bitsF at this
  rw [this]

theorem testBit_maskOf (l : List Nat) (k : Nat) : (maskOf l).testBit k = decide (k ∈ l) := by
  induction l with
  | nil => simp [maskOf]
  | cons a l ih =>
    have : maskOf (a :: l) = 2 ^ a ||| maskOf l := rfl
    rw [this, Nat.testBit_or, ih, Nat.testBit_two_pow]
    by_cases h : a = k
    · subst h; simp
    · have h' : ¬ k = a := fun e => h e.symm
      simp [h, h']

theorem maskOf_eq_maskF {n : Nat} {l : List Nat} (hl : ∀ x ∈ l, x < n) : maskOf l = maskF n l.toFinset := by
  apply Nat.eq_of_testBit_eq
  intro k
  rw [testBit_maskOf]
  by_cases hk : k < n
  · rw [testBit_maskF_lt _ hk]; simp
  · rw [testBit_maskF_ge _ (by omega)]
    have : k ∉ l := fun h => hk (hl k h)
    simp [this]

section
variable {α : Type} [Field α]

theorem sum_powerset_eq_sum_masks {M : Type} [AddCommMonoid M] {n i : Nat} (hi : i < n) (F : Nat → M) :
    ∑ S ∈ ((range n).erase i).powerset, F (maskF n S)
      = ∑ T ∈ (range (2 ^ n)).filter (fun T => T.testBit i = false), F T := by
  refine Finset.sum_nbij' (fun S => maskF n S) (fun T => bitsF n T) ?_ ?_ ?_ ?_ (fun _ _ => rfl)
  · intro S hS
    have hS' := Finset.mem_powerset.mp hS
    simp only [mem_filter, mem_range]
    refine ⟨maskF_lt n S, ?_⟩
    rw [testBit_maskF_lt S hi]
    have : i ∉ S := fun h => (mem_erase.mp (hS' h)).1 rfl
    simp [this]
  · intro T hT
    simp only [mem_filter, mem_range] at hT
    apply Finset.mem_powerset.mpr
    intro j hj
    simp only [bitsF, mem_filter, mem_range] at hj
    refine mem_erase.mpr ⟨?_, mem_range.mpr hj.1⟩
    intro hji
    subst hji
    rw [hT.2] at hj
    exact absurd hj.2 (by simp)
  · intro S hS
    exact bitsF_maskF (fun j hj => (mem_erase.mp (Finset.mem_powerset.mp hS hj)).2)
  · intro T hT
    simp only [mem_filter, mem_range] at hT
    exact maskF_bitsF hT.1

theorem marginal_eq {n : Nat} (v : Nat → α) {σ : List Nat} (hσ : σ.Perm (List.range n)) (i : Nat) :
    marginal v σ i = v (maskF n (σ.takeWhile (fun x => x != i)).toFinset ||| 2 ^ i)
      - v (maskF n (σ.takeWhile (fun x => x != i)).toFinset) := by
  have hlt : ∀ x ∈ σ.takeWhile (fun x => x != i), x < n := fun x hx =>
    List.mem_range.mp (hσ.subset ((List.takeWhile_sublist _).subset hx))
  unfold marginal predMask
  rw [maskOf_eq_maskF hlt]

/-- C06: the Shapley formula of shapley.py equals the average marginal contribution over all `n!` orderings of the
    players — for every `n` and every player `i < n`: group the orderings by the predecessor set of `i`
    (`perm_sum`), then read the sets as masks. -/
theorem phi_eq_shapleyOrd {n i : Nat} (hi : i < n) (v : Nat → α) : phi n v i = shapleyOrd n v i := by
  unfold shapleyOrd phi psi
  congr 1
  rw [← List.sum_toFinset _ (List.nodup_permutations _ List.nodup_range)]
  let D : Finset ℕ → α := fun S => v (maskF n S ||| 2 ^ i) - v (maskF n S)
  have hmarg : ∀ σ ∈ (List.range n).permutations.toFinset,
      marginal v σ i = D (∅ ∪ (σ.takeWhile (fun x => x != i)).toFinset) := by
    intro σ hσ
    rw [Finset.empty_union, marginal_eq v (List.mem_permutations.mp (List.mem_toFinset.mp hσ))]
  have hrange : (List.range n).toFinset = range n := by ext x; simp
  rw [Finset.sum_congr rfl hmarg,
    perm_sum i D n (List.range n) ∅ List.length_range List.nodup_range (List.mem_range.mpr hi), hrange,
    ← sum_powerset_eq_sum_masks hi]
  refine (Finset.sum_congr rfl (fun S hS => ?_)).symm
  have hsub : S ⊆ range n := fun j hj => (mem_erase.mp (Finset.mem_powerset.mp hS hj)).2
  rw [size_maskF hsub, Finset.empty_union]

end

/-! ### an executable enumeration of the orderings (first-element recursion) -/

/-- all orderings of `l`, choosing the first element in every possible way (`k` = fuel = length) -/
def orderingsAux : Nat → List Nat → List (List Nat)
  | 0, _ => [[]]
  | k + 1, l => l.flatMap (fun x => (orderingsAux k (l.erase x)).map (fun τ => x :: τ))

def orderings (l : List Nat) : List (List Nat) := orderingsAux l.length l

theorem mem_orderingsAux : ∀ (k : Nat) (l σ : List Nat), l.length = k → (σ ∈ orderingsAux k l ↔ σ.Perm l) := by
  intro k
  induction k with
  | zero =>
    intro l σ hl
    rw [List.length_eq_zero_iff] at hl
    subst hl
    simp [orderingsAux]
  | succ k ih =>
    intro l σ hl
    simp only [orderingsAux, List.mem_flatMap, List.mem_map]
    constructor
    · rintro ⟨x, hx, τ, hτ, rfl⟩
      have := (ih (l.erase x) τ (by rw [List.length_erase_of_mem hx, hl, Nat.add_sub_cancel])).mp hτ
      exact List.cons_perm_iff_perm_erase.mpr ⟨hx, this⟩
    · intro hσ
      cases σ with
      | nil =>
        have := hσ.length_eq
        simp [hl] at this
      | cons x τ =>
        obtain ⟨hx, hτ⟩ := List.cons_perm_iff_perm_erase.mp hσ
        exact ⟨x, hx, τ, (ih (l.erase x) τ (by rw [List.length_erase_of_mem hx, hl, Nat.add_sub_cancel])).mpr hτ, rfl⟩

theorem nodup_orderingsAux : ∀ (k : Nat) (l : List Nat), l.length = k → l.Nodup → (orderingsAux k l).Nodup := by
  intro k
  induction k with
  | zero => intro l _ _; simp [orderingsAux]
  | succ k ih =>
    intro l hl hnd
    simp only [orderingsAux]
    rw [List.nodup_flatMap]
    constructor
    · intro x hx
      apply List.Nodup.map
      · intro a b h; exact (List.cons.inj h).2
      · exact ih (l.erase x) (by rw [List.length_erase_of_mem hx, hl, Nat.add_sub_cancel]) (hnd.erase x)
    · apply hnd.pairwise_of_forall_ne
      intro x _ y _ hxy σ hσx hσy
      obtain ⟨_, _, rfl⟩ := List.mem_map.mp hσx
      obtain ⟨_, _, h⟩ := List.mem_map.mp hσy
      exact hxy (List.cons.inj h).1.symm

theorem sum_orderings {M : Type} [AddCommMonoid M] {l : List Nat} (hl : l.Nodup) (f : List Nat → M) :
    ((orderings l).map f).sum = (l.permutations.map f).sum := by
  unfold orderings
  rw [← List.sum_toFinset f (nodup_orderingsAux _ l rfl hl),
    ← List.sum_toFinset f (List.nodup_permutations l hl)]
  congr 1
  ext σ
  simp only [List.mem_toFinset, List.mem_permutations]
  exact mem_orderingsAux _ l σ rfl

section
variable {α : Type} [Field α]

/-- `shapleyOrd` with the executable enumeration -/
def shapleyOrdE (n : Nat) (v : Nat → α) (i : Nat) : α :=
  (((orderings (List.range n)).map (fun σ => marginal v σ i)).sum) / (n.factorial : α)

theorem shapleyOrdE_eq (n : Nat) (v : Nat → α) (i : Nat) : shapleyOrdE n v i = shapleyOrd n v i := by
  unfold shapleyOrdE shapleyOrd
  rw [sum_orderings List.nodup_range]

end
end ICG

/-
  ICG.Lemmas.GapMono — the gap-function part of property C07:

  "each offered gap function — exploitability and the l1, l2 and l-infinity norms of the vector of
   interval widths — is non-increasing [when intervals shrink row-wise], is never negative, and is zero
   once every value is revealed".

  Here the three norms (`l1`, `linf`, `l2sq` of ICG.Model.Shapley); exploitability goes through the C05 identity and
  is at the end of Props/C05.  `l2_norm` of the code is `sqrt(l2sq)`; the model and these theorems stop at the square
  (monotonicity of the correctly rounded square root is the one trusted step, DESIGN 5/C07).
-/
import ICG.Model.Shapley
import ICG.Lemmas.ShapleyBridge
import ICG.Lemmas.ListMax
import Mathlib.Algebra.Order.Group.Abs
import Mathlib.Algebra.Order.Ring.Rat
import Mathlib.Algebra.Order.Ring.Abs
import Mathlib.Algebra.Order.BigOperators.Group.Finset

namespace ICG.GapMono
open ICG Finset

/-- the primed intervals are non-empty and contained in the unprimed ones, row by row -/
def Nested {α : Type} [LE α] (n : Nat) (lo hi lo' hi' : Nat → α) : Prop :=
  ∀ c, c < 2 ^ n → lo c ≤ lo' c ∧ lo' c ≤ hi' c ∧ hi' c ≤ hi c

/-- every interval is a point -/
def Degenerate {α : Type} (n : Nat) (lo hi : Nat → α) : Prop := ∀ c, c < 2 ^ n → lo c = hi c

section group
variable {α : Type} [AddCommGroup α] [LinearOrder α]

theorem absv_eq (x : α) : absv x = |x| := (abs_eq_max_neg).symm

theorem l1_eq (n : Nat) (lo hi : Nat → α) : l1 n lo hi = ∑ c ∈ range (2 ^ n), |hi c - lo c| := by
  unfold l1 widths allCoalitions
  rw [List.map_map, Norm.listSum_range_map]
  apply Finset.sum_congr rfl
  intro c _
  exact absv_eq _

/-- `linf` never raises: there are `2^n ≥ 1` rows -/
theorem linf_spec (n : Nat) (lo hi : Nat → α) :
    ∃ m, linf n lo hi = .ok m ∧ (∀ c, c < 2 ^ n → |hi c - lo c| ≤ m) ∧ ∃ c, c < 2 ^ n ∧ m = |hi c - lo c| := by
  have hne : (widths n lo hi).map absv ≠ [] := by
    unfold widths allCoalitions
    have : 0 < 2 ^ n := Nat.two_pow_pos n
    intro h
    have := congrArg List.length h
    simp at this
  obtain ⟨m, hm⟩ := listMax?_isSome hne
  refine ⟨m, by unfold linf; rw [hm], ?_, ?_⟩
  · intro c hc
    apply le_listMax? hm
    unfold widths allCoalitions
    rw [List.map_map]
    exact List.mem_map.mpr ⟨c, List.mem_range.mpr hc, absv_eq _⟩
  · have := listMax?_mem hm
    unfold widths allCoalitions at this
    rw [List.map_map] at this
    obtain ⟨c, hc, rfl⟩ := List.mem_map.mp this
    exact ⟨c, List.mem_range.mp hc, absv_eq _⟩

variable [IsOrderedAddMonoid α]

theorem width_le {n : Nat} {lo hi lo' hi' : Nat → α} (h : Nested n lo hi lo' hi') {c : Nat} (hc : c < 2 ^ n) :
    0 ≤ hi' c - lo' c ∧ hi' c - lo' c ≤ hi c - lo c := by
  obtain ⟨h1, h2, h3⟩ := h c hc
  exact ⟨sub_nonneg.mpr h2, sub_le_sub h3 h1⟩

theorem abs_width_le {n : Nat} {lo hi lo' hi' : Nat → α} (h : Nested n lo hi lo' hi') {c : Nat} (hc : c < 2 ^ n) :
    |hi' c - lo' c| ≤ |hi c - lo c| := by
  obtain ⟨h1, h2⟩ := width_le h hc
  rw [abs_of_nonneg h1, abs_of_nonneg (le_trans h1 h2)]
  exact h2

/-! #### l1 -/

theorem l1_mono {n : Nat} {lo hi lo' hi' : Nat → α} (h : Nested n lo hi lo' hi') :
    l1 n lo' hi' ≤ l1 n lo hi := by
  rw [l1_eq, l1_eq]
  exact Finset.sum_le_sum (fun c hc => abs_width_le h (mem_range.mp hc))

theorem l1_nonneg (n : Nat) (lo hi : Nat → α) : 0 ≤ l1 n lo hi := by
  rw [l1_eq]; exact Finset.sum_nonneg (fun _ _ => abs_nonneg _)

theorem l1_zero {n : Nat} {lo hi : Nat → α} (h : Degenerate n lo hi) : l1 n lo hi = 0 := by
  rw [l1_eq]
  apply Finset.sum_eq_zero
  intro c hc
  rw [h c (mem_range.mp hc), sub_self, abs_zero]

/-! #### l-infinity -/

theorem linf_mono {n : Nat} {lo hi lo' hi' : Nat → α} (h : Nested n lo hi lo' hi') :
    ∃ m m', linf n lo hi = .ok m ∧ linf n lo' hi' = .ok m' ∧ m' ≤ m := by
  obtain ⟨m, hm, hub, -⟩ := linf_spec n lo hi
  obtain ⟨m', hm', -, c, hc, rfl⟩ := linf_spec n lo' hi'
  exact ⟨m, _, hm, hm', le_trans (abs_width_le h hc) (hub c hc)⟩

theorem linf_nonneg (n : Nat) (lo hi : Nat → α) : ∃ m, linf n lo hi = .ok m ∧ 0 ≤ m := by
  obtain ⟨m, hm, -, c, -, rfl⟩ := linf_spec n lo hi
  exact ⟨_, hm, abs_nonneg _⟩

theorem linf_zero {n : Nat} {lo hi : Nat → α} (h : Degenerate n lo hi) : linf n lo hi = .ok 0 := by
  obtain ⟨m, hm, -, c, hc, rfl⟩ := linf_spec n lo hi
  rw [hm, h c hc, sub_self, abs_zero]

end group

section field
variable {α : Type} [Field α]

/-! #### l2 squared -/

theorem l2sq_eq (n : Nat) (lo hi : Nat → α) :
    l2sq n lo hi = ∑ c ∈ range (2 ^ n), (hi c - lo c) * (hi c - lo c) := by
  unfold l2sq widths allCoalitions
  rw [List.map_map, Norm.listSum_range_map]
  rfl

theorem l2sq_zero {n : Nat} {lo hi : Nat → α} (h : Degenerate n lo hi) : l2sq n lo hi = 0 := by
  rw [l2sq_eq]
  apply Finset.sum_eq_zero
  intro c hc
  rw [h c (mem_range.mp hc), sub_self, mul_zero]

variable [LinearOrder α] [IsStrictOrderedRing α]

theorem l2sq_mono {n : Nat} {lo hi lo' hi' : Nat → α} (h : Nested n lo hi lo' hi') :
    l2sq n lo' hi' ≤ l2sq n lo hi := by
  rw [l2sq_eq, l2sq_eq]
  apply Finset.sum_le_sum
  intro c hc
  obtain ⟨h1, h2⟩ := width_le h (mem_range.mp hc)
  exact mul_le_mul h2 h2 h1 (le_trans h1 h2)

theorem l2sq_nonneg (n : Nat) (lo hi : Nat → α) : 0 ≤ l2sq n lo hi := by
  rw [l2sq_eq]; exact Finset.sum_nonneg (fun _ _ => mul_self_nonneg _)

end field

/-! ### a concrete 3-player nested pair -/

def exLo : Nat → Rat := fun c => [0, 1, 1, 2, 0, 2, 3, 6].getD c 0
def exHi : Nat → Rat := fun c => [0, 3, 2, 5, 4, 6, 3, 6].getD c 0
def exLo' : Nat → Rat := fun c => [0, 2, 1, 3, 1, 2, 3, 6].getD c 0
def exHi' : Nat → Rat := fun c => [0, 2, 2, 4, 4, 5, 3, 6].getD c 0

example : Nested 3 exLo exHi exLo' exHi' := by unfold Nested; decide +kernel
example : l1 3 exLo exHi = 14 ∧ l1 3 exLo' exHi' = 8 := by decide +kernel
example : linf 3 exLo exHi = .ok 4 ∧ linf 3 exLo' exHi' = .ok 3 := by decide +kernel
example : l2sq 3 exLo exHi = 46 ∧ l2sq 3 exLo' exHi' = 20 := by decide +kernel
example : Degenerate 3 exLo exLo := fun _ _ => rfl

/-! ### for the functions the native driver runs (`ICG.AtRat.*`) -/

theorem l1_mono_atRat {n : Nat} {lo hi lo' hi' : Nat → Rat} (h : Nested n lo hi lo' hi') :
    AtRat.l1 n lo' hi' ≤ AtRat.l1 n lo hi := l1_mono h
theorem l2sq_mono_atRat {n : Nat} {lo hi lo' hi' : Nat → Rat} (h : Nested n lo hi lo' hi') :
    AtRat.l2sq n lo' hi' ≤ AtRat.l2sq n lo hi := l2sq_mono h
theorem linf_mono_atRat {n : Nat} {lo hi lo' hi' : Nat → Rat} (h : Nested n lo hi lo' hi') :
    ∃ m m', AtRat.linf n lo hi = .ok m ∧ AtRat.linf n lo' hi' = .ok m' ∧ m' ≤ m := linf_mono h
end ICG.GapMono

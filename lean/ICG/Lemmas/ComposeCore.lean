/-
  ICG.Lemmas.ComposeCore — helper lemmas for ICG/Props/Compose.lean (the composition of the upstream
  properties C01–C08 with the downstream ones C09, C11, C13, C16).

  `run_n` (every registered computer keeps `n`, on every input); the four gap functions of the package as `gap`
  parameters of ICG.Model.Env / ICG.Model.Search; `InClass` (the game class a computer is sound for) and `Computed`
  (a sound result from minimal information), in which the `…_of` theorems are stated; `GapFacts gap side`, what C07
  proves about a gap function, with its instances; `Inv.source` / `Inv.computed` / `Inv.sound` / `Inv.nested`, the
  bridge from C09's invariant to the hypotheses of C01 / C04 / C07; the environment theorems `…_of`, generic in a
  gap with `GapFacts`, of which the theorems of Props/Compose are instances; and progress (`step_succeeds_of`,
  `reach_step`, `linStep_of`, …) for gaps that are defined at every reachable state without being total.
-/
import ICG.Props.C07Gaps
import ICG.Props.C09
import ICG.Props.C13
import ICG.Props.C16


namespace ICG.Compose
open ICG Table Env ICG.Refine ICG.BoundsCommon ICG.SpecSA

variable {α : Type}

/-! ### the computers keep `n` unconditionally -/

theorem bind_ok {ε β γ : Type} {x : Except ε β} {f : β → Except ε γ} {y : γ}
    (h : (x >>= f) = .ok y) : ∃ b, x = .ok b ∧ f b = .ok y := by
  cases x with
  | error e => cases h
  | ok b => exact ⟨b, rfl, h⟩

theorem sweepM_n (f : Table α → Nat → Except Err α) (put : Table α → Nat → α → Table α)
    (hput : ∀ s c v, (put s c v).n = s.n) :
    ∀ (order : List Nat) (t t' : Table α), sweepM f put order t = .ok t' → t'.n = t.n := by
  intro order
  induction order with
  | nil => intro t t' h; rw [sweepM_nil] at h; cases h; rfl
  | cons c l ih =>
    intro t t' h
    rw [sweepM_cons] at h
    cases hf : f t c with
    | error e => rw [hf] at h; cases h
    | ok v => rw [hf] at h; exact (ih _ _ h).trans (hput t c v)

theorem sweepLo_n (f : Table α → Nat → Except Err α) {order : List Nat} {t t' : Table α}
    (h : sweepM f putLo order t = .ok t') : t'.n = t.n := sweepM_n f putLo (fun _ _ _ => rfl) _ _ _ h

theorem sweepHi_n (f : Table α → Nat → Except Err α) {order : List Nat} {t t' : Table α}
    (h : sweepM f putHi order t = .ok t') : t'.n = t.n := sweepM_n f putHi (fun _ _ _ => rfl) _ _ _ h

theorem samRound_n [Add α] [Max α] {order : List Nat} {first : Bool} {t t' : Table α}
    (h : samRound order first t = .ok t') : t'.n = t.n := by
  unfold samRound at h
  obtain ⟨t1, h1, h⟩ := bind_ok h
  obtain ⟨t2, h2, h⟩ := bind_ok h
  cases h
  rw [compactT_eq] at h2 ⊢
  rw [sweepLo_n _ h2, sweepLo_n _ h1]

theorem samRounds_n [Add α] [Max α] {order : List Nat} : ∀ (r : Nat) {t t' : Table α},
    samRounds order r t = .ok t' → t'.n = t.n
  | 0, t, t', h => by cases h; rfl
  | r + 1, t, t', h => by
    unfold samRounds at h
    obtain ⟨t1, h1, h⟩ := bind_ok h
    rw [samRounds_n r h, samRound_n h1]

/-- a lower sweep, then an upper sweep: the shape of `sa` and `sac` -/
theorem loHi_n {f g : Table α → Nat → Except Err α} {o1 o2 : List Nat} {t t' : Table α}
    (h : (do let t1 ← sweepM f putLo o1 t
             let t2 ← sweepM g putHi o2 t1.compactT
             pure t2.compactT) = .ok t') : t'.n = t.n := by
  obtain ⟨t1, h1, h⟩ := bind_ok h
  obtain ⟨t2, h2, h⟩ := bind_ok h
  cases h
  rw [compactT_eq] at h2 ⊢
  rw [sweepHi_n _ h2, sweepLo_n _ h1]

section run_n
variable [Add α] [Sub α] [Max α] [Min α]

theorem sa_n {t t' : Table α} (h : sa t = .ok t') : t'.n = t.n := by
  unfold sa at h
  split at h
  · exact loHi_n h
  · cases h

theorem sac_n {t t' : Table α} (h : sac t = .ok t') : t'.n = t.n := by
  unfold sac at h
  split at h
  · exact loHi_n h
  · cases h

theorem sam_n {r : Nat} {t t' : Table α} (h : sam r t = .ok t') : t'.n = t.n := by
  unfold sam at h
  split at h
  · obtain ⟨t0, h0, h⟩ := bind_ok h
    obtain ⟨t1, h1, h⟩ := bind_ok h
    obtain ⟨t2, h2, h⟩ := bind_ok h
    cases h
    rw [compactT_eq, sweepHi_n _ h2, samRounds_n r h1, samRound_n h0]
  · cases h

/-- every registered computer returns a table for the same players, on every input: the hypothesis `hn` of C11
    `seqGap_stateFree` / `schedule_free` / `search_result` -/
theorem run_n (k : Computer) (t t' : Table α) (h : k.run t = .ok t') : t'.n = t.n := by
  cases k with
  | sa => exact sa_n h
  | sac => exact sac_n h
  | sam r => exact sam_n h

end run_n

/-! ### the gap functions of the package as `gap` parameters -/

/-- `l1_norm(game)`: `np.linalg.norm(upper − lower, 1)` -/
def gapL1 [Add α] [Sub α] [Zero α] [Max α] [Neg α] (t : Table α) : Except Err α := .ok (l1 t.n t.lo t.hi)

/-- `linf_norm(game)`: `np.linalg.norm(upper − lower, inf)` (ValueError on an empty vector) -/
def gapLinf [Sub α] [Max α] [Neg α] (t : Table α) : Except Err α := linf t.n t.lo t.hi

/-- the square of `l2_norm(game)` (the executable model stops at the square; the norm itself is in
    `Props/C07L2` over ℝ) -/
def gapL2sq [Add α] [Sub α] [Mul α] [Zero α] (t : Table α) : Except Err α := .ok (l2sq t.n t.lo t.hi)

theorem gapL1_total [Add α] [Sub α] [Zero α] [Max α] [Neg α] : C09.GapTotal (gapL1 (α := α)) := fun _ => ⟨_, rfl⟩

theorem gapL2sq_total [Add α] [Sub α] [Mul α] [Zero α] : C09.GapTotal (gapL2sq (α := α)) := fun _ => ⟨_, rfl⟩

/-- `compute_exploitability(game)` (ValueError when the grand coalition is unknown) -/
def gapExpl [Add α] [Sub α] [Mul α] [Div α] [Zero α] [NatCast α] [One α] (t : Table α) : Except Err α :=
  t.exploitability

/-- the hidden game is of the class the computer `k` assumes -/
def InClass [Add α] [LE α] (k : Computer) (n : Nat) (v : Nat → α) : Prop :=
  SA n v ∧ (k.NeedsMono → MonoDec n v)

/-- `t` has minimal information and `s` is a sound result for the game `v` (the conclusion of C01 / C04); `t` itself
    is not required to agree with `v` -/
def Computed [LinearOrder α] (t s : Table α) (v : Nat → α) : Prop := MinInfo t.n t.known ∧ SoundFor t s v

theorem Computed.minInfo [LinearOrder α] {t s : Table α} {v : Nat → α} (h : Computed t s v) :
    MinInfo t.n t.known := h.1

theorem Computed.sound [LinearOrder α] {t s : Table α} {v : Nat → α} (h : Computed t s v) : SoundFor t s v := h.2

theorem Computed.lo_le_hi [LinearOrder α] {t s : Table α} {v : Nat → α} (h : Computed t s v) {c : Nat}
    (hc : c < 2 ^ s.n) : s.lo c ≤ s.hi c :=
  (h.2.2.2 c (h.2.1 ▸ hc)).2.2.1

/-- what C07 (`Props/C07Gaps`) proves about a gap function.  `side v` is the side condition on the hidden
    game (`True` for the norms, `v ∅ = 0` for exploitability). -/
structure GapFacts [LinearOrder α] [Zero α] (gap : Table α → Except Err α) (side : (Nat → α) → Prop) : Prop where
  /-- reads the rows of the table only (the hypothesis `RowsOnly` of `env_undo`, C13 `Hyps`) -/
  rows : RowsOnly gap
  /-- defined and never negative on a computed table (what `reward_nonpos_of` needs) -/
  nonneg : ∀ {t s : Table α} {v : Nat → α}, side v → Computed t s v → ∃ x, gap s = .ok x ∧ 0 ≤ x
  /-- non-increasing when the intervals shrink (the hypotheses of C11 `best_mono` / `ext_of_monotone` and of
      `ExpectedGreedy.greedy_mono`) -/
  mono : ∀ {t s t' s' : Table α} {v : Nat → α}, side v → Computed t s v → Computed t' s' v → C07.Nested s s' →
    ∃ x x', gap s = .ok x ∧ gap s' = .ok x' ∧ x' ≤ x
  /-- zero at full knowledge: on a table (N known) whose every row is the point `v c`; no game class needed -/
  zero : ∀ {s : Table α} {v : Nat → α}, side v → s.known (grand s.n) = true →
    (∀ c, c < 2 ^ s.n → s.lo c = v c ∧ s.hi c = v c) → gap s = .ok 0

theorem degenerate_of_point {s : Table α} {v : Nat → α} (h : ∀ c, c < 2 ^ s.n → s.lo c = v c ∧ s.hi c = v c) :
    GapMono.Degenerate s.n s.lo s.hi := fun c hc => by rw [(h c hc).1, (h c hc).2]

theorem widths_congr [Sub α] {t1 t2 : Table α} (h : SameRows t1 t2) :
    widths t1.n t1.lo t1.hi = widths t2.n t2.lo t2.hi := by
  obtain ⟨hn, _, hr⟩ := h
  unfold widths allCoalitions
  rw [← hn]
  apply List.map_congr_left
  intro c hc
  have := hr c (List.mem_range.mp hc)
  rw [this.1, this.2]

section group
variable [AddCommGroup α] [LinearOrder α] [IsOrderedAddMonoid α]

/-- a norm of the interval widths that is non-negative, non-increasing under nesting and zero on point intervals
    has C07's facts: the shape of l1, l2² and l2 -/
theorem GapFacts.of_norm (N : Nat → (Nat → α) → (Nat → α) → α)
    (hw : ∀ {t1 t2 : Table α}, widths t1.n t1.lo t1.hi = widths t2.n t2.lo t2.hi → t1.n = t2.n →
      N t1.n t1.lo t1.hi = N t2.n t2.lo t2.hi)
    (h0 : ∀ n lo hi, 0 ≤ N n lo hi)
    (hm : ∀ {n : Nat} {lo hi lo' hi' : Nat → α}, GapMono.Nested n lo hi lo' hi' → N n lo' hi' ≤ N n lo hi)
    (hz : ∀ {n : Nat} {lo hi : Nat → α}, GapMono.Degenerate n lo hi → N n lo hi = 0) :
    GapFacts (fun t : Table α => .ok (N t.n t.lo t.hi)) (fun _ => True) where
  rows := ⟨fun h => congrArg Except.ok (hw (widths_congr h) h.n)⟩
  nonneg := fun _ _ => ⟨_, rfl, h0 _ _ _⟩
  mono := fun {_ s _ s' _} _ _ _ hn => ⟨_, _, rfl, rfl, by
    show N s'.n s'.lo s'.hi ≤ N s.n s.lo s.hi
    rw [hn.1]; exact hm hn.toGapMono⟩
  zero := fun _ _ hpt => congrArg Except.ok (hz (degenerate_of_point hpt))


theorem gapL1_facts : GapFacts (gapL1 (α := α)) (fun _ => True) :=
  GapFacts.of_norm l1 (fun hw _ => by simp only [l1, hw]) GapMono.l1_nonneg GapMono.l1_mono GapMono.l1_zero

theorem gapLinf_facts : GapFacts (gapLinf (α := α)) (fun _ => True) where
  rows := ⟨fun h => by simp only [gapLinf, linf, widths_congr h]⟩
  nonneg := fun _ _ => GapMono.linf_nonneg _ _ _
  mono := by
    intro t s t' s' v _ _ _ hn
    obtain ⟨m, m', a, b, c⟩ := GapMono.linf_mono hn.toGapMono
    rw [← hn.1] at b
    exact ⟨m, m', a, b, c⟩
  zero := fun _ _ hpt => GapMono.linf_zero (degenerate_of_point hpt)

theorem gapLinf_total : C09.GapTotal (gapLinf (α := α)) := fun t =>
  let ⟨m, hm, _⟩ := GapMono.linf_nonneg t.n t.lo t.hi
  ⟨m, hm⟩

end group

theorem weightedGap_congr [Field α] {t1 t2 : Table α} (h : SameRows t1 t2) :
    C05.weightedGap t1.n t1.lo t1.hi = C05.weightedGap t2.n t2.lo t2.hi := by
  obtain ⟨hn, _, hr⟩ := h
  unfold C05.weightedGap
  rw [← hn]
  apply Finset.sum_congr rfl
  intro c hc
  have := hr c (Finset.mem_range.mp hc)
  rw [this.1, this.2]

section field
variable [Field α] [LinearOrder α] [IsStrictOrderedRing α]

theorem gapL2sq_facts : GapFacts (gapL2sq (α := α)) (fun _ => True) :=
  GapFacts.of_norm l2sq (fun hw _ => by simp only [l2sq, hw]) GapMono.l2sq_nonneg GapMono.l2sq_mono GapMono.l2sq_zero

/-- exploitability reads rows `< 2^n` only — also in its error behaviour (through the C05 identity) -/
theorem gapExpl_rowsOnly : RowsOnly (gapExpl (α := α)) where
  congr := by
    intro t1 t2 h
    have hn := h.n
    have hk : t1.known (grand t1.n) = t2.known (grand t2.n) := by rw [h.known, hn]
    -- the C05 identity has an extra term `hi ∅`
    have h0 : t1.hi 0 = t2.hi 0 := (h.rows (Nat.two_pow_pos _)).2
    unfold gapExpl
    cases hk1 : t1.known (grand t1.n) with
    | true =>
      rw [C05.identity t1 hk1, C05.identity t2 (hk ▸ hk1), weightedGap_congr h, h0]
    | false =>
      rw [C05.undefined t1 hk1, C05.undefined t2 (hk ▸ hk1)]

theorem gapExpl_facts : GapFacts (gapExpl (α := α)) (fun v => v 0 = 0) where
  rows := gapExpl_rowsOnly
  nonneg := by
    intro t s v hv0 hc
    obtain ⟨a1, a2⟩ := C07.expl_side t s v hv0 hc.minInfo hc.sound
    exact GapMono.expl_nonneg s a1 a2 fun c hcl => hc.lo_le_hi hcl
  mono := by
    intro t s t' s' v hv0 hc hc' hn
    obtain ⟨a1, a2⟩ := C07.expl_side t s v hv0 hc.minInfo hc.sound
    obtain ⟨b1, b2⟩ := C07.expl_side t' s' v hv0 hc'.minInfo hc'.sound
    exact GapMono.expl_mono s s' hn.1 a1 b1 a2 b2 hn.toGapMono
  zero := by
    intro s v hv0 hkg hpt
    exact GapMono.expl_zero s hkg (degenerate_of_point hpt) (by rw [(hpt 0 (Nat.two_pow_pos _)).2, hv0])

end field

/-! ### from C09's invariant to the hypotheses of C01 / C04 / C07 -/

section bridge
variable [AddCommGroup α] [LinearOrder α] [IsOrderedAddMonoid α]
variable {k : Computer} {P : C09.Params} {e e' : Env α} {s s' : C09.Spec α}

/-- the table of an environment in abstract state `s` is the computer's output on a table of `P.n` players
    that knows exactly `initial ∪ revealed`, agrees with the hidden game, and has minimal information -/
theorem Inv.source (hmin : P.Minimal) (h : C09.Inv (k.run : Table α → _) P e s) :
    ∃ t0 : Table α, t0.n = P.n ∧ (∀ c, t0.known c = s.knows P c) ∧ t0.Agree s.full ∧
      MinInfo t0.n t0.known ∧ k.run t0 = .ok e.table := by
  obtain ⟨t0, hsk, _, hcomp⟩ := h.fresh
  have H : C09.Holds P s t0 := h.holds.of_sameKnowledge hsk
  exact ⟨t0, H.n, H.known, fun c _ => H.vals c, hmin.minInfo H.n (fun _ hc => H.ik hc), hcomp⟩

/-- C01 / C04 at a reachable state: for a hidden game of the class the environment's table is sound -/
theorem Inv.computed (hmin : P.Minimal) (h : C09.Inv (k.run : Table α → _) P e s) (hsa : SA P.n s.full)
    (hmd : k.NeedsMono → MonoDec P.n s.full) :
    ∃ t0 : Table α, t0.n = P.n ∧ (∀ c, t0.known c = s.knows P c) ∧ k.run t0 = .ok e.table ∧
      Computed t0 e.table s.full := by
  obtain ⟨t0, hn, hkn, hag, hmi, hrun⟩ := Inv.source hmin h
  obtain ⟨t', h1, h2⟩ := run_sound k t0 (by rw [hn]; exact hsa) (by rw [hn]; exact hmd) hmi hag
  rw [hrun] at h1
  cases h1
  exact ⟨t0, hn, hkn, hrun, hmi, h2⟩

/-- the hidden value lies inside every interval of a reachable environment (C01 / C04, row by row) -/
theorem Inv.sound (hmin : P.Minimal) (h : C09.Inv (k.run : Table α → _) P e s) (hsa : SA P.n s.full)
    (hmd : k.NeedsMono → MonoDec P.n s.full) :
    ∀ c, c < 2 ^ P.n → e.table.lo c ≤ s.full c ∧ s.full c ≤ e.table.hi c := by
  obtain ⟨t0, hn, _, _, _, hs⟩ := Inv.computed hmin h hsa hmd
  intro c hc
  have := hs.2.2 c (by rw [hn]; exact hc)
  exact ⟨this.1, this.2.1⟩

/-- C07 between two reachable states of the same hidden game: if `s'` has revealed at least what `s` has,
    the intervals of `e'` are nested in those of `e` -/
theorem Inv.nested (hmin : P.Minimal) (h : C09.Inv (k.run : Table α → _) P e s)
    (h' : C09.Inv (k.run : Table α → _) P e' s') (hfull : s'.full = s.full)
    (hle : ∀ c, s.revealed c = true → s'.revealed c = true) (hsa : SA P.n s.full)
    (hmd : k.NeedsMono → MonoDec P.n s.full) :
    ∃ t0 t0' : Table α, Computed t0 e.table s.full ∧ Computed t0' e'.table s.full ∧
      C07.Nested e.table e'.table := by
  obtain ⟨t0, hn, hkn, hag, hmi, hrun⟩ := Inv.source hmin h
  obtain ⟨t0', hn', hkn', hag', hmi', hrun'⟩ := Inv.source hmin h'
  rw [hfull] at hag'
  have hkle : KnownLe t0.known t0'.known := by
    intro c hc
    rw [hkn c] at hc
    rw [hkn' c]
    simp only [C09.Spec.knows, Bool.or_eq_true] at hc ⊢
    rcases hc with hc | hc
    · exact Or.inl hc
    · exact Or.inr (hle c hc)
  obtain ⟨r, r', h1, h2, h3, h4, h5⟩ := C07.mono_full k t0 t0' s.full (hn'.trans hn.symm) hkle hag hag'
    (by rw [hn]; exact hsa) (by rw [hn]; exact hmd) hmi
  rw [hrun] at h1
  rw [hrun'] at h2
  cases h1
  cases h2
  exact ⟨t0, t0', ⟨hmi, h4⟩, ⟨hmi', h5⟩, h3⟩

end bridge

/-! ### without `IsOrderedAddMonoid`: zero at full knowledge, undo, constructor and reset -/

section noorder
variable [AddCommGroup α] [LinearOrder α]
variable {k : Computer} {P : C09.Params} {e e' : Env α} {s s' : C09.Spec α}
variable {gap : Table α → Except Err α} {side : (Nat → α) → Prop}

theorem reward_zero_of (hg : GapFacts gap side) (hmin : P.Minimal)
    (h : C09.Inv (k.run : Table α → _) P e s) (hside : side s.full)
    (hall : ∀ c ∈ P.explorable, s.revealed c = true) : e.reward gap = .ok 0 := by
  have hz : gap e.table = .ok 0 := by
    refine hg.zero hside (by rw [h.n]; exact h.holds.ik hmin.2.1) fun c hcl => h.vals c ?_
    -- every row is known: initially, or explorable and revealed
    rw [h.known c, C09.Spec.knows, Bool.or_eq_true, List.contains_iff_mem]
    by_cases hc : c ∈ P.ik
    · exact Or.inl hc
    · exact Or.inr (hall c (C09.mem_explorable.mpr ⟨by rw [← h.n]; exact hcl, hc⟩))
  rw [reward_ok gap hz, neg_zero]

theorem env_undo_of (hg : GapFacts gap side) (h : C09.Inv (k.run : Table α → _) P e s) {a : Nat}
    {e1 e2 : Env α} {o1 o2 : StepOut α} (h1 : step k.run gap e a = .ok (e1, o1))
    (h2 : unstep k.run gap e1 a = .ok (e2, o2)) :
    EnvEq e2 e ∧ e2.actionMasks = e.actionMasks ∧ e2.state = e.state ∧ e2.done = e.done ∧
      o2.obs = e.state ∧ o2.done = e.done ∧ o2.chosen = o1.chosen ∧ e.reward gap = .ok o2.reward := by
  obtain ⟨a1, a2, a3, a4, a5, a6, a7, a8⟩ := env_undo (computer_ok k) (computer_knowledgeOnly k) h.fresh h1 h2
  exact ⟨a1, a2, a3, a4, a5, a6, a7, a8 hg.rows⟩

/-- `ComputeTotal` is discharged for the constructor's own reset; what it returns is a reachable state -/
theorem mkEnvWith_succeeds (k : Computer) {t0 : Table α} (hn : t0.n = P.n) (hP : P.WF) (hmin : P.Minimal)
    (hex : P.explorable ≠ []) (gap : Table α → Except Err α) (f g : Nat → α) :
    ∃ e, mkEnvWith (k.run : Table α → _) t0 P.ik P.budget f g = .ok e ∧
      C09.Reach (k.run : Table α → _) gap P e (C09.Spec.init f g) := by
  have H := C09.Holds.init hP f g
  obtain ⟨t2, ht2⟩ := computer_total k _ (hmin.minInfo H.n (fun _ hc => H.ik hc))
  rw [← hn] at ht2
  have he : mkEnvWith (k.run : Table α → _) t0 P.ik P.budget f g = .ok _ :=
    mkEnvWith_ok k.run (hn ▸ hP.2) ht2 (hn ▸ hex)
  exact ⟨_, he, C09.Reach.init hn he⟩

/-- reset never raises at a reachable state, whatever the new hidden game and the gap function are -/
theorem reset_real (k : Computer) (gap : Table α → Except Err α) (hP : P.WF) (hmin : P.Minimal)
    (h : C09.Reach (k.run : Table α → _) gap P e s) (f g : Nat → α) :
    ∃ e' obs, reset (k.run : Table α → _) e f g = .ok (e', obs) ∧
      C09.Reach (k.run : Table α → _) gap P e' (C09.Spec.init f g) ∧ obs = e'.state := by
  have hinv := C09.reach_inv_real k hP h
  obtain ⟨e', obs, hr⟩ := C09.reset_succeeds (C09.computer_computeTotal k hmin) hP hinv f g
  exact ⟨e', obs, hr, C09.Reach.reset h hr, (C09.Inv.reset (computer_ok k) hP hinv hr).2⟩

end noorder

/-! ### the environment clauses with their hypotheses discharged (generic in a gap with `GapFacts`) -/

section env
variable [AddCommGroup α] [LinearOrder α] [IsOrderedAddMonoid α]
variable {k : Computer} {P : C09.Params} {e e' : Env α} {s s' : C09.Spec α}
variable {gap : Table α → Except Err α} {side : (Nat → α) → Prop}

theorem reward_nonpos_of (hg : GapFacts gap side) (hmin : P.Minimal)
    (h : C09.Inv (k.run : Table α → _) P e s) (hcl : InClass k P.n s.full) (hside : side s.full) :
    ∃ r, e.reward gap = .ok r ∧ r ≤ 0 := by
  obtain ⟨t0, _, _, _, hc⟩ := Inv.computed hmin h hcl.1 hcl.2
  obtain ⟨x, hx, h0⟩ := hg.nonneg hside hc
  exact ⟨-x, reward_ok gap hx, neg_nonpos.mpr h0⟩

theorem reward_mono_of (hg : GapFacts gap side) (hmin : P.Minimal)
    (h : C09.Inv (k.run : Table α → _) P e s) (h' : C09.Inv (k.run : Table α → _) P e' s')
    (hfull : s'.full = s.full) (hle : ∀ c, s.revealed c = true → s'.revealed c = true)
    (hcl : InClass k P.n s.full) (hside : side s.full) :
    ∃ r r', e.reward gap = .ok r ∧ e'.reward gap = .ok r' ∧ r ≤ r' ∧ r' ≤ 0 := by
  obtain ⟨t0, t0', hc, hc', hn⟩ := Inv.nested hmin h h' hfull hle hcl.1 hcl.2
  obtain ⟨x, x', hx, hx', hxx⟩ := hg.mono hside hc hc' hn
  obtain ⟨y, hy, hy0⟩ := hg.nonneg hside hc'
  rw [hx'] at hy
  cases hy
  exact ⟨-x, -x', reward_ok gap hx, reward_ok gap hx', neg_le_neg hxx, neg_nonpos.mpr hy0⟩

/-- `reward_mono_of` between a state and its successor -/
theorem step_rewards_of (hg : GapFacts gap side) (hmin : P.Minimal)
    (h : C09.Inv (k.run : Table α → _) P e s) (hcl : InClass k P.n s.full) (hside : side s.full) {a : Nat} {out : StepOut α}
    (hs : step k.run gap e a = .ok (e', out)) :
    ∃ c r, P.explorable[a]? = some c ∧ C09.Inv (k.run : Table α → _) P e' (s.step c) ∧
      e'.reward gap = .ok out.reward ∧ e.reward gap = .ok r ∧ r ≤ out.reward ∧ out.reward ≤ 0 := by
  obtain ⟨c, hc, _, h', _, _, hr', _⟩ := C09.step_spec (computer_ok k) h hs
  obtain ⟨r, r', h1, h2, h3, h4⟩ := reward_mono_of (s' := s.step c) hg hmin h h' rfl
    (fun d hd => by simp [C09.Spec.step, hd]) hcl hside
  rw [hr'] at h2
  cases h2
  exact ⟨c, r, hc, h', hr', h1, h3, h4⟩

theorem step_reward_mono_of (hg : GapFacts gap side) (hmin : P.Minimal)
    (h : C09.Inv (k.run : Table α → _) P e s) (hcl : InClass k P.n s.full) (hside : side s.full) {a : Nat} {out : StepOut α}
    (hs : step k.run gap e a = .ok (e', out)) :
    ∃ r, e.reward gap = .ok r ∧ r ≤ out.reward ∧ out.reward ≤ 0 :=
  let ⟨_, r, _, _, _, h1, h2, h3⟩ := step_rewards_of hg hmin h hcl hside hs
  ⟨r, h1, h2, h3⟩

/-! #### progress without `GapTotal` (exploitability is not total, but it is defined at every reachable state) -/

/-- C01/C04 for the computer, `GapFacts.nonneg` for the gap: what C09 `step_of_defined`, `unstep_of_defined`,
    `roundtrip_of_defined` ask for -/
theorem definedOn_of_facts (hg : GapFacts gap side) (hmin : P.Minimal) {v : Nat → α}
    (hcl : InClass k P.n v) (hside : side v) : C09.DefinedOn k.run gap P v := by
  rintro s t rfl H
  have hmi := hmin.minInfo H.n (fun _ hc => H.ik hc)
  obtain ⟨t2, h1, h2⟩ := run_sound k t (by rw [H.n]; exact hcl.1) (by rw [H.n]; exact hcl.2) hmi (fun c _ => H.vals c)
  obtain ⟨x, hx, _⟩ := hg.nonneg hside ⟨hmi, h2⟩
  exact ⟨t2, x, h1, hx⟩

theorem step_succeeds_of (hg : GapFacts gap side) (hmin : P.Minimal)
    (h : C09.Inv (k.run : Table α → _) P e s) (hcl : InClass k P.n s.full) (hside : side s.full) {a : Nat}
    (hv : C09.validStep P s a = true) : ∃ e' out, step k.run gap e a = .ok (e', out) :=
  C09.step_of_defined (definedOn_of_facts hg hmin hcl hside) h hv

theorem unstep_succeeds_of (hg : GapFacts gap side) (hmin : P.Minimal)
    (h : C09.Inv (k.run : Table α → _) P e s) (hcl : InClass k P.n s.full) (hside : side s.full) {a : Nat}
    (hv : C09.validUnstep P s a = true) : ∃ e' out, unstep k.run gap e a = .ok (e', out) :=
  C09.unstep_of_defined (definedOn_of_facts hg hmin hcl hside) h hv

/-- one step from a reachable state onto a coalition not yet revealed: the call succeeds, the successor is reachable,
    and its reward — the reward the call returns — lies between the old reward and 0 -/
theorem reach_step (hg : GapFacts gap side) (k : Computer) (hP : P.WF) (hmin : P.Minimal)
    (h : C09.Reach (k.run : Table α → _) gap P e s) (hcl : InClass k P.n s.full) (hside : side s.full) {a c : Nat}
    (hc : P.explorable[a]? = some c) (hr : s.revealed c = false) :
    ∃ e' out r, step k.run gap e a = .ok (e', out) ∧ C09.Reach (k.run : Table α → _) gap P e' (s.step c) ∧
      e.reward gap = .ok r ∧ e'.reward gap = .ok out.reward ∧ r ≤ out.reward ∧ out.reward ≤ 0 := by
  have hinv := C09.reach_inv_real k hP h
  have hv : C09.validStep P s a = true := C09.validStep_iff.mpr ⟨c, hc, hr⟩
  obtain ⟨e', out, hs⟩ := step_succeeds_of hg hmin hinv hcl hside hv
  obtain ⟨_, r, _, _, hr', h1, h2, h3⟩ := step_rewards_of hg hmin hinv hcl hside hs
  exact ⟨e', out, r, hs, C09.Reach.step h hv hc hs, h1, hr', h2, h3⟩

theorem roundtrip_succeeds_of (hg : GapFacts gap side) (hmin : P.Minimal)
    (h : C09.Inv (k.run : Table α → _) P e s) (hcl : InClass k P.n s.full) (hside : side s.full) {a : Nat}
    (hv : C09.validStep P s a = true) :
    ∃ e1 o1 e2 o2, step k.run gap e a = .ok (e1, o1) ∧ unstep k.run gap e1 a = .ok (e2, o2) ∧
      C09.Inv (k.run : Table α → _) P e2 s :=
  C09.roundtrip_of_defined (computer_ok k) (definedOn_of_facts hg hmin hcl hside) h hv

theorem linStep_of (hg : GapFacts gap side) (hmin : P.Minimal)
    (h : C09.Inv (k.run : Table α → _) P e s) (hcl : InClass k P.n s.full) (hside : side s.full) {sz chosen : Nat} (hk : sz < P.n)
    (hc : chosen ∈ e.linCandidates sz) :
    ∃ (e' : Env α) (out : StepOut α) (lin : List α) (c : Nat), linStep k.run gap e sz chosen = some (.ok (e', { out with obs := lin })) ∧
      P.explorable[chosen]? = some c ∧ size c = sz ∧ s.revealed c = false ∧
      C09.Inv (k.run : Table α → _) P e' (s.step c) ∧ out.chosen = c ∧
      e'.reward gap = .ok out.reward ∧ out.reward ≤ 0 ∧ out.done = e'.done ∧ e'.linState = .ok lin := by
  obtain ⟨c, hce, hsz, hkc⟩ := C16.mem_linCandidates.mp hc
  rw [h.ex] at hce
  have hv : C09.validStep P s chosen = true :=
    C09.validStep_iff.mpr ⟨c, hce, (Bool.or_eq_false_iff.mp ((h.known c).symm.trans hkc)).2⟩
  obtain ⟨e', out, hstep⟩ := step_succeeds_of hg hmin h hcl hside hv
  obtain ⟨lin, c', h1, h2, h3, h4, h5, h6, h7, h8, h9⟩ := C16.linStep_spec (computer_ok k) h hk hc hstep
  obtain ⟨r, hr, hr0⟩ := reward_nonpos_of (s := s.step c') hg hmin h5 hcl hside
  rw [h7] at hr
  cases hr
  exact ⟨e', out, lin, c', h1, h2, h3, h4, h5, h6, h7, hr0, h8, h9⟩

end env

end ICG.Compose

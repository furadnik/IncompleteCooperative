/-
  ICG.Lemmas.RegretAvg — what `get_average_strategy` needs of the coalition → player-id map (`PidMapOK`), and its
  masked re-indexing of a row over player ids into a row over coalition ids.
-/
import ICG.Model.Regret
import ICG.Lemmas.Regret
import ICG.Lemmas.RegretNode

namespace ICG.Regret
open ICG

/-- the entries ≥ 0 of the player-id map are `0, 1, …, m-1`, in this order (the code writes −1 for a coalition that
    is not viable, so `pm[c] < 0` is how `get_average_strategy` recognises one) -/
def PidMapOK (pm : List Int) (m : Nat) : Prop :=
  pm.filter (fun p => decide (0 ≤ p)) = (List.range m).map Int.ofNat

theorem PidMapOK.mem {pm : List Int} {m i : Nat} (h : PidMapOK pm m) (hi : i < m) : Int.ofNat i ∈ pm :=
  (List.mem_filter.mp (h ▸ List.mem_map.mpr ⟨i, List.mem_range.mpr hi, rfl⟩)).1

theorem PidMapOK.toNat_lt {pm : List Int} {m : Nat} {p : Int} (h : PidMapOK pm m) (hp : p ∈ pm) (h0 : ¬ p < 0) :
    p.toNat < m := by
  have hmem : p ∈ pm.filter (fun p => decide (0 ≤ p)) :=
    List.mem_filter.mpr ⟨hp, by simpa using Int.not_lt.mp h0⟩
  rw [h, List.mem_map] at hmem
  obtain ⟨i, hi, rfl⟩ := hmem
  simpa using hi

/-- `cum[coalitions_to_player_ids] * (… > -0.5)`: the `-1` of a non-viable coalition wraps to the last entry, which the
    mask then removes — an IndexError only if `cum` is empty -/
theorem reindex_ok {α : Type} [Zero α] {pm : List Int} {m : Nat} {cum : List α} (hpm : PidMapOK pm m) (hlen : cum.length = m)
    (hm : 0 < m) :
    pm.mapM (fun p => if p < 0 then (if cum.isEmpty then Except.error Err.index else pure (0 : α))
                      else getIdx cum p.toNat)
      = .ok (pm.map (fun p => if p < 0 then (0 : α) else cum[p.toNat]?.getD 0)) := by
  apply mapM_ok
  intro p hp
  split
  · rw [if_neg (by rw [List.isEmpty_iff]; rintro rfl; exact absurd hlen.symm (Nat.ne_of_gt hm))]; rfl
  · rename_i hneg
    have hi : p.toNat < cum.length := hlen ▸ hpm.toNat_lt hp hneg
    rw [getIdx_ok hi, List.getElem?_eq_getElem hi]; rfl

theorem reindex_normalize {α : Type} [Field α] [LinearOrder α] [IsStrictOrderedRing α] {pm : List Int} {m : Nat}
    {used : List Nat} {cum : List α} (hpm : PidMapOK pm m) (hw : Weights m used cum) :
    ∃ avg, normalize (pm.map fun p => if p < 0 then (0 : α) else cum[p.toNat]?.getD 0) = .ok avg ∧
      avg.length = pm.length ∧ (∀ x ∈ avg, 0 ≤ x) ∧ avg.sum = 1 ∧
      ∀ c (hc : c < pm.length), (pm[c] < 0 ∨ pm[c].toNat ∈ used) → avg[c]? = some 0 := by
  obtain ⟨x, hx, hx0⟩ := hw.pos
  obtain ⟨i, hi, hix⟩ := List.getElem_of_mem hx
  have hnn : ∀ y ∈ pm.map (fun p => if p < 0 then (0 : α) else cum[p.toNat]?.getD 0), 0 ≤ y := by
    refine List.forall_mem_map.mpr fun p _ => ?_
    split
    · exact le_refl _
    · cases h : cum[p.toNat]? with
      | none => exact le_refl _
      | some y => exact hw.nonneg y (List.mem_of_getElem? h)
  obtain ⟨avg, hok, hl, hnn', hsum, hz⟩ := normalize_distribution hnn
    ⟨x, List.mem_map.mpr ⟨Int.ofNat i, hpm.mem (hw.len ▸ hi), by
      show (if Int.ofNat i < 0 then (0 : α) else cum[i]?.getD 0) = x
      rw [if_neg (show ¬ Int.ofNat i < 0 from Int.not_lt.mpr (Int.ofNat_zero_le i)), List.getElem?_eq_getElem hi, hix]; rfl⟩, hx0⟩
  refine ⟨avg, hok, by rw [hl, List.length_map], hnn', hsum, fun c hc hcase => hz c ?_⟩
  rw [List.getElem?_map, List.getElem?_eq_getElem hc, Option.map_some]
  rcases hcase with hneg | hmem
  · rw [if_pos hneg]
  · split
    · rfl
    · rw [hw.zero _ hmem]; rfl

end ICG.Regret

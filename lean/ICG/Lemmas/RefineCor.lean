/-
  ICG.Lemmas.RefineCor — consequences of the refinement theorems: each computer succeeds exactly on the
  `MinInfo` tables (every `n`, including 0); `sa` and `sac` return the same table; and, for every
  `k : Computer` through the frame `RefinesTo`: the output satisfies `MinInfo` and `Inv` again and holds
  the partial game of the input (`Table.SameGame`), tables holding the same game give the same result,
  computing twice changes nothing, the result depends on the known values only.
  `Computer.specLo` / `specUp` are the specification columns of `k`, `Computer.refines` /
  `compute_eq_spec` the refinement for every `k`; `table_ext` is extensionality of tables.
-/
import ICG.Lemmas.RefineSam

namespace ICG.Refine
open Table

variable {α : Type}

theorem table_ext {t s : Table α} (hn : t.n = s.n) (hk : t.known = s.known)
    (hlo : ∀ c, t.lo c = s.lo c) (hhi : ∀ c, t.hi c = s.hi c) : t = s := by
  cases t; cases s
  simp only at hn hk hlo hhi
  simp only [Table.mk.injEq]
  exact ⟨hn, hk, funext hlo, funext hhi⟩

/-- `t` and `s` hold the same partial game: same size, same flags, and the same two cells in every row
    that is not an unknown row of the game (the known rows and the rows outside the game) -/
structure _root_.ICG.Table.SameGame (t s : Table α) : Prop where
  n : t.n = s.n
  known : t.known = s.known
  rows : ∀ d, (d < 2 ^ s.n → s.known d = true) → t.lo d = s.lo d ∧ t.hi d = s.hi d

theorem _root_.ICG.Table.SameGame.inv {t s : Table α} (h : t.SameGame s) (hs : s.Inv) : t.Inv := by
  intro d hd hk
  rw [h.known] at hk; rw [h.n] at hd
  rw [(h.rows d fun _ => hk).1, (h.rows d fun _ => hk).2]
  exact hs d hd hk

/-! ### domain -/

section domain
variable [Add α] [Sub α] [LinearOrder α]

omit [Sub α] in
/-- `np.max([])`: the cached lower step raises ValueError at a singleton, whatever the table holds -/
theorem sacLowerStep_singleton (E : EnumFacts) (s : Table α) {i : Nat} (hi : i < s.n) :
    sacLowerStep s (2 ^ i) = .error .value := by
  have hc : 2 ^ i < 2 ^ s.n := Nat.pow_lt_pow_right Nat.one_lt_two hi
  have h0 : 2 ^ i ≠ 0 := Nat.ne_of_gt (Nat.two_pow_pos i)
  have : structSel s.n (2 ^ i) 1 = [] := by
    apply List.eq_nil_iff_forall_not_mem.mpr
    intro d hd
    obtain ⟨h1, h2, h3⟩ := (mem_structSel_one E hc h0).mp hd
    rcases sub_two_pow h1 with h | h
    · exact h2 h
    · exact h3 h
  unfold sacLowerStep
  simp only [this, List.map_nil]
  rfl

omit [Sub α] in
theorem singletons_known_of_sweep (E : EnumFacts) (t t1 : Table α)
    (h : sweepM sacLowerStep putLo (unknownSorted t) t = .ok t1) :
    ∀ i, i < t.n → t.known (2 ^ i) = true := by
  intro i hi
  cases hk : t.known (2 ^ i) with
  | true => rfl
  | false =>
    exfalso
    have hmem : 2 ^ i ∈ unknownSorted t :=
      ((unknownOrder_sac E t).mem _).mpr ⟨Nat.pow_lt_pow_right Nat.one_lt_two hi, hk⟩
    obtain ⟨s, v, hn, hs⟩ := sweepM_ok_step_of_inv sacLowerStep putLo (fun s => s.n = t.n)
      (fun _ _ _ h => h) _ t t1 rfl h _ hmem
    rw [sacLowerStep_singleton E s (by rw [hn]; exact hi)] at hs
    cases hs

theorem _root_.ICG.sa_not_minInfo (t : Table α) (h : ¬ MinInfo t.n t.known) : sa t = .error .assert := by
  unfold sa
  rw [if_neg (fun hp => h ((saPrecond_iff t).mp hp))]

theorem _root_.ICG.sa_defined_iff (E : EnumFacts) (t : Table α) :
    (∃ t', sa t = .ok t') ↔ MinInfo t.n t.known := by
  constructor
  · rintro ⟨t', h⟩
    by_contra hn
    rw [sa_not_minInfo t hn] at h; cases h
  · exact fun hmin => ⟨_, sa_core E t hmin⟩

omit [Sub α] in
theorem minInfo_of_sweep (E : EnumFacts) (t : Table α) (hp : sacPrecond t = true)
    (h : ∃ t1, sweepM sacLowerStep putLo (unknownSorted t) t = .ok t1) : MinInfo t.n t.known := by
  simp only [sacPrecond, grand, Bool.and_eq_true] at hp
  obtain ⟨t1, h1⟩ := h
  exact ⟨hp.1, hp.2, singletons_known_of_sweep E t t1 h1⟩

/-- the cached computer succeeds exactly on `MinInfo` tables (with ∅ and N known, an unknown singleton
    makes the lower pass fail: `sacLowerStep_singleton`) -/
theorem _root_.ICG.sac_defined_iff (E : EnumFacts) (t : Table α) :
    (∃ t', sac t = .ok t') ↔ MinInfo t.n t.known := by
  refine ⟨?_, fun hmin => ⟨_, sac_core E t hmin⟩⟩
  rintro ⟨t', h⟩
  unfold sac at h
  cases hp : sacPrecond t with
  | false => rw [hp] at h; cases h
  | true =>
    rw [hp, if_pos rfl] at h
    cases h1 : sweepM sacLowerStep putLo (unknownSorted t) t with
    | error e => simp only [h1, bind, Except.bind] at h; cases h
    | ok t1 => exact minInfo_of_sweep E t hp ⟨t1, h1⟩

/-- as for `sac`, the split pass of round 0 being `sac`'s lower pass -/
theorem _root_.ICG.sam_defined_iff (E : EnumFacts) (r : Nat) (t : Table α) :
    (∃ t', sam r t = .ok t') ↔ MinInfo t.n t.known := by
  refine ⟨?_, fun hmin => ⟨_, sam_core E r t hmin⟩⟩
  rintro ⟨t', h⟩
  unfold sam at h
  cases hp : sacPrecond t with
  | false => rw [hp] at h; cases h
  | true =>
    rw [hp, if_pos rfl] at h
    cases h1 : sweepM sacLowerStep putLo (unknownSorted t) t with
    | error e => simp only [samRound, samSplitStep_true, h1, bind, Except.bind] at h; cases h
    | ok t1 => exact minInfo_of_sweep E t hp ⟨t1, h1⟩

end domain

/-! ### a common frame for the three computers -/

section frame
variable [Add α] [Sub α] [LinearOrder α]

/-- `run` computes the row-wise specification `(LO, UP)` on `MinInfo` tables satisfying `Inv`, and the
    specification reads its value argument on known rows only -/
structure _root_.ICG.RefinesTo (run : Table α → Except Err (Table α))
    (LO UP : Nat → (Nat → Bool) → (Nat → α) → Nat → α) : Prop where
  run_ok : ∀ t : Table α, MinInfo t.n t.known → t.Inv →
    ∃ t', run t = .ok t' ∧ t'.n = t.n ∧ t'.known = t.known ∧
      (∀ c, c < 2 ^ t.n → t'.lo c = LO t.n t.known t.lo c ∧ t'.hi c = UP t.n t.known t.lo c) ∧
      (∀ c, 2 ^ t.n ≤ c → t'.lo c = t.lo c ∧ t'.hi c = t.hi c)
  lo_known : ∀ n known v c, known c = true → LO n known v c = v c
  up_known : ∀ n known v c, known c = true → UP n known v c = v c
  lo_congr : ∀ n known (v v' : Nat → α), MinInfo n known →
    (∀ c, c < 2 ^ n → known c = true → v c = v' c) → ∀ c, c < 2 ^ n → LO n known v c = LO n known v' c
  up_congr : ∀ n known (v v' : Nat → α), MinInfo n known →
    (∀ c, c < 2 ^ n → known c = true → v c = v' c) → ∀ c, c < 2 ^ n → UP n known v c = UP n known v' c

variable {run : Table α → Except Err (Table α)} {LO UP : Nat → (Nat → Bool) → (Nat → α) → Nat → α}

omit [Add α] [Sub α] [LinearOrder α] in
theorem _root_.ICG.RefinesTo.output_inv (h : RefinesTo run LO UP) (t : Table α) (hmin : MinInfo t.n t.known)
    (hinv : t.Inv) {t' : Table α} (hr : run t = .ok t') : MinInfo t'.n t'.known ∧ t'.Inv := by
  obtain ⟨t'', h1, h2, h3, h4, _⟩ := h.run_ok t hmin hinv
  rw [hr] at h1; cases h1
  refine ⟨by rw [h2, h3]; exact hmin, ?_⟩
  intro c hc hk
  rw [h2] at hc; rw [h3] at hk
  rw [(h4 c hc).1, (h4 c hc).2, h.lo_known _ _ _ _ hk, h.up_known _ _ _ _ hk]

omit [Add α] [Sub α] [LinearOrder α] in
theorem _root_.ICG.RefinesTo.knowledge_only (h : RefinesTo run LO UP) (t s : Table α)
    (hn : t.n = s.n) (hk : t.known = s.known)
    (hv : ∀ c, c < 2 ^ t.n → t.known c = true → t.lo c = s.lo c)
    (hmin : MinInfo t.n t.known) (hinvt : t.Inv) (hinvs : s.Inv) :
    ∃ t' s', run t = .ok t' ∧ run s = .ok s' ∧ t'.n = s'.n ∧ t'.known = s'.known ∧
      ∀ c, c < 2 ^ t.n → t'.lo c = s'.lo c ∧ t'.hi c = s'.hi c := by
  obtain ⟨t', h1, h2, h3, h4, _⟩ := h.run_ok t hmin hinvt
  obtain ⟨s', g1, g2, g3, g4, _⟩ := h.run_ok s (by rw [← hn, ← hk]; exact hmin) hinvs
  refine ⟨t', s', h1, g1, by rw [h2, g2, hn], by rw [h3, g3, hk], ?_⟩
  intro c hc
  rw [(h4 c hc).1, (h4 c hc).2, (g4 c (by rw [← hn]; exact hc)).1,
    (g4 c (by rw [← hn]; exact hc)).2, ← hn, ← hk]
  exact ⟨h.lo_congr _ _ _ _ hmin hv c hc, h.up_congr _ _ _ _ hmin hv c hc⟩

omit [Add α] [Sub α] [LinearOrder α] in
theorem _root_.ICG.RefinesTo.sameGame_output (h : RefinesTo run LO UP) {t t' : Table α}
    (hmin : MinInfo t.n t.known) (hinv : t.Inv) (hr : run t = .ok t') : t'.SameGame t := by
  obtain ⟨t'', h1, h2, h3, h4, h5⟩ := h.run_ok t hmin hinv
  rw [hr] at h1; cases h1
  refine ⟨h2, h3, fun d hd => ?_⟩
  by_cases hlt : d < 2 ^ t.n
  · rw [(h4 d hlt).1, (h4 d hlt).2, h.lo_known _ _ _ _ (hd hlt), h.up_known _ _ _ _ (hd hlt)]
    exact ⟨rfl, hinv d hlt (hd hlt)⟩
  · exact h5 d (Nat.le_of_not_lt hlt)

omit [Add α] [Sub α] [LinearOrder α] in
theorem _root_.ICG.RefinesTo.same_table (h : RefinesTo run LO UP) {t s : Table α} (hts : t.SameGame s)
    (hmin : MinInfo s.n s.known) (hinv : s.Inv) : ∃ t', run t = .ok t' ∧ run s = .ok t' := by
  obtain ⟨s', g1, g2, g3, g4, g5⟩ := h.run_ok s hmin hinv
  obtain ⟨t', h1, h2, h3, h4, h5⟩ := h.run_ok t (by rw [hts.n, hts.known]; exact hmin) (hts.inv hinv)
  have hv : ∀ c, c < 2 ^ t.n → t.known c = true → t.lo c = s.lo c := fun c _ hk =>
    (hts.rows c fun _ => hts.known ▸ hk).1
  have hmint : MinInfo t.n t.known := by rw [hts.n, hts.known]; exact hmin
  refine ⟨t', h1, g1.trans (congrArg _ (table_ext (by rw [g2, h2, hts.n]) (by rw [g3, h3, hts.known])
    (fun c => ?_) (fun c => ?_)))⟩
  · by_cases hc : c < 2 ^ t.n
    · rw [(g4 c (hts.n ▸ hc)).1, (h4 c hc).1, ← hts.n, ← hts.known]
      exact (h.lo_congr _ _ _ _ hmint hv c hc).symm
    · have hc' : 2 ^ s.n ≤ c := hts.n ▸ Nat.le_of_not_lt hc
      rw [(g5 c hc').1, (h5 c (Nat.le_of_not_lt hc)).1]
      exact (hts.rows c fun hlt => absurd hlt (Nat.not_lt.mpr hc')).1.symm
  · by_cases hc : c < 2 ^ t.n
    · rw [(g4 c (hts.n ▸ hc)).2, (h4 c hc).2, ← hts.n, ← hts.known]
      exact (h.up_congr _ _ _ _ hmint hv c hc).symm
    · have hc' : 2 ^ s.n ≤ c := hts.n ▸ Nat.le_of_not_lt hc
      rw [(g5 c hc').2, (h5 c (Nat.le_of_not_lt hc)).2]
      exact (hts.rows c fun hlt => absurd hlt (Nat.not_lt.mpr hc')).2.symm

omit [Add α] [Sub α] [LinearOrder α] in
theorem _root_.ICG.RefinesTo.idempotent (h : RefinesTo run LO UP) (t : Table α) (hmin : MinInfo t.n t.known)
    (hinv : t.Inv) {t' : Table α} (hr : run t = .ok t') : run t' = .ok t' := by
  obtain ⟨s, g1, g2⟩ := h.same_table (h.sameGame_output hmin hinv hr) hmin hinv
  rw [hr] at g2; cases g2
  exact g1

end frame

/-! ### the corollaries, for the registry of computers -/

section corollaries
variable [Add α] [Sub α] [LinearOrder α]

def _root_.ICG.Computer.specLo : Computer → Nat → (Nat → Bool) → (Nat → α) → Nat → α
  | .sa => fun _ => loSpec
  | .sac => fun _ => loSpec
  | .sam r => fun n known v => samB n known v r

def _root_.ICG.Computer.specUp : Computer → Nat → (Nat → Bool) → (Nat → α) → Nat → α
  | .sa => upSpec
  | .sac => upSpec
  | .sam r => fun n known v => samUp n known v r

theorem _root_.ICG.Computer.refines (E : EnumFacts) (k : Computer) :
    RefinesTo (k.run : Table α → _) k.specLo k.specUp := by
  cases k with
  | sa =>
    exact ⟨sa_eq_spec E, fun _ _ _ _ h => splitSpec_known h, fun _ _ _ _ h => upAgainst_known h,
      fun _ _ _ _ hmin hv => loSpec_congr hmin hv, fun _ _ _ _ hmin hv => upSpec_congr hmin hv⟩
  | sac =>
    exact ⟨sac_eq_spec E, fun _ _ _ _ h => splitSpec_known h, fun _ _ _ _ h => upAgainst_known h,
      fun _ _ _ _ hmin hv => loSpec_congr hmin hv, fun _ _ _ _ hmin hv => upSpec_congr hmin hv⟩
  | sam r =>
    exact ⟨sam_eq_spec E r, fun _ _ _ _ h => samB_known h, fun _ _ _ _ h => samUp_known h,
      fun _ _ _ _ hmin hv => samB_congr hmin hv r, fun _ _ _ _ hmin hv => samUp_congr hmin hv r⟩

theorem _root_.ICG.compute_eq_spec (E : EnumFacts) (k : Computer) (t : Table α) (hmin : MinInfo t.n t.known)
    (hinv : t.Inv) :
    ∃ t', k.run t = .ok t' ∧ t'.n = t.n ∧ t'.known = t.known ∧
      (∀ c, c < 2 ^ t.n → t'.lo c = k.specLo t.n t.known t.lo c ∧
        t'.hi c = k.specUp t.n t.known t.lo c) ∧
      (∀ c, 2 ^ t.n ≤ c → t'.lo c = t.lo c ∧ t'.hi c = t.hi c) :=
  (k.refines E).run_ok t hmin hinv

/-- reference and cached computer return the same table.  `Inv` is needed: for the
    known supersets `sa` reads the upper cell (`get_values`), `sac` the lower one. -/
theorem _root_.ICG.sa_sac_agree (E : EnumFacts) (t : Table α) (hmin : MinInfo t.n t.known) (hinv : t.Inv) :
    ∃ t', sa t = .ok t' ∧ sac t = .ok t' := by
  refine ⟨_, sa_core E t hmin, ?_⟩
  rw [sac_core E t hmin]
  congr 2
  funext c
  by_cases h : c < 2 ^ t.n ∧ t.known c = false
  · rw [if_pos h, if_pos h]
    exact upAgainst_congr hmin hinv (fun _ _ => rfl) c h.1
  · rw [if_neg h, if_neg h]

theorem _root_.ICG.sa_sac_agree_rows (E : EnumFacts) (t : Table α) (hmin : MinInfo t.n t.known)
    (hinv : t.Inv) :
    ∃ t1 t2, sa t = .ok t1 ∧ sac t = .ok t2 ∧
      ∀ c, c < 2 ^ t.n → t1.lo c = t2.lo c ∧ t1.hi c = t2.hi c := by
  obtain ⟨t', h1, h2⟩ := sa_sac_agree E t hmin hinv
  exact ⟨t', t', h1, h2, fun _ _ => ⟨rfl, rfl⟩⟩

theorem _root_.ICG.compute_output_inv (E : EnumFacts) (k : Computer) (t : Table α)
    (hmin : MinInfo t.n t.known) (hinv : t.Inv) {t' : Table α} (hr : k.run t = .ok t') :
    MinInfo t'.n t'.known ∧ t'.Inv :=
  (k.refines E).output_inv t hmin hinv hr

theorem _root_.ICG.compute_idempotent (E : EnumFacts) (k : Computer) (t : Table α)
    (hmin : MinInfo t.n t.known) (hinv : t.Inv) {t' : Table α} (hr : k.run t = .ok t') :
    k.run t' = .ok t' :=
  (k.refines E).idempotent t hmin hinv hr

theorem _root_.ICG.compute_knowledge_only (E : EnumFacts) (k : Computer) (t s : Table α)
    (hn : t.n = s.n) (hk : t.known = s.known)
    (hv : ∀ c, c < 2 ^ t.n → t.known c = true → t.lo c = s.lo c)
    (hmin : MinInfo t.n t.known) (hinvt : t.Inv) (hinvs : s.Inv) :
    ∃ t' s', k.run t = .ok t' ∧ k.run s = .ok s' ∧ t'.n = s'.n ∧ t'.known = s'.known ∧
      ∀ c, c < 2 ^ t.n → t'.lo c = s'.lo c ∧ t'.hi c = s'.hi c :=
  (k.refines E).knowledge_only t s hn hk hv hmin hinvt hinvs

theorem _root_.ICG.compute_same_table (E : EnumFacts) (k : Computer) {t s : Table α} (hts : t.SameGame s)
    (hmin : MinInfo s.n s.known) (hinv : s.Inv) : ∃ t', k.run t = .ok t' ∧ k.run s = .ok t' :=
  (k.refines E).same_table hts hmin hinv

theorem _root_.ICG.compute_defined_iff (E : EnumFacts) (k : Computer) (t : Table α) :
    (∃ t', k.run t = .ok t') ↔ MinInfo t.n t.known := by
  cases k with
  | sa => exact sa_defined_iff E t
  | sac => exact sac_defined_iff E t
  | sam r => exact sam_defined_iff E r t

end corollaries

end ICG.Refine

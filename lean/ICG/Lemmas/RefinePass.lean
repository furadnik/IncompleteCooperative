/-
  ICG.Lemmas.RefinePass — the three generic passes of the bound computers, each as one application of
  the sweep lemma: whatever the step function is, if it computes the right value from a table whose
  relevant rows are final, the in-place pass over a size-sorted enumeration of the unknown coalitions
  returns the table holding the specification — for every content of the rows it overwrites.
  `splitPass` (lower column, `splitSpec`: sub-coalitions are processed earlier), `closePass` (lower
  column, `closeSpec`: supersets are processed later), `hiPass` (upper column, any row-wise target).
-/
import ICG.Lemmas.Sweep
import ICG.Lemmas.SpecBasic

namespace ICG.Refine
open Table

variable {α : Type}

section passes
variable [Add α] [LinearOrder α]

/-- the split pass: sub-coalitions of the coalition being processed already hold their final value;
    the row itself and row ∅ still hold their initial value (rounds `i ≥ 1` of `sam` read both for the
    extra candidate `lo c + lo ∅`).  The step is asked for the maximum of `extra c ++ splits`, the list
    `splitSpec` is defined by. -/
theorem splitPass (E : EnumFacts) (t0 : Table α) (hmin : MinInfo t0.n t0.known)
    (extra : Nat → List α) (order : List Nat) (ho : UnknownOrder t0.n t0.known order)
    (f : Table α → Nat → Except Err α)
    (hf : ∀ (lo : Nat → α) (c : Nat) (L : Nat → α), c < 2 ^ t0.n → t0.known c = false →
      (∀ x, x &&& c = x → x ≠ 0 → x ≠ c → lo x = L x) → lo c = t0.lo c → lo 0 = t0.lo 0 →
      ∃ m, listMax? (extra c ++ (properSubs c).map fun x => L x + L (c - x)) = some m ∧
        f { t0 with lo := lo } c = .ok m) :
    sweepM f putLo order t0 = .ok
      { t0 with lo := fun c => if c < 2 ^ t0.n then splitSpec t0.known t0.lo extra c else t0.lo c } := by
  rw [← ho.ite_mem fun c hk => splitSpec_known hk]
  refine sweepM_putLo f t0 (splitSpec t0.known t0.lo extra) order fun pre c post hsplit => ?_
  obtain ⟨hc, hk⟩ := (ho.mem c).mp (mem_of_split hsplit)
  obtain ⟨m, hm, hfm⟩ := hf (fun d => if d ∈ pre then splitSpec t0.known t0.lo extra d else t0.lo d) c
    (splitSpec t0.known t0.lo extra) hc hk
    (fun x hx _ hxc => by
      cases hkx : t0.known x with
      | true =>
        rw [splitSpec_known hkx]
        exact if_neg fun hp => by rw [((ho.mem x).mp (mem_of_mem_pre hsplit hp)).2] at hkx; cases hkx
      | false =>
        exact if_pos (ho.smaller_mem_pre hsplit ((ho.mem x).mpr ⟨sub_lt_two_pow hx hc, hkx⟩)
          (E.size_lt x c hx hxc)))
    (if_neg (ho.self_not_mem_pre hsplit))
    (if_neg fun hp => by
      have := ((ho.mem 0).mp (mem_of_mem_pre hsplit hp)).2
      rw [hmin.1] at this; cases this)
  rw [hfm, splitSpec_of_max hk hm]

omit [Add α] in
/-- the superset-max pass: supersets of the coalition being processed (itself included) still hold
    their initial value. -/
theorem closePass (E : EnumFacts) (t0 : Table α)
    (order : List Nat) (ho : UnknownOrder t0.n t0.known order)
    (f : Table α → Nat → Except Err α)
    (hf : ∀ (lo : Nat → α) (c : Nat), c < 2 ^ t0.n → t0.known c = false →
      (∀ T, T < 2 ^ t0.n → c &&& T = c → lo T = t0.lo T) →
      ∃ m, listMax? ((supers t0.n c).map t0.lo) = some m ∧
        f { t0 with lo := lo } c = .ok m) :
    sweepM f putLo order t0 = .ok
      { t0 with lo := fun c =>
          if c < 2 ^ t0.n then closeSpec t0.n t0.known t0.lo t0.lo c else t0.lo c } := by
  rw [← ho.ite_mem fun c hk => closeSpec_known hk]
  refine sweepM_putLo f t0 (closeSpec t0.n t0.known t0.lo t0.lo) order fun pre c post hsplit => ?_
  obtain ⟨hc, hk⟩ := (ho.mem c).mp (mem_of_split hsplit)
  obtain ⟨m, hm, hfm⟩ := hf (fun d => if d ∈ pre then closeSpec t0.n t0.known t0.lo t0.lo d else t0.lo d)
    c hc hk fun T _ hcT => if_neg <| by
    by_cases hTc : T = c
    · rw [hTc]; exact ho.self_not_mem_pre hsplit
    · exact ho.larger_not_mem_pre hsplit (E.size_lt c T hcT (Ne.symm hTc))
  rw [hfm, closeSpec_of_max hk hm]

omit [Add α] [LinearOrder α] in
theorem hiPass (t1 : Table α) (order : List Nat)
    (hmem : ∀ c, c ∈ order ↔ c < 2 ^ t1.n ∧ t1.known c = false)
    (Q : Nat → α) (f : Table α → Nat → Except Err α)
    (hf : ∀ (hi : Nat → α) (c : Nat), c < 2 ^ t1.n → t1.known c = false →
      (∀ x, t1.known x = true → hi x = t1.hi x) → f { t1 with hi := hi } c = .ok (Q c)) :
    sweepM f putHi order t1 = .ok
      { t1 with hi := fun c => if c < 2 ^ t1.n ∧ t1.known c = false then Q c else t1.hi c } := by
  simp only [← hmem]
  refine sweepM_putHi f t1 Q order fun pre c post hsplit => ?_
  obtain ⟨hc, hk⟩ := (hmem c).mp (mem_of_split hsplit)
  refine hf (fun d => if d ∈ pre then Q d else t1.hi d) c hc hk fun x hkx => if_neg fun hp => ?_
  have := ((hmem x).mp (mem_of_mem_pre hsplit hp)).2
  rw [hkx] at this; cases this

end passes

end ICG.Refine

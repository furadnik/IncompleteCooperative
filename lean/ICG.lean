-- root of the library: every module, so that `lake build ICG` checks everything and name clashes surface
import ICG.Model.Basic
import ICG.Model.Bits
import ICG.Model.Bounds
import ICG.Model.Env
import ICG.Model.Generators
import ICG.Model.Normalize
import ICG.Model.Predicates
import ICG.Model.Regret
import ICG.Model.Search
import ICG.Model.SearchRepaired
import ICG.Model.Shapley
import ICG.Model.Store
import ICG.Model.Table
import ICG.Spec.Bounds
import ICG.Spec.EnumFacts
import ICG.Lemmas.ApproxBounds
import ICG.Lemmas.BestStates
import ICG.Lemmas.BitFacts
import ICG.Lemmas.BoundsCommon
import ICG.Lemmas.Enum
import ICG.Lemmas.EnvBasic
import ICG.Lemmas.EnvReal
import ICG.Lemmas.EnvUndo
import ICG.Lemmas.ExpectedGreedy
import ICG.Lemmas.GapMono
import ICG.Lemmas.GenFacts
import ICG.Lemmas.ListMax
import ICG.Lemmas.ListSum
import ICG.Lemmas.NormFacts
import ICG.Lemmas.Refine
import ICG.Lemmas.SpecBasic
import ICG.Lemmas.SpecSplit
import ICG.Lemmas.RefineCheck
import ICG.Lemmas.RefineCor
import ICG.Lemmas.RefinePass
import ICG.Lemmas.RefineSam
import ICG.Lemmas.Regret
import ICG.Lemmas.RegretAvg
import ICG.Lemmas.RegretHelpers
import ICG.Lemmas.RegretIter
import ICG.Lemmas.RegretNode
import ICG.Lemmas.RegretPass
import ICG.Lemmas.RegretPid
import ICG.Lemmas.RegretTree
import ICG.Lemmas.Search
import ICG.Lemmas.ShapleyBridge
import ICG.Lemmas.ShapleyOrderings
import ICG.Lemmas.ShapleySymmetry
import ICG.Lemmas.SpecSA
import ICG.Lemmas.SpecSA1
import ICG.Lemmas.SpecSA2
import ICG.Lemmas.SpecSA3
import ICG.Lemmas.SpecSAM
import ICG.Lemmas.Sweep
import ICG.Props.C01
import ICG.Props.C02
import ICG.Props.C03
import ICG.Props.C04
import ICG.Props.C05
import ICG.Props.C06
import ICG.Props.C07
import ICG.Props.C07Gaps
import ICG.Props.C07L2
import ICG.Props.C08
import ICG.Props.C09
import ICG.Props.C10
import ICG.Props.C11
import ICG.Props.C12
import ICG.Props.C13
import ICG.Props.C14
import ICG.Props.C15
import ICG.Props.C16
import ICG.Props.C17
import ICG.Props.C17Alg
import ICG.Props.C18
import ICG.Props.C18pred
import ICG.Props.C19
import ICG.Props.C19Codec
import ICG.Lemmas.CodecArr
import ICG.Lemmas.CodecMeta
import ICG.Model.Codec
import ICG.Props.C20
import ICG.Lemmas.ComposeCore
import ICG.Lemmas.ComposeSearch
import ICG.Props.Compose
import ICG.Model.Mul
import ICG.Lemmas.MulFactor
import ICG.Lemmas.MulXos
import ICG.Lemmas.MulApprox
import ICG.Lemmas.MulCompose
import ICG.Lemmas.MulPin10Game
import ICG.Lemmas.MulPin10
import ICG.Props.Mul
import ICG.Lemmas.Rounding
import ICG.Props.FloatError
import ICG.Lemmas.FloatErrorShapleyCore
import ICG.Props.FloatErrorShapley
import ICG.Lemmas.FloatErrorNormalizeCore
import ICG.Props.FloatErrorNormalize
import ICG.Props.FloatErrorNorms
import ICG.Lemmas.EquivarianceCore
import ICG.Props.Equivariance
import ICG.Driver.Bits
import ICG.Driver.Env
import ICG.Driver.Gen
import ICG.Driver.Norm
import ICG.Driver.Proto
import ICG.Driver.Rgt
import ICG.Driver.Shp
import ICG.Driver.Srch
import ICG.Driver.Store
import ICG.Driver.Codec
import ICG.Driver.Mul
import ICG.Driver.Tab
